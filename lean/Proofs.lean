import TunnelModel
import Proofs.Facts
import Proofs.Diag
import Proofs.Lemmas.Census
import Proofs.Lemmas.ClientInv
import Proofs.Lemmas.ClientOps
import Proofs.Lemmas.ClientShape
import Proofs.Lemmas.Closed
import Proofs.Lemmas.Complete
import Proofs.Lemmas.Conformance
import Proofs.Lemmas.Delivery
import Proofs.Lemmas.Emission
import Proofs.Lemmas.FlowStep
import Proofs.Lemmas.Framing
import Proofs.Lemmas.IdAlloc
import Proofs.Lemmas.Keyed
import Proofs.Lemmas.LifeAtomic
import Proofs.Lemmas.LockTable
import Proofs.Lemmas.LockEval
import Proofs.Lemmas.Lockset
import Proofs.Lemmas.ProjectionC
import Proofs.Lemmas.ProjectionS
import Proofs.Lemmas.Publish
import Proofs.Lemmas.ReadLoop
import Proofs.Lemmas.Refine
import Proofs.Lemmas.RegAtomic
import Proofs.Lemmas.Registry
import Proofs.Lemmas.Run
import Proofs.Lemmas.Server
import Proofs.Lemmas.ServerBound
import Proofs.Lemmas.ServerLocal
import Proofs.Lemmas.ServerOps
import Proofs.Lemmas.ServerShape
import Proofs.Lemmas.Teardown
import Proofs.Lemmas.TeardownC
import Proofs.Lemmas.TeardownS
import Proofs.Lemmas.Waiters
import Proofs.Props.C01
import Proofs.Props.C01b
import Proofs.Props.C02
import Proofs.Props.C03
import Proofs.Props.C03b
import Proofs.Props.C04
import Proofs.Props.C05
import Proofs.Props.C05b
import Proofs.Props.C06
import Proofs.Props.C07
import Proofs.Props.C08
import Proofs.Props.C09
import Proofs.Props.C10
import Proofs.Props.C11
import Proofs.Props.C12
import Proofs.Props.C13
import Proofs.Props.C14
import Proofs.Props.C15
import Proofs.Props.C16
import Proofs.Props.C17
import Proofs.Props.C18
