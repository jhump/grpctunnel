import Proofs.Lemmas.ServerOps
import Proofs.Lemmas.Server
import Proofs.Lemmas.Keyed
/-!
  Locality of the server endpoint model (C03): what a step on one stream emits is tagged with that stream's
  id only, handler calls and ticks never end the tunnel, and a tick only emits for streams the endpoint
  knows.  Every `Step` of a stream object emits for its own id only (`onlySid_of_step`); the endpoint
  statements follow from that and from where `Srv.step` sends a stimulus.
-/
namespace Proofs.ServerLocal
open TunnelModel TunnelModel.LFrame TunnelModel.Framing Proofs.ServerOps
open Proofs.Keyed (mem_single mem_nil)

variable {α : Type}

def Out.onlySid {α} (sid : Sid) (o : Out α) : Prop :=
  (∀ f ∈ o.frames, f.1 = sid) ∧ (∀ d ∈ o.dones, d.1 = sid)

theorem onlySid_empty (sid : Sid) : Out.onlySid sid ({} : Out α) := by
  constructor <;> intro x hx <;> cases hx

theorem onlySid_mk {sid : Sid} {fr : List (Sid × S2C α)} {dn : List (Sid × String × Res α)} {ev : List String}
    (hf : ∀ f ∈ fr, f.1 = sid) (hd : ∀ d ∈ dn, d.1 = sid) :
    Out.onlySid sid ({ frames := fr, dones := dn, events := ev } : Out α) := ⟨hf, hd⟩

theorem onlySid_add {sid : Sid} {a b : Out α} (ha : Out.onlySid sid a) (hb : Out.onlySid sid b) :
    Out.onlySid sid (a.add b) := by
  refine ⟨fun f hf => ?_, fun d hd => ?_⟩
  · rcases List.mem_append.mp hf with h | h
    · exact ha.1 f h
    · exact hb.1 f h
  · rcases List.mem_append.mp hd with h | h
    · exact ha.2 d h
    · exact hb.2 d h

theorem onlySid_events (sid : Sid) (ev : List String) : Out.onlySid sid ({ events := ev } : Out α) := by
  constructor <;> intro x hx <;> cases hx

theorem onlySid_done (sid : Sid) (op : String) (r : Res α) :
    Out.onlySid sid ({ dones := [(sid, op, r)] } : Out α) := by
  constructor
  · intro x hx; cases hx
  · intro x hx; simp at hx; rw [hx]

theorem mem_map_tag {A : Type} {sid : Sid} {g : A → S2C α} {l : List A} :
    ∀ f ∈ l.map (fun x => (sid, g x)), f.1 = sid := by
  intro f hf
  obtain ⟨x, _, hx⟩ := List.mem_map.mp hf
  rw [← hx]

theorem creditFrames_tag (sid : Sid) (s : SStream α) (credits : List Nat) :
    ∀ f ∈ s.creditFrames sid credits, f.1 = sid := by
  unfold SStream.creditFrames
  split
  · exact mem_map_tag
  · exact mem_nil

theorem finishCore_onlySid (sid : Sid) (s : SStream α) (err : Option SErr) :
    Out.onlySid sid (s.finishCore sid err).2 := by
  rw [finishCore_snd]
  split
  · exact onlySid_empty sid
  · refine onlySid_mk (fun f hf => ?_) mem_nil
    rcases List.mem_append.mp hf with hf | hf
    · split at hf
      · cases hf
      · exact mem_single f hf
    · exact mem_single f hf

theorem ccSend_onlySid (sid : Sid) (s : SStream α) (e : CtxErr) : Out.onlySid sid (ccSend sid s e).2 :=
  ccSend_elim (motive := fun r => Out.onlySid sid r.2) sid s e (fun _ => onlySid_empty sid)
    (fun _ _ _ => finishCore_onlySid ..) (fun _ _ _ => onlySid_done ..)

theorem ccRead_onlySid (sid : Sid) (s : SStream α) (e : CtxErr) : Out.onlySid sid (ccRead sid s e).2 :=
  ccRead_elim (motive := fun r => Out.onlySid sid r.2) sid s e (fun _ => onlySid_empty sid)
    (fun _ _ _ => onlySid_add (onlySid_done ..) (finishCore_onlySid ..)) (fun _ _ _ => onlySid_done ..)

theorem cancelCtx_onlySid (sid : Sid) (s : SStream α) (e : CtxErr) :
    Out.onlySid sid (s.cancelCtx sid e).2 := by
  rw [cancelCtx_snd]
  split
  · exact onlySid_empty sid
  · exact onlySid_add (onlySid_add (onlySid_events ..) (ccSend_onlySid ..)) (ccRead_onlySid ..)

theorem finish_onlySid (sid : Sid) (s : SStream α) (err : Option SErr) (byLoop : Bool) :
    Out.onlySid sid (s.finish sid err byLoop).2 := by
  rw [finish_eq]
  exact onlySid_add (cancelCtx_onlySid ..) (finishCore_onlySid ..)

theorem onlySid_of_step {pumps : Bool} {cfg : SCfg} {sid : Sid} {a b : SStream α} {o : Out α}
    (h : Step pumps cfg sid a b o) : Out.onlySid sid o := by
  induction h with
  | seq _ _ ih₁ ih₂ => exact onlySid_add ih₁ ih₂
  | finish s err b => exact finish_onlySid sid s err b
  | retFinish s keep err => exact finish_onlySid sid _ err false
  | cancelCtx s e => exact cancelCtx_onlySid sid s e
  | dropSend _ _ _ ih => exact onlySid_mk ih.1 (fun d hd => ih.2 d (List.mem_filter.mp hd).1)
  | sentAll => exact onlySid_mk mem_map_tag mem_single
  | sendAborted => exact onlySid_mk mem_map_tag mem_single
  | sendPending => exact onlySid_mk mem_map_tag mem_nil
  | drained s p rwin q credits => exact onlySid_mk (creditFrames_tag sid s credits) mem_nil
  | hdr => exact onlySid_mk mem_single mem_nil
  | sendHeader => exact onlySid_mk mem_single mem_single
  | refl | halfClose | readPending | decoded | readStarted | window | accepted | wedged | queued | counted | event =>
    exact onlySid_mk mem_nil mem_nil
  | _ => exact onlySid_mk mem_nil mem_single

theorem startRecv_onlySid (sid : Sid) (s : SStream α) : Out.onlySid sid (s.startRecv sid).2 :=
  onlySid_of_step (pumps := false) (cfg := {}) (Step.startRecv s)

theorem SStream_onFrame_onlySid (cfg : SCfg) (sid : Sid) (s : SStream α) (f : C2S α) :
    Out.onlySid sid (s.onFrame cfg sid f).2 :=
  onlySid_of_step (Step.onFrame s f (fun _ => rfl))

theorem SStream_onCall_onlySid (cfg : SCfg) (sid : Sid) (s : SStream α) (c : HCall α) :
    Out.onlySid sid (s.onCall cfg sid c).2 :=
  onlySid_of_step (Step.onCall s c (fun _ => rfl))

theorem serveReturns_returned (s : Srv α) (err : Option String) :
    (s.serveReturns err).1.returned = some err := by
  rw [serveReturns_eq]

theorem rejectFrame_onlySid (sid : Sid) (code : Nat) (msg : String) :
    Out.onlySid sid (rejectFrame sid code msg : Out α) :=
  onlySid_mk mem_single mem_nil

/-- `hok`: a frame that ends the tunnel (`serveReturns`) cancels, and so speaks for, every stream. -/
theorem onFrame_local (cfg : SCfg) (s : Srv α) (sid : Sid) (f : C2S α)
    (hok : (s.onFrame cfg sid f).1.returned = none) : Out.onlySid sid (s.onFrame cfg sid f).2 := by
  revert hok
  refine ServerOps.Srv.onFrame_elim (motive := fun r => r.1.returned = none → Out.onlySid sid r.2) cfg s sid f
    (fun _ => onlySid_empty sid) (fun tag _ h => ?_) (fun _ _ _ _ => rejectFrame_onlySid ..)
    (fun st _ _ _ _ _ _ _ _ => ?_) (fun _ _ _ => SStream_onFrame_onlySid ..)
  · rw [serveReturns_returned] at h; cases h
  · split
    · exact startRecv_onlySid ..
    · exact onlySid_events ..

theorem frame_local (cfg : SCfg) (s : Srv α) (sid : Sid) (f : C2S α) (st : SStream α)
    (hret : s.returned = none) (hnew : ∀ m md rev win, f ≠ .newStream m md rev win)
    (hst : s.getStream sid = some st) :
    Out.onlySid sid (s.onFrame cfg sid f).2 :=
  onFrame_local cfg s sid f (by rw [Srv.onFrame_other cfg s sid hnew, hret, hst]; exact hret)

theorem newStream_local (cfg : SCfg) (s : Srv α) (sid : Sid) (m : List Nat) (md : MD) (rev : Int) (win : Nat)
    (_hret : s.returned = none)
    (hok : (s.onFrame cfg sid (.newStream m md rev win)).1.returned = none) :
    Out.onlySid sid (s.onFrame cfg sid (.newStream m md rev win)).2 :=
  onFrame_local cfg s sid _ hok

theorem call_local (cfg : SCfg) (s : Srv α) (sid : Sid) (c : HCall α) :
    Out.onlySid sid (s.onCall cfg sid c).2 := by
  rw [Srv.onCall_eq]
  split
  · exact onlySid_events ..
  · exact SStream_onCall_onlySid ..

theorem setAny_keeps_others (s : Srv α) (sid : Sid) (st' : SStream α) :
    ∀ e ∈ s.streams, e.1 ≠ sid → e ∈ (s.setAny sid st').streams :=
  fun _ he hne => mem_setAny.mpr (Or.inl ⟨he, hne⟩)

theorem call_state_local (cfg : SCfg) (s : Srv α) (sid : Sid) (c : HCall α) :
    (s.onCall cfg sid c).1.returned = s.returned ∧ (s.onCall cfg sid c).1.lastSeen = s.lastSeen ∧
    (s.onCall cfg sid c).1.closing = s.closing ∧
    ∀ e ∈ s.streams, e.1 ≠ sid → e ∈ (s.onCall cfg sid c).1.streams := by
  rw [Srv.onCall_eq]
  split
  · exact ⟨rfl, rfl, rfl, fun e he _ => he⟩
  · exact ⟨rfl, rfl, rfl, setAny_keeps_others s sid _⟩

theorem call_never_ends_tunnel (cfg : SCfg) (s : Srv α) (sid : Sid) (c : HCall α) :
    (s.onCall cfg sid c).1.returned = s.returned := (call_state_local cfg s sid c).1

theorem tick_never_ends_tunnel (s : Srv α) (d : Nat) : (s.tick d).1.returned = s.returned := by
  rw [tick_eq]

theorem tickOne_onlySid (now : Nat) (sid : Sid) (st : SStream α) : Out.onlySid sid (tickOne now sid st).2 := by
  rcases tickOne_cases now sid st with h | h
  · rw [h]; exact onlySid_empty sid
  · rw [h]; exact cancelCtx_onlySid ..

theorem goGen_emits_known (g : Sid → SStream α → SStream α × Out α)
    (hg : ∀ sid st, Out.onlySid sid (g sid st).2) (l : List (Sid × SStream α)) :
    (∀ f ∈ (goGen g l).2.frames, f.1 ∈ l.map (·.1)) ∧ (∀ d ∈ (goGen g l).2.dones, d.1 ∈ l.map (·.1)) := by
  induction l with
  | nil => exact ⟨fun f hf => (by cases hf), fun d hd => (by cases hd)⟩
  | cons e rest ih =>
    simp only [goGen, Out.add, List.map_cons, List.mem_cons, List.mem_append]
    refine ⟨fun f hf => ?_, fun d hd => ?_⟩
    · rcases hf with h | h
      · exact Or.inl ((hg e.1 e.2).1 f h)
      · exact Or.inr (ih.1 f h)
    · rcases hd with h | h
      · exact Or.inl ((hg e.1 e.2).2 d h)
      · exact Or.inr (ih.2 d h)

theorem tick_emits_known (s : Srv α) (d : Nat) :
    (∀ f ∈ (s.tick d).2.frames, f.1 ∈ s.streams.map (·.1)) ∧
    (∀ x ∈ (s.tick d).2.dones, x.1 ∈ s.streams.map (·.1)) := by
  rw [tick_eq]
  exact goGen_emits_known _ (tickOne_onlySid _) s.streams

-- non-vacuity: a refused new_stream (empty method) on a fresh endpoint keeps the tunnel up and emits for its own id only
example :
    (({} : Srv Nat).onFrame {} 0 (.newStream [] [] 1 65536)).1.returned = none ∧
    ((({} : Srv Nat).onFrame {} 0 (.newStream [] [] 1 65536)).2.frames.map (·.1)) = [0] := by decide

end Proofs.ServerLocal

#print axioms Proofs.ServerLocal.SStream_onFrame_onlySid
#print axioms Proofs.ServerLocal.SStream_onCall_onlySid
#print axioms Proofs.ServerLocal.frame_local
#print axioms Proofs.ServerLocal.call_local
#print axioms Proofs.ServerLocal.newStream_local
#print axioms Proofs.ServerLocal.call_state_local
#print axioms Proofs.ServerLocal.call_never_ends_tunnel
#print axioms Proofs.ServerLocal.tick_never_ends_tunnel
#print axioms Proofs.ServerLocal.tick_emits_known
