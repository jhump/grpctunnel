import Proofs.Lemmas.ServerOps
import Proofs.Lemmas.Server
import Proofs.Lemmas.Keyed
import Proofs.Lemmas.TeardownS
import Proofs.Lemmas.Conformance
/-!
  # Projection (lifting) theorem for the server endpoint

  The stream-level theorems are statements about `SStream.runEv cfg sid s0 evs` for all event lists.
  Here they are made to apply to a tunnel with any number of concurrent RPCs: every stream object of a
  reachable endpoint state is the result of such a run, on the object `createStream` installed, of the
  events the endpoint run meant for that stream (`evsOf`), and what the endpoint emitted under that id is
  what the stream-level run emitted (`step_proj`, `run_proj` from any state with unique ids; `projection`
  and `projection_fresh` for runs from `{}`).

  Frames and completions are projected exactly.  The `events` strings carry the id inside formatted text
  and the endpoint adds events of its own (`serve-returned …`, `entered …`, `no-such-stream …`), so for
  them only this is proved: the stream-level events are a subsequence of the endpoint's, in order.

  Which events are extracted: exactly the handler calls addressed to the stream (`proj_calls`); exactly
  the frames addressed to it while it is alive (`proj_frames`; not all frames addressed to it, see the
  counterexample in the examples); at most one context end (`proj_ctx_at_most_once`).  A context end is
  extracted not only for `.carrierEnds` but for every stimulus that makes `serve` return
  (`already_exists`, `already_used`, `never_created`).
-/

namespace Proofs.ProjectionS
open TunnelModel TunnelModel.LFrame TunnelModel.Framing
open Proofs.Server (ids SInv sinv_init sinv_step sinv_run)
open Proofs.ServerLocal
open Proofs.Keyed
open Proofs.ServerOps (tickOne tickOne_cases goGen goGen_snd serveReturns_eq tick_eq getStream_mem mem_setAny
  cancelCtx_of_done createStream_elim serveReturns_mem step_mem step_frame step_call step_tick step_carrierEnds
  Srv.onFrame_other Srv.onFrame_newStream Srv.onCall_eq run_cons run_append runEv_cons runEv_append runEv_keeps
  Fresh)

variable {α : Type}

/-- The context-end event for `sid`: only if its stream object exists and its context has not ended.
    The model calls `cancelCtx` unconditionally, which on an ended context does nothing
    (`cancelCtx_of_done`). -/
def ctxEv (s : Srv α) (sid : Sid) (e : CtxErr) : List (SEv α) :=
  match s.getAny sid with
  | some st => if st.ctxDone.isNone then [.ctx e] else []
  | none => []

/-- The stream-level event (none or one) that a stimulus means for the stream object of `sid` in endpoint
    state `s`, following `Srv.step` case by case:
    - `new_stream` for `sid'`: an id violation (`sid'` in the table, or not above the high-water mark, in
      particular a second `new_stream` for `sid` itself) runs `serveReturns`, which ends the context;
      otherwise (accepted, or refused with a close frame for `sid'`) nothing;
    - another frame for `sid'`: in the table, it is delivered if `sid' = sid`; not in the table, it is
      dropped if `sid' ≤ lastSeen` (a finished RPC), else `never_created` runs `serveReturns`;
    - a handler call for `sid` is delivered whether or not the stream is still in the table (`Srv.onCall`
      uses `getAny`: the handler of a finished RPC may still be running). -/
def evOf (sid : Sid) (s : Srv α) : SStim α → List (SEv α)
  | .frame sid' f =>
    if s.returned.isSome then []
    else
      match f with
      | .newStream .. =>
        if s.table.contains sid' then ctxEv s sid .canceled
        else if sid' ≤ s.lastSeen then ctxEv s sid .canceled
        else []
      | f =>
        match s.getStream sid' with
        | some _ => if sid' = sid then [.frame f] else []
        | none => if sid' ≤ s.lastSeen then [] else ctxEv s sid .canceled
  | .call sid' c => if sid' = sid then [.call c] else []
  | .tick d =>
    match s.getAny sid with
    | some st =>
      match st.deadline with
      | some dl => if dl ≤ s.now + d ∧ st.ctxDone.isNone then [.ctx .deadline] else []
      | none => []
    | none => []
  | .closing _ => []
  | .carrierEnds _ => if s.returned.isSome then [] else ctxEv s sid .canceled

def evsOf (cfg : SCfg) (sid : Sid) : Srv α → List (SStim α) → List (SEv α)
  | _, [] => []
  | s, x :: xs => evOf sid s x ++ evsOf cfg sid (s.step cfg x).1 xs

def framesFor (sid : Sid) (os : List (Out α)) : List (Sid × S2C α) :=
  os.flatMap (fun o => o.frames.filter (fun f => f.1 == sid))

def donesFor (sid : Sid) (os : List (Out α)) : List (Sid × String × Res α) :=
  os.flatMap (fun o => o.dones.filter (fun d => d.1 == sid))

def outFrames (os : List (Out α)) : List (Sid × S2C α) := os.flatMap (·.frames)
def outDones (os : List (Out α)) : List (Sid × String × Res α) := os.flatMap (·.dones)
def outEvents (os : List (Out α)) : List String := os.flatMap (·.events)

def callOf : SEv α → Option (HCall α) | .call c => some c | _ => none
def frameOf : SEv α → Option (C2S α) | .frame f => some f | _ => none
def ctxOf : SEv α → Option CtxErr | .ctx e => some e | _ => none

def callTo (sid : Sid) : SStim α → Option (HCall α)
  | .call sid' c => if sid' = sid then some c else none
  | _ => none

def frameTo (sid : Sid) : SStim α → Option (C2S α)
  | .frame sid' f => if sid' = sid then (match f with | .newStream .. => none | f => some f) else none
  | _ => none

/-- frames reach the stream object of `sid`: `serve` has not returned and `sid` is in the table -/
def alive (s : Srv α) (sid : Sid) : Bool := s.returned.isNone && (s.getStream sid).isSome

def liveFrames (cfg : SCfg) (sid : Sid) : Srv α → List (SStim α) → List (C2S α)
  | _, [] => []
  | s, x :: xs => (if alive s sid then (frameTo sid x).toList else []) ++ liveFrames cfg sid (s.step cfg x).1 xs

theorem filter_id {s : Srv α} (hinv : SInv s) {sid : Sid} {st : SStream α} (hmem : (sid, st) ∈ s.streams) :
    s.streams.filter (fun e => e.1 == sid) = [(sid, st)] := by
  have h := flatMap_filter_key (g := fun e => [e]) (fun e f hf => by rw [List.mem_singleton.mp hf]) s.streams
    (hinv.2.imp Int.ne_of_lt) hmem
  rwa [List.flatMap_singleton'] at h

theorem getAny_of_mem (s : Srv α) (hinv : SInv s) (sid : Sid) (st : SStream α) (hmem : (sid, st) ∈ s.streams) :
    s.getAny sid = some st := by
  rw [Srv.getAny, ← List.head?_filter, filter_id hinv hmem]
  rfl

theorem getStream_of_mem (s : Srv α) (hinv : SInv s) (sid : Sid) (st : SStream α) (hmem : (sid, st) ∈ s.streams) :
    s.getStream sid = if st.inTable then some st else none := by
  have h := List.find?_filter (xs := s.streams) (p := fun e => e.1 == sid) (q := fun e => e.2.inTable)
  simp only [Bool.decide_and, Bool.decide_eq_true] at h
  rw [Srv.getStream, ← h, filter_id hinv hmem, List.find?_singleton]
  cases st.inTable <;> rfl

theorem mem_unique (s : Srv α) (hinv : SInv s) (sid : Sid) (a b : SStream α)
    (ha : (sid, a) ∈ s.streams) (hb : (sid, b) ∈ s.streams) : a = b :=
  Option.some.inj ((getAny_of_mem s hinv sid a ha).symm.trans (getAny_of_mem s hinv sid b hb))

theorem mem_ids {s : Srv α} {sid : Sid} {st : SStream α} (h : (sid, st) ∈ s.streams) : sid ∈ ids s :=
  List.mem_map.mpr ⟨(sid, st), h, rfl⟩

theorem exists_of_mem_ids {s : Srv α} {sid : Sid} (h : sid ∈ ids s) : ∃ st, (sid, st) ∈ s.streams := by
  obtain ⟨e, he, rfl⟩ := List.mem_map.mp h
  exact ⟨e.2, he⟩

theorem goGen_own (g : Sid → SStream α → SStream α × Out α) (hg : ∀ sid st, Out.onlySid sid (g sid st).2)
    {l : List (Sid × SStream α)} (hnd : (l.map (·.1)).Pairwise (· < ·)) {sid : Sid} {st : SStream α}
    (hmem : (sid, st) ∈ l) :
    (goGen g l).2.frames.filter (fun f => f.1 == sid) = (g sid st).2.frames ∧
    (goGen g l).2.dones.filter (fun d => d.1 == sid) = (g sid st).2.dones ∧
    (g sid st).2.events.Sublist (goGen g l).2.events := by
  have hne := hnd.imp (fun h => Int.ne_of_lt h)
  rw [goGen_snd, Proofs.ServerOps.Out.concat_frames, Proofs.ServerOps.Out.concat_dones,
    Proofs.ServerOps.Out.concat_events, List.flatMap_map, List.flatMap_map, List.flatMap_map]
  refine ⟨flatMap_filter_key (g := fun e => (g e.1 e.2).2.frames) (fun e => (hg e.1 e.2).1) l hne hmem,
    flatMap_filter_key (g := fun e => (g e.1 e.2).2.dones) (fun e => (hg e.1 e.2).2) l hne hmem, ?_⟩
  rw [List.flatMap_def]
  exact List.sublist_flatten_of_mem (List.mem_map.mpr ⟨(sid, st), hmem, rfl⟩)

/-- the endpoint result `r` contains the stream object `q.1` under `sid`, and what it emitted
    for `sid` is the stream-level output `q.2` -/
structure Local (sid : Sid) (r : Srv α × Out α) (q : SStream α × Out α) : Prop where
  mem : (sid, q.1) ∈ r.1.streams
  frames : r.2.frames.filter (fun f => f.1 == sid) = q.2.frames
  dones : r.2.dones.filter (fun d => d.1 == sid) = q.2.dones
  events : q.2.events.Sublist r.2.events

theorem local_keep {sid sid' : Sid} {st : SStream α} {r : Srv α × Out α} (hmem : (sid, st) ∈ r.1.streams)
    (ho : Out.onlySid sid' r.2) (hne : sid' ≠ sid) : Local sid r (st, {}) :=
  ⟨hmem, filter_eq_nil_of_tag ho.1 hne, filter_eq_nil_of_tag ho.2 hne, List.nil_sublist _⟩

theorem local_id {sid : Sid} {st : SStream α} {s : Srv α} (hmem : (sid, st) ∈ s.streams) :
    Local sid (s, ({} : Out α)) (st, {}) :=
  ⟨hmem, rfl, rfl, List.nil_sublist _⟩

theorem local_own {sid : Sid} {st' : SStream α} {r : Srv α × Out α} (hmem : (sid, st') ∈ r.1.streams)
    (ho : Out.onlySid sid r.2) : Local sid r (st', r.2) :=
  ⟨hmem, filter_eq_self_of_tag ho.1, filter_eq_self_of_tag ho.2, List.Sublist.refl _⟩

theorem local_setAny_self {sid : Sid} {st st' : SStream α} {s : Srv α} {o : Out α}
    (hmem : (sid, st) ∈ s.streams) (ho : Out.onlySid sid o) : Local sid (s.setAny sid st', o) (st', o) :=
  local_own (r := (s.setAny sid st', o)) (mem_setAny.mpr (Or.inr ⟨rfl, mem_ids hmem⟩)) ho

theorem local_setAny_other {sid sid' : Sid} {st st' : SStream α} {s : Srv α} {o : Out α}
    (hmem : (sid, st) ∈ s.streams) (ho : Out.onlySid sid' o) (hne : sid' ≠ sid) :
    Local sid (s.setAny sid' st', o) (st, {}) :=
  local_keep (mem_setAny.mpr (Or.inl ⟨hmem, hne.symm⟩)) ho hne

theorem local_serveReturns {sid : Sid} {st : SStream α} {s : Srv α} (hinv : SInv s)
    (hmem : (sid, st) ∈ s.streams) (err : Option String) :
    Local sid (s.serveReturns err) (st.cancelCtx sid .canceled) := by
  have h := goGen_own (fun sid st => st.cancelCtx sid .canceled) (fun sid st => cancelCtx_onlySid sid st _)
    hinv.2 hmem
  rw [serveReturns_eq]
  exact ⟨List.mem_map.mpr ⟨(sid, st), hmem, rfl⟩, (congrArg _ (List.append_nil _)).trans h.1,
    (congrArg _ (List.append_nil _)).trans h.2.1, h.2.2.trans (List.sublist_append_left _ _)⟩

theorem local_tick {sid : Sid} {st : SStream α} {s : Srv α} (hinv : SInv s)
    (hmem : (sid, st) ∈ s.streams) (d : Nat) :
    Local sid (s.tick d) (tickOne (s.now + d) sid st) := by
  have h := goGen_own (tickOne (s.now + d)) (tickOne_onlySid (s.now + d)) hinv.2 hmem
  rw [tick_eq]
  exact ⟨List.mem_map.mpr ⟨(sid, st), hmem, rfl⟩, h.1, h.2.1, h.2.2⟩

/-- as `Local`, with a stream-level run `q` (no event, or one) in place of a single result -/
structure Proj (sid : Sid) (r : Srv α × Out α) (q : SStream α × List (Out α)) : Prop where
  mem : (sid, q.1) ∈ r.1.streams
  frames : r.2.frames.filter (fun f => f.1 == sid) = outFrames q.2
  dones : r.2.dones.filter (fun d => d.1 == sid) = outDones q.2
  events : (outEvents q.2).Sublist r.2.events

theorem Local.nil {sid : Sid} {st : SStream α} {r : Srv α × Out α} (cfg : SCfg)
    (h : Local sid r (st, {})) : Proj sid r (SStream.runEv cfg sid st []) :=
  ⟨h.mem, h.frames, h.dones, List.nil_sublist _⟩

theorem Local.one {sid : Sid} {st : SStream α} {r : Srv α × Out α} (cfg : SCfg) (ev : SEv α)
    (h : Local sid r (st.stepEv cfg sid ev)) : Proj sid r (SStream.runEv cfg sid st [ev]) := by
  refine ⟨h.mem, h.frames.trans (List.append_nil _).symm, h.dones.trans (List.append_nil _).symm, ?_⟩
  show ((st.stepEv cfg sid ev).2.events ++ []).Sublist _
  rw [List.append_nil]
  exact h.events

theorem Local.ctx {sid : Sid} {st : SStream α} {r : Srv α × Out α} (cfg : SCfg) (s : Srv α) (e : CtxErr)
    (hget : s.getAny sid = some st) (h : Local sid r (st.cancelCtx sid e)) :
    Proj sid r (SStream.runEv cfg sid st (ctxEv s sid e)) := by
  simp only [ctxEv, hget]
  cases hc : st.ctxDone with
  | none => exact Local.one cfg (.ctx e) h
  | some c =>
    rw [cancelCtx_of_done sid e (by rw [hc]; rfl)] at h
    exact Local.nil cfg h

/-- What the receive loop does with a frame, together with what `evOf` extracts from it for `sid`; the two
    follow the same cases.  In `ignored`, `ends` and `created` (a `new_stream` with a new id, refused or
    accepted: the existing objects stay, the output is under the new id only) the frame does not reach
    `sid` (`frameTo`, `alive`). -/
theorem frame_elim {motive : Srv α × Out α → List (SEv α) → Prop} (cfg : SCfg) (s : Srv α) (sid sid' : Sid)
    (f : C2S α)
    (ignored : frameTo sid (.frame sid' f) = none ∨ alive s sid = false → motive (s, {}) [])
    (ends : frameTo sid (.frame sid' f) = none ∨ alive s sid = false → ∀ tag,
      motive (s.serveReturns (some tag)) (ctxEv s sid .canceled))
    (created : frameTo sid (.frame sid' f) = none ∨ alive s sid = false → ∀ r : Srv α × Out α,
      (∀ e ∈ s.streams, e ∈ r.1.streams) → Out.onlySid sid' r.2 → s.lastSeen < sid' → motive r [])
    (own : ∀ st1, s.returned = none → s.getStream sid' = some st1 →
      frameTo sid (.frame sid' f) = (if sid' = sid then some f else none) →
      motive (s.setAny sid' (st1.onFrame cfg sid' f).1, (st1.onFrame cfg sid' f).2)
        (if sid' = sid then [.frame f] else [])) :
    motive (s.onFrame cfg sid' f) (evOf sid s (.frame sid' f)) := by
  cases hret : s.returned with
  | some v =>
    have hr : s.returned.isSome = true := by rw [hret]; rfl
    rw [show evOf sid s (.frame sid' f) = [] from if_pos hr, Proofs.Teardown.returned_ignores_frames cfg s sid' f hr]
    exact ignored (Or.inr (by rw [alive, hret]; rfl))
  | none =>
    have hr : ¬ s.returned.isSome = true := by rw [hret]; exact Bool.false_ne_true
    by_cases hnew : ∃ m md rev win, f = .newStream m md rev win
    · obtain ⟨m, md, rev, win, rfl⟩ := hnew
      have hq : frameTo sid (.frame sid' (.newStream m md rev win) : SStim α) = none ∨ alive s sid = false :=
        Or.inl (ite_self none)
      have he : evOf sid s (.frame sid' (.newStream m md rev win)) =
          if s.table.contains sid' then ctxEv s sid .canceled
          else if sid' ≤ s.lastSeen then ctxEv s sid .canceled else [] := if_neg hr
      have hok : s.table.contains sid' = false → s.lastSeen < sid' →
          evOf sid s (.frame sid' (.newStream m md rev win)) = [] := by
        intro h1 h2
        rw [he, if_neg (by rw [h1]; exact Bool.false_ne_true), if_neg (Int.not_le.mpr h2)]
      rw [Srv.onFrame_newStream, if_neg hr]
      refine createStream_elim (motive := fun r => motive r (evOf sid s (.frame sid' (.newStream m md rev win))))
        cfg s sid' m md rev win ?_ ?_ ?_
      · rintro tag (⟨_, h1⟩ | ⟨_, h1, h2⟩)
        · rw [he, if_pos h1]; exact ends hq tag
        · rw [he, if_neg (by rw [h1]; exact Bool.false_ne_true), if_pos h2]; exact ends hq tag
      · intro code msg h1 h2 _
        rw [hok h1 h2]
        exact created hq _ (fun _ h => h) (rejectFrame_onlySid ..) h2
      · intro st0 _ _ h1 h2 _ _ _ _
        rw [hok h1 h2]
        by_cases hu : st0.unary = true
        · rw [if_pos hu]
          exact created hq _ (fun _ h => List.mem_append_left _ h) (startRecv_onlySid ..) h2
        · rw [if_neg hu]
          exact created hq _ (fun _ h => List.mem_append_left _ h) (onlySid_events ..) h2
    · have hnew' : ∀ m md rev win, f ≠ .newStream m md rev win := fun m md rev win h => hnew ⟨m, md, rev, win, h⟩
      have hf : frameTo sid (.frame sid' f) = if sid' = sid then some f else none := by
        cases f with
        | newStream m md rev win => exact absurd rfl (hnew' m md rev win)
        | _ => rfl
      have he : evOf sid s (.frame sid' f) =
          match s.getStream sid' with
          | some _ => if sid' = sid then [.frame f] else []
          | none => if sid' ≤ s.lastSeen then [] else ctxEv s sid .canceled := by
        cases f with
        | newStream m md rev win => exact absurd rfl (hnew' m md rev win)
        | _ => exact if_neg hr
      rw [Srv.onFrame_other cfg s sid' hnew', if_neg hr, he]
      cases hgs : s.getStream sid' with
      | some st1 => exact own st1 hret hgs hf
      | none =>
        have hq : frameTo sid (.frame sid' f) = none ∨ alive s sid = false := by
          by_cases hs : sid' = sid
          · subst hs; exact Or.inr (by rw [alive, hgs]; exact Bool.and_false _)
          · exact Or.inl (by rw [hf, if_neg hs])
        dsimp only
        by_cases hl : sid' ≤ s.lastSeen
        · rw [if_pos hl, if_pos hl]; exact ignored hq
        · rw [if_neg hl, if_neg hl]; exact ends hq _

theorem evOf_call (sid : Sid) (s : Srv α) (sid' : Sid) (c : HCall α) :
    evOf sid s (.call sid' c) = if sid' = sid then [.call c] else [] := rfl

/-- when the deadline has passed the model calls `cancelCtx`, which on an ended context does nothing: the
    condition `ctxDone.isNone` in `evOf` -/
theorem tick_cases (sid : Sid) (s : Srv α) (d : Nat) :
    (evOf sid s (.tick d) = [] ∧ ∀ st, s.getAny sid = some st → tickOne (s.now + d) sid st = (st, {})) ∨
    (evOf sid s (.tick d) = ctxEv s sid .deadline ∧
      ∀ st, s.getAny sid = some st → tickOne (s.now + d) sid st = st.cancelCtx sid .deadline) := by
  unfold evOf ctxEv tickOne
  cases s.getAny sid with
  | none => exact Or.inl ⟨rfl, fun _ h => by cases h⟩
  | some st =>
    dsimp only
    cases hd : st.deadline with
    | none => exact Or.inl ⟨rfl, fun _ h => by cases h; rw [hd]⟩
    | some dl =>
      dsimp only
      by_cases hle : dl ≤ s.now + d
      · refine Or.inr ⟨?_, fun _ h => by cases h; rw [hd]; exact if_pos hle⟩
        simp only [hle, true_and]
      · exact Or.inl ⟨if_neg (fun h => hle h.1), fun _ h => by cases h; rw [hd]; exact if_neg hle⟩

theorem evOf_carrierEnds (sid : Sid) (s : Srv α) (err : Option String) :
    evOf sid s (.carrierEnds err) = if s.returned.isSome then [] else ctxEv s sid .canceled := rfl

/-- What an endpoint step does to the stream object of `sid` and emits for `sid`
    is the stream-level run of `evOf sid s x` (no event, or one) on that object. -/
theorem step_proj (cfg : SCfg) (s : Srv α) (hinv : SInv s) (sid : Sid) (st : SStream α)
    (hmem : (sid, st) ∈ s.streams) (x : SStim α) :
    Proj sid (s.step cfg x) (SStream.runEv cfg sid st (evOf sid s x)) := by
  have hget := getAny_of_mem s hinv sid st hmem
  have hkeep : Proj sid (s, {}) (SStream.runEv cfg sid st []) := Local.nil cfg (local_id hmem)
  have hret : ∀ err, Proj sid (s.serveReturns err) (SStream.runEv cfg sid st (ctxEv s sid .canceled)) :=
    fun err => Local.ctx cfg s _ hget (local_serveReturns hinv hmem err)
  cases x with
  | frame sid' f =>
    rw [step_frame]
    refine frame_elim (motive := fun r evs => Proj sid r (SStream.runEv cfg sid st evs)) cfg s sid sid' f
      (fun _ => hkeep) (fun _ _ => hret _) (fun _ r hsub ho hlt => ?_) (fun st1 _ hgs _ => ?_)
    · -- the new id is above the high-water mark, hence not the id of an existing object
      refine Local.nil cfg (local_keep (hsub _ hmem) ho ?_)
      rintro rfl
      exact Int.not_le.mpr hlt (hinv.1 _ (mem_ids hmem))
    · by_cases hs : sid' = sid
      · subst hs
        rw [if_pos rfl]
        obtain rfl : st1 = st := mem_unique s hinv sid' _ _ (getStream_mem hgs).1 hmem
        exact Local.one cfg (.frame f) (local_setAny_self hmem (SStream_onFrame_onlySid ..))
      · rw [if_neg hs]
        exact Local.nil cfg (local_setAny_other hmem (SStream_onFrame_onlySid ..) hs)
  | call sid' c =>
    rw [step_call, Srv.onCall_eq, evOf_call]
    by_cases hs : sid' = sid
    · subst hs
      rw [if_pos rfl, hget]
      exact Local.one cfg (.call c) (local_setAny_self hmem (SStream_onCall_onlySid ..))
    · rw [if_neg hs]
      cases s.getAny sid' with
      | none => exact Local.nil cfg (local_keep (sid' := sid') hmem (onlySid_events ..) hs)
      | some st1 => exact Local.nil cfg (local_setAny_other hmem (SStream_onCall_onlySid ..) hs)
  | tick d =>
    have h := local_tick hinv hmem d
    rw [step_tick]
    rcases tick_cases sid s d with ⟨he, ht⟩ | ⟨he, ht⟩
    · rw [he]; rw [ht st hget] at h
      exact Local.nil cfg h
    · rw [he]; rw [ht st hget] at h
      exact Local.ctx cfg s _ hget h
  | closing b => exact Local.nil cfg (local_id (s := { s with closing := b }) hmem)
  | carrierEnds err =>
    rw [step_carrierEnds, evOf_carrierEnds]
    by_cases hr : s.returned.isSome = true
    · rw [if_pos hr, if_pos hr]; exact hkeep
    · rw [if_neg hr, if_neg hr]; exact hret _

theorem run_length (cfg : SCfg) (xs : List (SStim α)) : ∀ (s : Srv α), (Srv.run cfg s xs).2.length = xs.length := by
  induction xs with
  | nil => intro s; rfl
  | cons x xs ih => intro s; rw [run_cons, List.length_cons, List.length_cons, ih]

theorem evsOf_cons (cfg : SCfg) (sid : Sid) (s : Srv α) (x : SStim α) (xs : List (SStim α)) :
    evsOf cfg sid s (x :: xs) = evOf sid s x ++ evsOf cfg sid (s.step cfg x).1 xs := rfl

/-- as `Proj`, for an endpoint run `r` -/
structure RunProj (sid : Sid) (r : Srv α × List (Out α)) (q : SStream α × List (Out α)) : Prop where
  mem : (sid, q.1) ∈ r.1.streams
  frames : framesFor sid r.2 = outFrames q.2
  dones : donesFor sid r.2 = outDones q.2
  events : (outEvents q.2).Sublist (outEvents r.2)

theorem RunProj.cons {cfg : SCfg} {sid : Sid} {s : Srv α} {x : SStim α} {xs : List (SStim α)} {st : SStream α}
    {evs tl : List (SEv α)} (hp : Proj sid (s.step cfg x) (SStream.runEv cfg sid st evs))
    (ht : RunProj sid (Srv.run cfg (s.step cfg x).1 xs)
      (SStream.runEv cfg sid (SStream.runEv cfg sid st evs).1 tl)) :
    RunProj sid (Srv.run cfg s (x :: xs)) (SStream.runEv cfg sid st (evs ++ tl)) := by
  obtain ⟨i1, i2, i3, i4⟩ := ht
  rw [run_cons, runEv_append]
  refine ⟨i1, ?_, ?_, ?_⟩
  · simp only [framesFor, outFrames, List.flatMap_cons, List.flatMap_append] at i2 ⊢
    rw [i2, hp.frames]; rfl
  · simp only [donesFor, outDones, List.flatMap_cons, List.flatMap_append] at i3 ⊢
    rw [i3, hp.dones]; rfl
  · simp only [outEvents, List.flatMap_cons, List.flatMap_append] at i4 ⊢
    exact List.Sublist.append hp.events i4

theorem run_proj (cfg : SCfg) (sid : Sid) : ∀ (xs : List (SStim α)) (s : Srv α) (st : SStream α),
    SInv s → (sid, st) ∈ s.streams →
    RunProj sid (Srv.run cfg s xs) (SStream.runEv cfg sid st (evsOf cfg sid s xs)) := by
  intro xs
  induction xs with
  | nil => intro s st _ hmem; exact ⟨hmem, rfl, rfl, List.Sublist.refl _⟩
  | cons x xs ih =>
    intro s st hinv hmem
    have hp := step_proj cfg s hinv sid st hmem x
    exact .cons hp (ih _ _ (sinv_step cfg s x hinv) hp.mem)

theorem run_snoc (cfg : SCfg) (pre : List (SStim α)) (x : SStim α) (s : Srv α) :
    Srv.run cfg s (pre ++ [x]) =
      (((Srv.run cfg s pre).1.step cfg x).1, (Srv.run cfg s pre).2 ++ [((Srv.run cfg s pre).1.step cfg x).2]) := by
  rw [run_append]; rfl

theorem run_split (cfg : SCfg) (pre : List (SStim α)) (x : SStim α) (post : List (SStim α)) (s : Srv α) :
    Srv.run cfg s (pre ++ x :: post) =
      ((Srv.run cfg (Srv.run cfg s (pre ++ [x])).1 post).1,
       (Srv.run cfg s (pre ++ [x])).2 ++ (Srv.run cfg (Srv.run cfg s (pre ++ [x])).1 post).2) := by
  rw [← run_append, List.append_assoc]; rfl

theorem created_split (cfg : SCfg) (sid : Sid) : ∀ (xs : List (SStim α)) (s : Srv α),
    sid ∉ ids s → sid ∈ ids (Srv.run cfg s xs).1 →
    ∃ pre m md rev win post, xs = pre ++ .frame sid (.newStream m md rev win) :: post ∧
      sid ∉ ids (Srv.run cfg s pre).1 ∧
      sid ∈ ids (Srv.run cfg s (pre ++ [.frame sid (.newStream m md rev win)])).1 := by
  intro xs
  induction xs with
  | nil => intro s h1 h2; exact absurd h2 h1
  | cons x xs ih =>
    intro s h1 h2
    by_cases hx : sid ∈ ids (s.step cfg x).1
    · obtain ⟨st', h'⟩ := exists_of_mem_ids hx
      rcases step_mem cfg s x h' with h | ⟨st, _, h, _⟩ | ⟨_, _, _, m, md, rev, win, rfl, _⟩
      · exact absurd (mem_ids h) h1
      · exact absurd (mem_ids h) h1
      · exact ⟨[], m, md, rev, win, xs, rfl, h1, hx⟩
    · obtain ⟨pre, m, md, rev, win, post, e, p1, p2⟩ := ih (s.step cfg x).1 hx h2
      exact ⟨x :: pre, m, md, rev, win, post, congrArg (x :: ·) e, p1, p2⟩

/-- Every stream object `(sid, st)` of a reachable endpoint state was installed by a `new_stream` frame of
    the run (`xs = pre ++ f :: post`, `f` that frame; no object for `sid` before it, the object `st0` right after
    it); `st` is the result of the stream-level run of the extracted events `evsOf … post` on `st0`, and the
    frames / completions the endpoint emitted for `sid` after the creating step are exactly those of that
    stream-level run.  The id is unique by `Server.sinv_run`. -/
theorem projection (cfg : SCfg) (xs : List (SStim α)) (sid : Sid) (st : SStream α)
    (h : (sid, st) ∈ (Srv.run cfg ({} : Srv α) xs).1.streams) :
    ∃ pre m md rev win post st0,
      xs = pre ++ .frame sid (.newStream m md rev win) :: post ∧
      sid ∉ ids (Srv.run cfg ({} : Srv α) pre).1 ∧
      (sid, st0) ∈ (Srv.run cfg ({} : Srv α) (pre ++ [.frame sid (.newStream m md rev win)])).1.streams ∧
      (let s1 := (Srv.run cfg ({} : Srv α) (pre ++ [.frame sid (.newStream m md rev win)])).1
       let r := SStream.runEv cfg sid st0 (evsOf cfg sid s1 post)
       st = r.1 ∧
       framesFor sid (Srv.run cfg s1 post).2 = outFrames r.2 ∧
       donesFor sid (Srv.run cfg s1 post).2 = outDones r.2 ∧
       (outEvents r.2).Sublist (outEvents (Srv.run cfg s1 post).2) ∧
       (Srv.run cfg ({} : Srv α) xs).2 =
         (Srv.run cfg ({} : Srv α) (pre ++ [.frame sid (.newStream m md rev win)])).2 ++ (Srv.run cfg s1 post).2) := by
  obtain ⟨pre, m, md, rev, win, post, rfl, p1, p2⟩ :=
    created_split cfg sid xs ({} : Srv α) (fun h => by cases h) (mem_ids h)
  obtain ⟨st0, h0⟩ := exists_of_mem_ids p2
  refine ⟨pre, m, md, rev, win, post, st0, rfl, p1, h0, ?_⟩
  have hinv1 := sinv_run cfg (pre ++ [.frame sid (.newStream m md rev win)]) ({} : Srv α) sinv_init
  have r := run_proj cfg sid post _ st0 hinv1 h0
  rw [run_split cfg pre _ post] at h ⊢
  exact ⟨mem_unique _ (sinv_run cfg post _ hinv1) sid _ _ h r.mem, r.frames, r.dones, r.events, rfl⟩

theorem runEv_onlySid (cfg : SCfg) (sid : Sid) (evs : List (SEv α)) : ∀ (s : SStream α),
    ∀ o ∈ (SStream.runEv cfg sid s evs).2, Out.onlySid sid o := by
  induction evs with
  | nil => intro s o ho; cases ho
  | cons e es ih =>
    intro s o ho
    rw [runEv_cons] at ho
    rcases List.mem_cons.mp ho with h | h
    · rw [h]
      cases e with
      | frame f => exact SStream_onFrame_onlySid ..
      | call c => exact SStream_onCall_onlySid ..
      | ctx e => exact cancelCtx_onlySid ..
    · exact ih _ o h

theorem proj_state (cfg : SCfg) (xs : List (SStim α)) (sid : Sid) (st : SStream α)
    (h : (sid, st) ∈ (Srv.run cfg ({} : Srv α) xs).1.streams) :
    ∃ pre m md rev win post st0,
      xs = pre ++ .frame sid (.newStream m md rev win) :: post ∧
      sid ∉ ids (Srv.run cfg ({} : Srv α) pre).1 ∧
      (sid, st0) ∈ (Srv.run cfg ({} : Srv α) (pre ++ [.frame sid (.newStream m md rev win)])).1.streams ∧
      st = (SStream.runEv cfg sid st0
              (evsOf cfg sid (Srv.run cfg ({} : Srv α) (pre ++ [.frame sid (.newStream m md rev win)])).1 post)).1 := by
  obtain ⟨pre, m, md, rev, win, post, st0, e, p1, p2, p3, _⟩ := projection cfg xs sid st h
  exact ⟨pre, m, md, rev, win, post, st0, e, p1, p2, p3⟩

/-- The outputs as in `projection`, for any way of writing a run as `pre ++ cr :: post` such that an object
    of `sid` exists after `cr` (which need not be the creating frame); the stream-level outputs are all
    tagged `sid`. -/
theorem proj_outputs (cfg : SCfg) (pre post : List (SStim α)) (sid : Sid) (cr : SStim α) (st0 : SStream α)
    (h0 : (sid, st0) ∈ (Srv.run cfg ({} : Srv α) (pre ++ [cr])).1.streams) :
    let s1 := (Srv.run cfg ({} : Srv α) (pre ++ [cr])).1
    let r := SStream.runEv cfg sid st0 (evsOf cfg sid s1 post)
    let after := (Srv.run cfg ({} : Srv α) (pre ++ cr :: post)).2.drop (pre.length + 1)
    framesFor sid after = outFrames r.2 ∧ donesFor sid after = outDones r.2 ∧
    (outEvents r.2).Sublist (outEvents after) ∧ (∀ o ∈ r.2, Out.onlySid sid o) ∧
    (sid, r.1) ∈ (Srv.run cfg ({} : Srv α) (pre ++ cr :: post)).1.streams := by
  intro s1 r after
  have hr := run_proj cfg sid post s1 st0 (sinv_run cfg (pre ++ [cr]) ({} : Srv α) sinv_init) h0
  have hafter : after = (Srv.run cfg s1 post).2 := by
    show ((Srv.run cfg ({} : Srv α) (pre ++ cr :: post)).2.drop (pre.length + 1)) = _
    rw [run_split cfg pre cr post]
    exact List.drop_left' (by rw [run_length, List.length_append]; rfl)
  rw [hafter, run_split cfg pre cr post]
  exact ⟨hr.frames, hr.dones, hr.events, runEv_onlySid cfg sid _ st0, hr.mem⟩

/-- What a stimulus means for one stream, in terms of what it addresses to it: a frame for it (only an
    alive stream gets frames, never a `new_stream`); a call of its handler; nothing; or the end of its
    context, only if that has not ended yet. -/
inductive EvSpec (sid : Sid) (s : Srv α) (x : SStim α) : List (SEv α) → Prop
  | frame (f : C2S α) : frameTo sid x = some f → callTo sid x = none → alive s sid = true →
      EvSpec sid s x [.frame f]
  | call (c : HCall α) : callTo sid x = some c → frameTo sid x = none → EvSpec sid s x [.call c]
  | quiet : frameTo sid x = none ∨ alive s sid = false → callTo sid x = none → EvSpec sid s x []
  | ctx (e : CtxErr) (st : SStream α) : frameTo sid x = none ∨ alive s sid = false → callTo sid x = none →
      s.getAny sid = some st → st.ctxDone = none → EvSpec sid s x [.ctx e]

theorem EvSpec.of_ctxEv {sid : Sid} {s : Srv α} {x : SStim α} (hf : frameTo sid x = none ∨ alive s sid = false)
    (hc : callTo sid x = none) (e : CtxErr) : EvSpec sid s x (ctxEv s sid e) := by
  unfold ctxEv
  cases hg : s.getAny sid with
  | none => exact .quiet hf hc
  | some st =>
    dsimp only
    cases hd : st.ctxDone with
    | none => exact .ctx e st hf hc hg hd
    | some c => exact .quiet hf hc

theorem evOf_spec (sid : Sid) (s : Srv α) (x : SStim α) : EvSpec sid s x (evOf sid s x) := by
  cases x with
  | frame sid' f =>
    refine frame_elim (motive := fun _ evs => EvSpec sid s (.frame sid' f) evs) {} s sid sid' f
      (fun hq => .quiet hq rfl) (fun hq _ => .of_ctxEv hq rfl _) (fun hq _ _ _ _ => .quiet hq rfl)
      (fun st1 hret hgs hf => ?_)
    by_cases hs : sid' = sid
    · subst hs
      rw [if_pos rfl] at hf ⊢
      exact .frame f hf rfl (by rw [alive, hret, hgs]; rfl)
    · rw [if_neg hs] at hf ⊢
      exact .quiet (Or.inl hf) rfl
  | call sid' c =>
    by_cases hs : sid' = sid
    · have hc : callTo sid (.call sid' c) = some c := if_pos hs
      have he : evOf sid s (.call sid' c) = [.call c] := if_pos hs
      rw [he]; exact .call c hc rfl
    · have hc : callTo sid (.call sid' c) = none := if_neg hs
      have he : evOf sid s (.call sid' c) = [] := if_neg hs
      rw [he]; exact .quiet (Or.inl rfl) hc
  | tick d =>
    rcases tick_cases sid s d with ⟨he, _⟩ | ⟨he, _⟩
    · rw [he]; exact .quiet (Or.inl rfl) rfl
    · rw [he]; exact .of_ctxEv (Or.inl rfl) rfl _
  | closing b => exact .quiet (Or.inl rfl) rfl
  | carrierEnds err =>
    rw [evOf_carrierEnds]
    by_cases hr : s.returned.isSome = true
    · rw [if_pos hr]; exact .quiet (Or.inl rfl) rfl
    · rw [if_neg hr]; exact .of_ctxEv (Or.inl rfl) rfl _

theorem quiet_frames {sid : Sid} {s : Srv α} {x : SStim α} (h : frameTo sid x = none ∨ alive s sid = false) :
    (if alive s sid then (frameTo sid x).toList else []) = [] := by
  rcases h with h | h
  · rw [h]; exact ite_self []
  · rw [h]; rfl

theorem evOf_calls (sid : Sid) (s : Srv α) (x : SStim α) :
    (evOf sid s x).filterMap callOf = (callTo sid x).toList := by
  have h := evOf_spec sid s x
  generalize evOf sid s x = l at h
  cases h with
  | frame f _ hc _ => rw [hc]; rfl
  | call c hc _ => rw [hc]; rfl
  | quiet _ hc => rw [hc]; rfl
  | ctx e st _ hc _ _ => rw [hc]; rfl

theorem evOf_frames (sid : Sid) (s : Srv α) (x : SStim α) :
    (evOf sid s x).filterMap frameOf = if alive s sid then (frameTo sid x).toList else [] := by
  have h := evOf_spec sid s x
  generalize evOf sid s x = l at h
  cases h with
  | frame f hf _ ha => rw [hf, ha]; rfl
  | call c _ hf => exact (quiet_frames (Or.inl hf)).symm
  | quiet hf _ => exact (quiet_frames hf).symm
  | ctx e st hf _ _ _ => exact (quiet_frames hf).symm

theorem proj_calls (cfg : SCfg) (sid : Sid) : ∀ (xs : List (SStim α)) (s : Srv α),
    (evsOf cfg sid s xs).filterMap callOf = xs.filterMap (callTo sid) := by
  intro xs
  induction xs with
  | nil => intro s; rfl
  | cons x xs ih =>
    intro s
    rw [evsOf_cons, List.filterMap_append, evOf_calls, ih, List.filterMap_cons]
    cases callTo sid x <;> rfl

theorem proj_frames (cfg : SCfg) (sid : Sid) : ∀ (xs : List (SStim α)) (s : Srv α),
    (evsOf cfg sid s xs).filterMap frameOf = liveFrames cfg sid s xs := by
  intro xs
  induction xs with
  | nil => intro s; rfl
  | cons x xs ih =>
    intro s
    rw [evsOf_cons, List.filterMap_append, evOf_frames, ih]
    rfl

theorem alive_of_mem (s : Srv α) (hinv : SInv s) (sid : Sid) (st : SStream α) (hmem : (sid, st) ∈ s.streams) :
    alive s sid = (s.returned.isNone && st.inTable) := by
  rw [alive, getStream_of_mem s hinv sid st hmem]
  cases st.inTable <;> rfl

theorem not_alive_step (cfg : SCfg) (s : Srv α) (hinv : SInv s) (sid : Sid) (st : SStream α)
    (hmem : (sid, st) ∈ s.streams) (x : SStim α) (h : alive s sid = false) :
    alive (s.step cfg x).1 sid = false := by
  rw [alive_of_mem _ (sinv_step cfg s x hinv) sid _ (step_proj cfg s hinv sid st hmem x).mem]
  rw [alive_of_mem s hinv sid st hmem] at h
  cases hr : s.returned with
  | some v =>
    have hk := Proofs.Teardown.step_keeps_returned cfg s x (by rw [hr]; rfl)
    rw [hk, hr]; rfl
  | none =>
    rw [hr] at h
    rw [runEv_keeps (P := fun s => s.inTable = false) (fun s ev h => (Proofs.Teardown.stepEv_tab cfg sid s ev).out h) _ st h]
    exact Bool.and_false _

theorem dead_stays_dead (cfg : SCfg) (sid : Sid) : ∀ (xs : List (SStim α)) (s : Srv α) (st : SStream α),
    SInv s → (sid, st) ∈ s.streams → alive s sid = false → liveFrames cfg sid s xs = [] := by
  intro xs
  induction xs with
  | nil => intro s st _ _ _; rfl
  | cons x xs ih =>
    intro s st hinv hmem h
    rw [liveFrames, h, ih _ _ (sinv_step cfg s x hinv) (step_proj cfg s hinv sid st hmem x).mem
      (not_alive_step cfg s hinv sid st hmem x h)]
    rfl

theorem dropped_frame_noop (cfg : SCfg) (s : Srv α) (hinv : SInv s) (sid : Sid) (st : SStream α)
    (hmem : (sid, st) ∈ s.streams) (f : C2S α) (hnew : ∀ m md rev win, f ≠ .newStream m md rev win)
    (h : alive s sid = false) : s.step cfg (.frame sid f) = (s, {}) := by
  rw [step_frame, Srv.onFrame_other cfg s sid hnew]
  cases hr : s.returned with
  | some v => rfl
  | none =>
    rw [alive, hr] at h
    cases hg : s.getStream sid with
    | some st1 => rw [hg] at h; cases h
    | none => exact if_pos (hinv.1 sid (mem_ids hmem))

theorem filterMap_cons_toList {β γ : Type} (f : β → Option γ) (x : β) (xs : List β) :
    (x :: xs).filterMap f = (f x).toList ++ xs.filterMap f := by
  rw [List.filterMap_cons]; cases f x <;> rfl

theorem liveFrames_alive (cfg : SCfg) (sid : Sid) : ∀ (xs : List (SStim α)) (s : Srv α) (st : SStream α),
    SInv s → (sid, st) ∈ s.streams → alive (Srv.run cfg s xs).1 sid = true →
    alive s sid = true ∧ liveFrames cfg sid s xs = xs.filterMap (frameTo sid) := by
  intro xs
  induction xs with
  | nil => intro s st _ _ h; exact ⟨h, rfl⟩
  | cons x xs ih =>
    intro s st hinv hmem h
    obtain ⟨ha', htail⟩ := ih _ _ (sinv_step cfg s x hinv) (step_proj cfg s hinv sid st hmem x).mem h
    have ha : alive s sid = true := by
      cases ha : alive s sid with
      | true => rfl
      | false => rw [not_alive_step cfg s hinv sid st hmem x ha] at ha'; cases ha'
    rw [liveFrames, ha, htail, filterMap_cons_toList]
    exact ⟨rfl, rfl⟩

theorem proj_frames_exact (cfg : SCfg) (sid : Sid) (xs : List (SStim α)) (s : Srv α) (st : SStream α)
    (hinv : SInv s) (hmem : (sid, st) ∈ s.streams) (h : alive (Srv.run cfg s xs).1 sid = true) :
    (evsOf cfg sid s xs).filterMap frameOf = xs.filterMap (frameTo sid) :=
  (proj_frames cfg sid xs s).trans (liveFrames_alive cfg sid xs s st hinv hmem h).2

theorem liveFrames_sublist (cfg : SCfg) (sid : Sid) : ∀ (xs : List (SStim α)) (s : Srv α),
    (liveFrames cfg sid s xs).Sublist (xs.filterMap (frameTo sid)) := by
  intro xs
  induction xs with
  | nil => intro s; exact List.Sublist.refl _
  | cons x xs ih =>
    intro s
    rw [filterMap_cons_toList, liveFrames]
    refine List.Sublist.append ?_ (ih _)
    cases alive s sid
    · exact List.nil_sublist _
    · exact List.Sublist.refl _

/-- The `.frame` events are all frames addressed to `sid` if `sid` is still alive at the end of the run.
    Without that condition this is false: see the counterexample among the examples. -/
theorem proj_calls_frames_partial (cfg : SCfg) (sid : Sid) (xs : List (SStim α)) (s : Srv α) :
    (evsOf cfg sid s xs).filterMap callOf = xs.filterMap (callTo sid) ∧
    (evsOf cfg sid s xs).filterMap frameOf = liveFrames cfg sid s xs ∧
    ((evsOf cfg sid s xs).filterMap frameOf).Sublist (xs.filterMap (frameTo sid)) ∧
    (∀ st, SInv s → (sid, st) ∈ s.streams → alive (Srv.run cfg s xs).1 sid = true →
      (evsOf cfg sid s xs).filterMap frameOf = xs.filterMap (frameTo sid)) :=
  ⟨proj_calls cfg sid xs s, proj_frames cfg sid xs s,
   (proj_frames cfg sid xs s).symm ▸ liveFrames_sublist cfg sid xs s,
   fun st hinv hmem h => proj_frames_exact cfg sid xs s st hinv hmem h⟩

theorem evsOf_ctx_done (cfg : SCfg) (sid : Sid) : ∀ (xs : List (SStim α)) (s : Srv α) (st : SStream α),
    SInv s → (sid, st) ∈ s.streams → st.ctxDone.isSome = true → (evsOf cfg sid s xs).filterMap ctxOf = [] := by
  intro xs
  induction xs with
  | nil => intro s st _ _ _; rfl
  | cons x xs ih =>
    intro s st hinv hmem hc
    have hp := step_proj cfg s hinv sid st hmem x
    rw [evsOf_cons, List.filterMap_append,
      ih _ _ (sinv_step cfg s x hinv) hp.mem (runEv_keeps (P := fun s => s.ctxDone.isSome = true)
        (fun s ev h => (Proofs.Teardown.stepEv_tab cfg sid s ev).ctxDone h) _ st hc), List.append_nil]
    have h := evOf_spec sid s x
    generalize evOf sid s x = l at h
    cases h with
    | ctx e st' _ _ hg hn =>
      rw [getAny_of_mem s hinv sid st hmem] at hg
      cases hg
      rw [hn] at hc; cases hc
    | _ => rfl

theorem proj_ctx_at_most_once (cfg : SCfg) (sid : Sid) : ∀ (xs : List (SStim α)) (s : Srv α) (st : SStream α),
    SInv s → (sid, st) ∈ s.streams → ((evsOf cfg sid s xs).filterMap ctxOf).length ≤ 1 := by
  intro xs
  induction xs with
  | nil => intro s st _ _; exact Nat.zero_le _
  | cons x xs ih =>
    intro s st hinv hmem
    have hp := step_proj cfg s hinv sid st hmem x
    have hinv' := sinv_step cfg s x hinv
    rw [evsOf_cons, List.filterMap_append, List.length_append]
    have h := evOf_spec sid s x
    generalize evOf sid s x = l at h hp
    cases h with
    | ctx e st' _ _ _ _ =>
      rw [evsOf_ctx_done cfg sid xs _ _ hinv' hp.mem (Proofs.ServerShape.cancelCtx_released sid st e).1]
      exact Nat.le_refl 1
    | _ => exact (Nat.zero_add _).symm ▸ ih _ _ hinv' hp.mem

theorem sfresh_of_fresh {cfg : SCfg} {rev : Int} {win : Nat} {dl : Option Nat} {st : SStream α}
    (h : Fresh cfg rev win dl st) : Proofs.Conformance.SFresh st ∧ st.fc = (rev == 1) := by
  cases h
  exact ⟨⟨rfl, rfl, rfl⟩, rfl⟩

/-- The creating `new_stream` frame installs a fresh object (`SFresh`) on which, for a unary method, the
    decode callback's `RecvMsg` has been started: `evs0 = [.call .recv]`. -/
theorem created_fresh (cfg : SCfg) (s : Srv α) (sid : Sid) (m : List Nat) (md : MD) (rev : Int) (win : Nat)
    (hnot : sid ∉ ids s) (h0 : sid ∈ ids (s.step cfg (.frame sid (.newStream m md rev win))).1) :
    ∃ (fresh : SStream α) (evs0 : List (SEv α)),
      Proofs.Conformance.SFresh fresh ∧ fresh.fc = (rev == 1) ∧ (evs0 = [] ∨ evs0 = [.call .recv]) ∧
      Proj sid (s.step cfg (.frame sid (.newStream m md rev win))) (SStream.runEv cfg sid fresh evs0) := by
  rw [step_frame, Srv.onFrame_newStream] at h0 ⊢
  by_cases hr : s.returned.isSome = true
  · rw [if_pos hr] at h0
    exact absurd h0 hnot
  rw [if_neg hr] at h0 ⊢
  revert h0
  refine createStream_elim (motive := fun r => sid ∈ ids r.1 → ∃ fresh evs0,
    Proofs.Conformance.SFresh fresh ∧ fresh.fc = (rev == 1) ∧ (evs0 = [] ∨ evs0 = [.call .recv]) ∧
    Proj sid r (SStream.runEv cfg sid fresh evs0)) cfg s sid m md rev win ?_ ?_ ?_
  · intro tag _ h0
    obtain ⟨st', h'⟩ := exists_of_mem_ids h0
    obtain ⟨st, h, _⟩ := serveReturns_mem h'
    exact absurd (mem_ids h) hnot
  · intro _ _ _ _ _ h0
    exact absurd h0 hnot
  · intro st _ _ _ _ _ _ _ hf _
    have hmem : ∀ a : SStream α, (sid, a) ∈ s.streams ++ [(sid, a)] :=
      fun a => List.mem_append_right _ (List.mem_singleton.mpr rfl)
    by_cases hu : st.unary = true
    · rw [if_pos hu]
      exact ⟨st, [.call .recv], (sfresh_of_fresh hf).1, (sfresh_of_fresh hf).2, Or.inr rfl,
        Local.one cfg (.call .recv) (local_own (hmem _) (startRecv_onlySid sid st))⟩
    · rw [if_neg hu]
      exact ⟨st, [], (sfresh_of_fresh hf).1, (sfresh_of_fresh hf).2, Or.inl rfl,
        Local.nil cfg ⟨hmem _, rfl, rfl, List.nil_sublist _⟩⟩

/-- `projection` from a fresh stream object (`SFresh`), which is what stream-level theorems with a freshness
    hypothesis need: the events are `evs0` (see `created_fresh`) followed by those extracted from the run
    after the creating frame, and the frames / completions are those the endpoint emitted for `sid` from
    the creating step on (inclusive). -/
theorem projection_fresh (cfg : SCfg) (xs : List (SStim α)) (sid : Sid) (st : SStream α)
    (h : (sid, st) ∈ (Srv.run cfg ({} : Srv α) xs).1.streams) :
    ∃ pre m md rev win post fresh evs0,
      xs = pre ++ .frame sid (.newStream m md rev win) :: post ∧
      sid ∉ ids (Srv.run cfg ({} : Srv α) pre).1 ∧
      Proofs.Conformance.SFresh fresh ∧ fresh.fc = (rev == 1) ∧ (evs0 = [] ∨ evs0 = [.call .recv]) ∧
      (let s1 := (Srv.run cfg ({} : Srv α) (pre ++ [.frame sid (.newStream m md rev win)])).1
       let r := SStream.runEv cfg sid fresh (evs0 ++ evsOf cfg sid s1 post)
       st = r.1 ∧
       framesFor sid ((Srv.run cfg ({} : Srv α) xs).2.drop pre.length) = outFrames r.2 ∧
       donesFor sid ((Srv.run cfg ({} : Srv α) xs).2.drop pre.length) = outDones r.2) := by
  obtain ⟨pre, m, md, rev, win, post, rfl, p1, p2⟩ :=
    created_split cfg sid xs ({} : Srv α) (fun h => by cases h) (mem_ids h)
  have hs1 := congrArg Prod.fst (run_snoc cfg pre (.frame sid (.newStream m md rev win)) ({} : Srv α))
  dsimp only at hs1
  rw [hs1] at p2
  obtain ⟨fresh, evs0, hf, hfc, hev, hp⟩ := created_fresh cfg _ sid m md rev win p1 p2
  refine ⟨pre, m, md, rev, win, post, fresh, evs0, rfl, p1, hf, hfc, hev, ?_⟩
  have hinv1 := sinv_step cfg _ (.frame sid (.newStream m md rev win)) (sinv_run cfg pre ({} : Srv α) sinv_init)
  have hr := RunProj.cons hp (run_proj cfg sid post _ _ hinv1 hp.mem)
  have hdrop := List.drop_left' (l₂ := (Srv.run cfg (Srv.run cfg ({} : Srv α) pre).1
    (.frame sid (.newStream m md rev win) :: post)).2) (run_length cfg pre ({} : Srv α))
  rw [run_append cfg pre (.frame sid (.newStream m md rev win) :: post)] at h ⊢
  rw [hs1, hdrop]
  exact ⟨mem_unique _ (sinv_run cfg post _ hinv1) sid _ _ h hr.mem, hr.frames, hr.dones⟩

open Proofs.Conformance in
theorem sframes_eq (os : List (Out α)) : sframes os = (outFrames os).map (·.2) := by
  simp [sframes, outFrames, List.map_flatMap]

open Proofs.Conformance in
/-- `S2_at_most_one_close` (which holds from any stream state) lifted to the endpoint: once the stream
    object of `sid` exists, the frames emitted with id `sid` contain at most one close frame. -/
theorem endpoint_at_most_one_close (cfg : SCfg) (pre post : List (SStim α)) (sid : Sid) (cr : SStim α)
    (hcreated : sid ∈ ids (Srv.run cfg ({} : Srv α) (pre ++ [cr])).1) :
    ((framesFor sid ((Srv.run cfg ({} : Srv α) (pre ++ cr :: post)).2.drop (pre.length + 1))).filter
      (fun f => S.isClose f.2)).length ≤ 1 := by
  obtain ⟨st0, h0⟩ := exists_of_mem_ids hcreated
  have hp := proj_outputs cfg pre post sid cr st0 h0
  dsimp only at hp
  rw [hp.1]
  have h := S2_at_most_one_close cfg sid st0
    (evsOf cfg sid (Srv.run cfg ({} : Srv α) (pre ++ [cr])).1 post)
  rw [sframes_eq, List.filter_map, List.length_map] at h
  exact h

open Proofs.Conformance in
/-- `S2_at_most_one_close` and `S3_headers_before_data` (which needs a fresh initial stream state) lifted
    to the endpoint, over the whole life of an RPC: among the frames the endpoint emitted with the id of
    a stream object from the creating `new_stream` frame on, there is at most one close frame, and every
    data frame is preceded by a headers frame. -/
theorem endpoint_conformance (cfg : SCfg) (xs : List (SStim α)) (sid : Sid) (st : SStream α)
    (h : (sid, st) ∈ (Srv.run cfg ({} : Srv α) xs).1.streams) :
    ∃ pre m md rev win post, xs = pre ++ .frame sid (.newStream m md rev win) :: post ∧
      sid ∉ ids (Srv.run cfg ({} : Srv α) pre).1 ∧
      (let fs := (framesFor sid ((Srv.run cfg ({} : Srv α) xs).2.drop pre.length)).map (·.2)
       (fs.filter S.isClose).length ≤ 1 ∧
       ∀ a f b, fs = a ++ f :: b → S.isData f = true → ∃ hd ∈ a, S.isHeaders hd = true) := by
  obtain ⟨pre, m, md, rev, win, post, fresh, evs0, e, p1, hf, _, _, _, hfr, _⟩ :=
    projection_fresh cfg xs sid st h
  refine ⟨pre, m, md, rev, win, post, e, p1, ?_⟩
  intro fs
  have hfs : fs = sframes (SStream.runEv cfg sid fresh (evs0 ++
      evsOf cfg sid (Srv.run cfg ({} : Srv α) (pre ++ [.frame sid (.newStream m md rev win)])).1 post)).2 := by
    show (framesFor sid _).map (·.2) = _
    rw [hfr, sframes_eq]
  rw [hfs]
  exact ⟨S2_at_most_one_close cfg sid fresh _, S3_headers_before_data cfg sid fresh hf _⟩

section Examples
open Proofs.Conformance

/-- event kind as a string, to compare extracted event lists by `decide` -/
def evTag : SEv Nat → String
  | .frame f => "frame:" ++ C.tag f
  | .call .recv => "recv"
  | .call (.send _) => "send"
  | .call (.setHeader _) => "sethdr"
  | .call (.sendHeader _) => "sendhdr"
  | .call (.setTrailer _) => "settlr"
  | .call (.ret _) => "ret"
  | .call (.reply _) => "reply"
  | .ctx .canceled => "ctx-canceled"
  | .ctx .deadline => "ctx-deadline"

/-- service `[1]` with the unary method `[3]` and the bidi-streaming method `[2]` -/
def exCfg : SCfg := { services := [([1], { methods := [[3]], streams := [([2], true, true)] })] }

/-- RPC 1 (bidi stream) and RPC 3 (unary) interleaved; the clock advances (no deadlines: `decide`
    cannot evaluate the `grpc-timeout` string parser, deadlines are in the next example); a frame
    for the never-created id 5 ends the tunnel; late frames and calls -/
def exRun : List (SStim Nat) :=
  [.frame 1 (.newStream [47, 1, 47, 2] [] 1 10),
   .frame 3 (.newStream [47, 1, 47, 3] [] 1 10),
   .call 1 .recv,
   .frame 3 (.msg 1 [7]),
   .frame 1 (.msg 1 [8]),
   .call 1 (.send [4]),
   .tick 10,
   .frame 3 .halfClose,
   .frame 5 .halfClose,
   .frame 1 (.msg 1 [2]),
   .call 3 (.reply [9]),
   .frame 3 (.newStream [47, 1, 47, 3] [] 1 10),
   .call 1 (.ret (mkStatus 0 ""))]

-- the extracted event lists: RPC 1 after its creating frame (`exRun.drop 1` from the state after
-- one step), RPC 3 after its creating frame (`exRun.drop 2` from the state after two steps).
-- The tick means nothing (no deadlines); the tunnel-level violation (frame for id 5) ends both
-- contexts; the frame for 1 after `serve` returned and the second `new_stream` for 3 reach nobody.
example :
    (evsOf exCfg 1 (Srv.run exCfg {} (exRun.take 1)).1 (exRun.drop 1)).map evTag =
      ["recv", "frame:msg", "send", "ctx-canceled", "ret"] ∧
    (evsOf exCfg 3 (Srv.run exCfg {} (exRun.take 2)).1 (exRun.drop 2)).map evTag =
      ["frame:msg", "frame:halfclose", "ctx-canceled", "reply"] := by
  decide +kernel

-- instance of `proj_outputs` on this run: the frames the endpoint emits for each id after its
-- creation are the frames of the stream-level run of the extracted events on the object the
-- creating frame installed
example :
    let s1 := (Srv.run exCfg {} (exRun.take 1)).1
    let s2 := (Srv.run exCfg {} (exRun.take 2)).1
    (s1.getAny 1).isSome = true ∧ (s2.getAny 3).isSome = true ∧
    (∀ st1 ∈ s1.getAny 1, ∀ st3 ∈ s2.getAny 3,
      (framesFor 1 ((Srv.run exCfg {} exRun).2.drop 1)).map (fun f => S.tag f.2) =
        (sframes (SStream.runEv exCfg 1 st1 (evsOf exCfg 1 s1 (exRun.drop 1))).2).map S.tag ∧
      (framesFor 1 ((Srv.run exCfg {} exRun).2.drop 1)).map (fun f => S.tag f.2) =
        ["wu", "headers", "msg", "close"] ∧
      (framesFor 3 ((Srv.run exCfg {} exRun).2.drop 2)).map (fun f => S.tag f.2) =
        (sframes (SStream.runEv exCfg 3 st3 (evsOf exCfg 3 s2 (exRun.drop 2))).2).map S.tag ∧
      (framesFor 3 ((Srv.run exCfg {} exRun).2.drop 2)).map (fun f => S.tag f.2) =
        ["wu", "headers", "msg", "close"]) := by
  decide +kernel

/-- the endpoint state after both creating frames, with a deadline at time 5 put on RPC 1 -/
def exDl : Srv Nat :=
  let s := (Srv.run exCfg {} (exRun.take 2)).1
  { s with streams := s.streams.map (fun e => if e.1 = 1 then (e.1, { e.2 with deadline := some 5 }) else e) }

-- deadlines: the first tick (time 3) means nothing, the second (time 10) ends the context of 1
-- only, the third nothing again (already ended); the carrier's end then cancels 3 only; the
-- handler of 1 returns (stream 1 leaves the table): the later frame for 1 is dropped
example :
    (evsOf exCfg 1 exDl [.tick 3, .call 1 .recv, .tick 7, .frame 1 (.msg 1 [8]), .tick 1, .carrierEnds none,
        .call 1 (.ret (mkStatus 0 "")), .call 3 (.ret (mkStatus 0 ""))]).map evTag =
      ["recv", "ctx-deadline", "frame:msg", "ret"] ∧
    (evsOf exCfg 3 exDl [.tick 3, .call 1 .recv, .tick 7, .frame 1 (.msg 1 [8]), .tick 1, .carrierEnds none,
        .call 1 (.ret (mkStatus 0 "")), .call 3 (.ret (mkStatus 0 ""))]).map evTag =
      ["ctx-canceled", "ret"] ∧
    (evsOf exCfg 1 exDl [.call 1 (.ret (mkStatus 0 "")), .frame 1 (.msg 1 [8]), .frame 3 (.msg 1 [8]),
        .call 1 (.send [1])]).map evTag = ["ret", "send"] := by
  decide +kernel

-- COUNTEREXAMPLE to "the `.frame` events are exactly the frames addressed to `sid` in `post`":
-- in `exRun`, two non-`new_stream` frames are addressed to RPC 1 after its creation, but only one
-- reaches the stream object (the second arrives after `serve` returned and is dropped, exactly as
-- the endpoint does: `dropped_frame_noop`); likewise a frame for a finished RPC (last line)
example :
    ((exRun.drop 1).filterMap (frameTo 1)).length = 2 ∧
    ((evsOf exCfg 1 (Srv.run exCfg {} (exRun.take 1)).1 (exRun.drop 1)).filterMap frameOf).length = 1 ∧
    alive (Srv.run exCfg {} exRun).1 1 = false ∧
    (([.call 1 (.ret (mkStatus 0 "")), .frame 1 (.msg 1 [8])] : List (SStim Nat)).filterMap (frameTo 1)).length = 1 ∧
    ((evsOf exCfg 1 exDl [.call 1 (.ret (mkStatus 0 "")), .frame 1 (.msg 1 [8])]).filterMap frameOf).length = 0 := by
  decide +kernel

end Examples

end Proofs.ProjectionS

#print axioms Proofs.ProjectionS.step_proj
#print axioms Proofs.ProjectionS.run_proj
#print axioms Proofs.ProjectionS.projection
#print axioms Proofs.ProjectionS.proj_state
#print axioms Proofs.ProjectionS.proj_outputs
#print axioms Proofs.ProjectionS.proj_calls
#print axioms Proofs.ProjectionS.proj_frames
#print axioms Proofs.ProjectionS.proj_frames_exact
#print axioms Proofs.ProjectionS.proj_calls_frames_partial
#print axioms Proofs.ProjectionS.dead_stays_dead
#print axioms Proofs.ProjectionS.dropped_frame_noop
#print axioms Proofs.ProjectionS.proj_ctx_at_most_once
#print axioms Proofs.ProjectionS.created_fresh
#print axioms Proofs.ProjectionS.projection_fresh
#print axioms Proofs.ProjectionS.endpoint_at_most_one_close
#print axioms Proofs.ProjectionS.endpoint_conformance
