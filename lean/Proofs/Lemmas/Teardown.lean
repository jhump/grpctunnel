import Proofs.Lemmas.TeardownS
import Proofs.Lemmas.TeardownC
/-!
  C02, one step at a time: what the server stream puts on the wire when the handler sets headers and
  trailers and returns (and that a closed stream puts no frame on the wire any more), what the client
  stream makes of those frames, and that the status the handler returned is the one the caller gets.
  At the end: the server side of C14 and C04 on an example, and the axiom audits of `TeardownS` and
  `TeardownC`, which share this namespace.
-/
namespace Proofs.Teardown
open TunnelModel TunnelModel.LFrame TunnelModel.Framing

variable {α : Type}

/-- **the status a handler returns is the status the caller's terminal result carries** (OK ↦
    end-of-stream): server `finishStream` ↦ wire ↦ client `finishStream` -/
theorem status_roundtrip (st : Status) :
    mapFinishErr (statusErr (SErr.wireStatus (if st.code = 0 then none else some (.status st)))) =
      (if st.code = 0 then .eof else .status st) := by
  by_cases h : st.code = 0
  · rw [if_pos h, if_pos h]; rfl
  · rw [if_neg h, if_neg h]
    show mapFinishErr (statusErr st) = _
    rw [statusErr, if_neg h]; rfl

/-- a handler error that is not a status reaches the caller as `Unknown` with its text -/
theorem plain_error_roundtrip (t : String) :
    mapFinishErr (statusErr (SErr.wireStatus (some (.plain t)))) = .status (mkStatus codeUnknown t) := rfl

/-- ... and so do a raw EOF and raw context errors returned by a handler -/
theorem raw_error_roundtrip :
    mapFinishErr (statusErr (SErr.wireStatus (some .eof))) = .status (mkStatus codeUnknown "EOF") ∧
    mapFinishErr (statusErr (SErr.wireStatus (some (.ctx .canceled)))) =
      .status (mkStatus codeUnknown "context canceled") ∧
    mapFinishErr (statusErr (SErr.wireStatus (some (.ctx .deadline)))) =
      .status (mkStatus codeUnknown "context deadline exceeded") := ⟨rfl, rfl, rfl⟩

section Server
open Proofs.ServerOps

/-- On a closed stream the end of the context puts nothing on the wire: the only thing in it that
    emits frames is the `finishStream` of a handler it releases, and that finds the stream closed. -/
theorem ccSend_frames_of_closed (sid : Sid) (s : SStream α) (e : CtxErr) (hc : s.closed = true) :
    (ccSend sid s e).2.frames = [] ∧ (ccSend sid s e).1.closed = true :=
  ccSend_elim (motive := fun r => r.2.frames = [] ∧ r.1.closed = true) sid s e (fun _ => ⟨rfl, hc⟩)
    (fun _ _ _ => ⟨Proofs.ServerShape.finishCore_frames_of_closed sid _ _ hc, (Proofs.ServerShape.finishCore_closed sid _ _).1⟩)
    (fun _ _ _ => ⟨rfl, hc⟩)

theorem ccRead_frames_of_closed (sid : Sid) (s : SStream α) (e : CtxErr) (hc : s.closed = true) :
    (ccRead sid s e).2.frames = [] :=
  ccRead_elim (motive := fun r => r.2.frames = []) sid s e (fun _ => rfl)
    (fun _ _ _ => (List.nil_append _).trans (Proofs.ServerShape.finishCore_frames_of_closed sid
      ({ s with pread := none, readErr := some (.ctx e), hstatus := .returned } : SStream α) (some (.ctx e)) hc))
    (fun _ _ _ => rfl)

theorem cancelCtx_frames_of_closed (sid : Sid) (s : SStream α) (e : CtxErr) (hc : s.closed = true) :
    (s.cancelCtx sid e).2.frames = [] := by
  rw [cancelCtx_snd]
  split
  · rfl
  · have h1 := ccSend_frames_of_closed sid (ctxMark s e) e hc
    show ([] ++ (ccSend sid (ctxMark s e) e).2.frames) ++ (ccRead sid (ccSend sid (ctxMark s e) e).1 e).2.frames = []
    rw [h1.1, ccRead_frames_of_closed sid _ e h1.2]
    rfl

/-- the context ends on a stream that is closed by then -/
theorem finish_frames_eq (sid : Sid) (s : SStream α) (err : Option SErr) (b : Bool) :
    (s.finish sid err b).2.frames = (s.finishCore sid (finishErr s err b)).2.frames := by
  rw [finish_eq]
  show ((s.finishCore sid _).1.cancelCtx sid .canceled).2.frames ++ _ = _
  rw [cancelCtx_frames_of_closed _ _ _ (Proofs.ServerShape.finishCore_closed sid s _).1]
  rfl

theorem finish_frames (sid : Sid) (s : SStream α) (err : Option SErr) (hcl : s.closed = false) :
    (s.finish sid err false).2.frames =
      (if s.sentHeaders then [] else [(sid, .headers s.headers)]) ++
      [(sid, .close (SErr.wireStatus err) s.trailers)] := by
  rw [finish_frames_eq, finishCore_snd, hcl]
  rfl

theorem finish_frames_of_closed (sid : Sid) (s : SStream α) (err : Option SErr) (b : Bool) (hcl : s.closed = true) :
    (s.finish sid err b).2.frames = [] := by
  rw [finish_frames_eq, finishCore_snd, hcl]
  rfl

/-- **C02, server: what a returning handler puts on the wire.**  `.ret st` on a stream that is not closed
    yet emits exactly: the headers frame carrying the accumulated headers if none was sent before, then
    ONE close frame carrying the handler's status (OK for code 0) and the accumulated trailers. -/
theorem ret_frames (cfg : SCfg) (sid : Sid) (s : SStream α) (st : Status) (hcl : s.closed = false) :
    (s.onCall cfg sid (.ret st)).2.frames =
      (if s.sentHeaders then [] else [(sid, .headers s.headers)]) ++
      [(sid, .close (SErr.wireStatus (if st.code = 0 then none else some (.status st))) s.trailers)] := by
  rw [onCall_ret]
  exact (List.append_nil _).trans (finish_frames sid ({ s with hstatus := .returned } : SStream α) _ hcl)

/-- if the receive loop finished the stream first, the handler's return puts nothing on the wire: one
    close frame per RPC -/
theorem ret_frames_of_closed (cfg : SCfg) (sid : Sid) (s : SStream α) (st : Status) (hcl : s.closed = true) :
    (s.onCall cfg sid (.ret st)).2.frames = [] := by
  rw [onCall_ret]
  exact (List.append_nil _).trans (finish_frames_of_closed sid ({ s with hstatus := .returned } : SStream α) _ _ hcl)

theorem setTrailer_accumulates (cfg : SCfg) (sid : Sid) (s : SStream α) (md : MD) (h : s.closed = false) :
    s.onCall cfg sid (.setTrailer md) =
      ({ s with trailers := MD.join s.trailers md }, { dones := [(sid, "settlr", .ok)] }) := by
  rw [onCall_setTrailer, h]; rfl

theorem setTrailer_after_close (cfg : SCfg) (sid : Sid) (s : SStream α) (md : MD) (h : s.closed = true) :
    s.onCall cfg sid (.setTrailer md) = (s, { dones := [(sid, "settlr", .ok)] }) := by
  rw [onCall_setTrailer, h]; rfl

theorem setHeader_accumulates (cfg : SCfg) (sid : Sid) (s : SStream α) (md : MD) (h : s.sentHeaders = false) :
    s.onCall cfg sid (.setHeader md) =
      ({ s with headers := MD.join s.headers md }, { dones := [(sid, "sethdr", .ok)] }) := by
  rw [onCall_setHeader, h]; rfl

theorem setHeader_refused (cfg : SCfg) (sid : Sid) (s : SStream α) (md : MD) (h : s.sentHeaders = true) :
    s.onCall cfg sid (.setHeader md) = (s, { dones := [(sid, "sethdr", .other "already sent headers")] }) := by
  rw [onCall_setHeader, h]; rfl

theorem sendHeader_emits (cfg : SCfg) (sid : Sid) (s : SStream α) (md : MD) (h : s.sentHeaders = false) :
    s.onCall cfg sid (.sendHeader md) =
      ({ s with headers := [], sentHeaders := true },
       { frames := [(sid, .headers (MD.join s.headers md))], dones := [(sid, "sendhdr", .ok)] }) := by
  rw [onCall_sendHeader, h]; rfl

theorem sendHeader_refused (cfg : SCfg) (sid : Sid) (s : SStream α) (md : MD) (h : s.sentHeaders = true) :
    s.onCall cfg sid (.sendHeader md) = (s, { dones := [(sid, "sendhdr", .other "already sent headers")] }) := by
  rw [onCall_sendHeader, h]; rfl

theorem setTrailers_fold (cfg : SCfg) (sid : Sid) (mds : List MD) : ∀ (s : SStream α), s.closed = false →
    let s' := mds.foldl (fun x md => (x.onCall cfg sid (.setTrailer md)).1) s
    s'.trailers = mds.foldl MD.join s.trailers ∧ s'.closed = false ∧ s'.sentHeaders = s.sentHeaders ∧
    s'.headers = s.headers := by
  induction mds with
  | nil => intro s h; exact ⟨rfl, h, rfl, rfl⟩
  | cons md mds ih =>
    intro s h
    rw [List.foldl_cons, List.foldl_cons, setTrailer_accumulates cfg sid s md h]
    exact ih _ h

/-- **C02, server: trailers set before the return are exactly those on the close frame** -/
theorem ret_after_setTrailers (cfg : SCfg) (sid : Sid) (s : SStream α) (mds : List MD) (st : Status)
    (hcl : s.closed = false) :
    let s' := mds.foldl (fun x md => (x.onCall cfg sid (.setTrailer md)).1) s
    (s'.onCall cfg sid (.ret st)).2.frames =
      (if s.sentHeaders then [] else [(sid, .headers s.headers)]) ++
      [(sid, .close (SErr.wireStatus (if st.code = 0 then none else some (.status st)))
              (mds.foldl MD.join s.trailers))] := by
  intro s'
  obtain ⟨h1, h2, h3, h4⟩ := setTrailers_fold cfg sid mds s hcl
  rw [ret_frames cfg sid s' st h2, h1, h3, h4]

end Server

section Client
open Proofs.ClientOps

/-- **the first headers frame is what `Header()` returns**: it is recorded, and a `Header()` call blocked
    at that moment completes with it -/
theorem first_headers_recorded (cfg : CCfg) (sid : Sid) (s : CStream α) (md : MD) (h : s.gotHeaders = false) :
    (s.onFrame cfg sid (.headers md)).1.headers = md ∧ (s.onFrame cfg sid (.headers md)).1.gotHeaders = true ∧
    (s.onFrame cfg sid (.headers md)).1.pheader = false ∧
    (s.onFrame cfg sid (.headers md)).2.dones = (if s.pheader then [(sid, "header", .md md)] else []) ∧
    (s.onFrame cfg sid (.headers md)).2.frames = [] := by
  rw [onFrame_headers cfg sid s md h]
  exact ⟨rfl, rfl, rfl, rfl, rfl⟩

theorem later_headers_ignored (cfg : CCfg) (sid : Sid) (s : CStream α) (md : MD) (h : s.gotHeaders = true) :
    s.onFrame cfg sid (.headers md) = (s, {}) := by
  rw [onFrame_headers_eq, h]; rfl

theorem header_call_returns (cfg : CCfg) (sid : Sid) (s : CStream α) (h : s.gotHeaders = true) :
    s.onCall cfg sid .header = (s, { dones := [(sid, "header", .md s.headers)] }) := by
  rw [onCall_header, h]; rfl

/-- the first headers frame decides what every later `Header()` returns, whatever headers frames follow -/
theorem header_after_frames (cfg : CCfg) (sid : Sid) (s : CStream α) (md md' : MD) (h : s.gotHeaders = false) :
    let s1 := (s.onFrame cfg sid (.headers md)).1
    s1.onFrame cfg sid (.headers md') = (s1, {}) ∧
    s1.onCall cfg sid .header = (s1, { dones := [(sid, "header", .md md)] }) := by
  intro s1
  have h1 := first_headers_recorded cfg sid s md h
  refine ⟨later_headers_ignored cfg sid s1 md' h1.2.1, ?_⟩
  rw [header_call_returns cfg sid s1 h1.2.1, h1.1]

theorem trailer_call_done (cfg : CCfg) (sid : Sid) (s : CStream α) (h : s.doneSignal = true) :
    s.onCall cfg sid .trailer = (s, { dones := [(sid, "trailer", .md s.trailers)] }) := by
  rw [ClientOps.onCall_trailer, h]; rfl

theorem trailer_call_early (cfg : CCfg) (sid : Sid) (s : CStream α) (h : s.doneSignal = false) :
    s.onCall cfg sid .trailer = (s, { dones := [(sid, "trailer", .md [])] }) := by
  rw [ClientOps.onCall_trailer, h]; rfl

/-- **C02, client: after the close frame** (on an RPC without terminal result) the terminal result is the
    frame's status (OK ↦ end-of-stream) and `Trailer()` returns exactly the frame's trailers -/
theorem trailers_after_close_frame (cfg : CCfg) (sid : Sid) (s : CStream α) (st : Status) (tr : MD)
    (hd : s.done = none) :
    let r := s.onFrame cfg sid (.close st tr)
    r.1.done = some (if st.code = 0 then .eof else .status st) ∧ r.1.trailers = tr ∧ r.1.doneSignal = true ∧
    r.1.onCall cfg sid .trailer = (r.1, { dones := [(sid, "trailer", .md tr)] }) := by
  intro r
  have h := Proofs.ClientShape.close_frame_outcome cfg sid s st tr hd
  rw [Proofs.ClientShape.mapFinishErr_statusErr] at h
  refine ⟨h.1, h.2.1, h.2.2.1, ?_⟩
  rw [trailer_call_done cfg sid r.1 h.2.2.1, h.2.1]

/-- **C02, one step end to end.** A handler returns status `st` on a stream `s` that is not closed; the
    close frame this puts on the wire is delivered to a caller-side stream `c` without terminal result.
    Then the caller's terminal result is exactly `st` (end-of-stream for OK) and its trailers are exactly
    the handler's accumulated trailers. -/
theorem C02_status_trailers_exact (scfg : SCfg) (ccfg : CCfg) (sid : Sid) (s : SStream α) (c : CStream α)
    (st : Status) (hcl : s.closed = false) (hd : c.done = none) :
    let w := SErr.wireStatus (if st.code = 0 then none else some (.status st))
    (s.onCall scfg sid (.ret st)).2.frames =
      (if s.sentHeaders then [] else [(sid, .headers s.headers)]) ++ [(sid, .close w s.trailers)] ∧
    (let r := c.onFrame ccfg sid (.close w s.trailers)
     r.1.done = some (if st.code = 0 then .eof else .status st) ∧ r.1.trailers = s.trailers ∧
     r.1.doneSignal = true ∧
     r.1.onCall ccfg sid .trailer = (r.1, { dones := [(sid, "trailer", .md s.trailers)] })) := by
  intro w
  have h := trailers_after_close_frame ccfg sid c w s.trailers hd
  rw [← Proofs.ClientShape.mapFinishErr_statusErr, status_roundtrip] at h
  exact ⟨ret_frames scfg sid s st hcl, h⟩

/-- likewise for the headers: what `SendHeader` emits is what the caller's `Header()` returns -/
theorem C02_headers_exact (scfg : SCfg) (ccfg : CCfg) (sid : Sid) (s : SStream α) (c : CStream α) (md : MD)
    (hs : s.sentHeaders = false) (hg : c.gotHeaders = false) :
    (s.onCall scfg sid (.sendHeader md)).2.frames = [(sid, .headers (MD.join s.headers md))] ∧
    (let c1 := (c.onFrame ccfg sid (.headers (MD.join s.headers md))).1
     c1.onCall ccfg sid .header = (c1, { dones := [(sid, "header", .md (MD.join s.headers md))] })) :=
  ⟨by rw [sendHeader_emits scfg sid s md hs], (header_after_frames ccfg sid c _ [] hg).2⟩

end Client

section Examples

/-- a decidable view of an emitted server frame -/
structure FrameView where
  sid : Int
  kind : String
  code : Nat := 0
  md : MD := []
  deriving DecidableEq

def frameView (f : Sid × S2C Nat) : FrameView :=
  match f.2 with
  | .headers md => { sid := f.1, kind := "headers", md := md }
  | .close st tr => { sid := f.1, kind := "close", code := st.code, md := tr }
  | _ => { sid := f.1, kind := "?" }

-- Two RPCs; the handler of 2 returns NotFound: one headers frame, one close frame with the
-- trailers set before, and the stream leaves the table.  Then the carrier ends: `serveReturns`
-- cancels every context, so the blocked read of 0 returns the context error, but it does not
-- empty the table: 0 stays in it until its handler returns (`TInv`: in the table iff
-- `finishStream` has not run).
example :
    let cfg : SCfg := { services := [([1], { methods := [], streams := [([2], true, true)] })] }
    let r := Srv.run (α := Nat) cfg {}
      [.frame 0 (.newStream [47, 1, 47, 2] [] 1 10), .frame 2 (.newStream [47, 1, 47, 2] [] 1 10),
       .call 0 .recv, .call 2 (.setTrailer [("k", ["v"])]), .call 2 (.ret (mkStatus 5 "nf")), .carrierEnds none]
    r.2.map (fun o => o.frames.map frameView) =
      [[], [], [], [],
       [{ sid := 2, kind := "headers" }, { sid := 2, kind := "close", code := 5, md := [("k", ["v"])] }], []] ∧
    r.2.map (fun o => o.dones.map doneView) =
      [[], [], [], [{ sid := 2, op := "settlr", kind := "ok" }], [],
       [{ sid := 0, op := "recv", kind := "ctx-canceled" }]] ∧
    r.1.table = [0] ∧ r.1.returned = some none ∧
    (r.1.onCall cfg 0 (.ret (mkStatus 0 ""))).1.table = [] := by
  decide +kernel

end Examples

end Proofs.Teardown

#print axioms Proofs.Teardown.srvTInv_run
#print axioms Proofs.Teardown.C14_server_table_exact
#print axioms Proofs.Teardown.server_finished_stays_out
#print axioms Proofs.Teardown.cliCT_run
#print axioms Proofs.Teardown.cliQInv_run
#print axioms Proofs.Teardown.C14_client_inTable
#print axioms Proofs.Teardown.C14_client_table_exact
#print axioms Proofs.Teardown.client_close_empties_table
#print axioms Proofs.Teardown.client_close_empties_table_partial
#print axioms Proofs.Teardown.client_close_empties_table_run
#print axioms Proofs.Teardown.ctxCancelled_dones
#print axioms Proofs.Teardown.C04_client_close
#print axioms Proofs.Teardown.C04_client_close_run
#print axioms Proofs.Teardown.C04_client_finished_never_blocks
#print axioms Proofs.Teardown.newStream_after_close
#print axioms Proofs.Teardown.close_idempotent
#print axioms Proofs.Teardown.step_keeps_finished
#print axioms Proofs.Teardown.C04_server_serveReturns
#print axioms Proofs.Teardown.srvNB_run
#print axioms Proofs.Teardown.C04_server_nothing_blocked_after_return
#print axioms Proofs.Teardown.C04_server_returned_never_blocks
#print axioms Proofs.Teardown.returned_ignores_frames
#print axioms Proofs.Teardown.step_keeps_returned
#print axioms Proofs.Teardown.status_roundtrip
#print axioms Proofs.Teardown.plain_error_roundtrip
#print axioms Proofs.Teardown.ret_frames
#print axioms Proofs.Teardown.ret_after_setTrailers
#print axioms Proofs.Teardown.setHeader_refused
#print axioms Proofs.Teardown.sendHeader_refused
#print axioms Proofs.Teardown.first_headers_recorded
#print axioms Proofs.Teardown.later_headers_ignored
#print axioms Proofs.Teardown.trailers_after_close_frame
#print axioms Proofs.Teardown.C02_status_trailers_exact
#print axioms Proofs.Teardown.C02_headers_exact
