import Proofs.Lemmas.ServerOps
/-! The invariant of the stream ids of the server endpoint (`SInv`). -/
namespace Proofs.Server
open TunnelModel.LFrame Proofs.ServerOps

variable {α : Type}

def ids (s : Srv α) : List Int := s.streams.map (·.1)

/-- `streams` is in creation order, so `Pairwise (· < ·)` says that ids were accepted in increasing order -/
def SInv (s : Srv α) : Prop := (∀ i ∈ ids s, i ≤ s.lastSeen) ∧ (ids s).Pairwise (· < ·)

theorem ids_setAny (s : Srv α) (sid : Sid) (st : SStream α) : ids (s.setAny sid st) = ids s := by
  simp only [ids, Srv.setAny, List.map_map]
  apply List.map_congr_left
  intro e _
  simp only [Function.comp]
  split
  · rename_i h; simp at h; exact h.symm
  · rfl

theorem map_ids (g : Sid × SStream α → SStream α) (l : List (Sid × SStream α)) :
    (l.map (fun e => (e.1, g e))).map (·.1) = l.map (·.1) := by
  rw [List.map_map]; rfl

theorem serveReturns_ids (s : Srv α) (e : Option String) :
    ids (s.serveReturns e).1 = ids s ∧ (s.serveReturns e).1.lastSeen = s.lastSeen := by
  rw [serveReturns_eq]; exact ⟨map_ids _ s.streams, rfl⟩

theorem tick_ids (s : Srv α) (d : Nat) : ids (s.tick d).1 = ids s ∧ (s.tick d).1.lastSeen = s.lastSeen := by
  rw [tick_eq]; exact ⟨map_ids _ s.streams, rfl⟩

theorem createStream_ids (cfg : SCfg) (s : Srv α) (sid : Sid) (m : List Nat) (md : MD) (rev : Int) (win : Nat) :
    (ids (s.createStream cfg sid m md rev win).1 = ids s ∧
      ((s.createStream cfg sid m md rev win).1.lastSeen = s.lastSeen ∨
       (s.lastSeen < sid ∧ (s.createStream cfg sid m md rev win).1.lastSeen = sid))) ∨
    (ids (s.createStream cfg sid m md rev win).1 = ids s ++ [sid] ∧ s.lastSeen < sid ∧
      (s.createStream cfg sid m md rev win).1.lastSeen = sid) := by
  refine createStream_elim
    (motive := fun r => (ids r.1 = ids s ∧ (r.1.lastSeen = s.lastSeen ∨ (s.lastSeen < sid ∧ r.1.lastSeen = sid))) ∨
      (ids r.1 = ids s ++ [sid] ∧ s.lastSeen < sid ∧ r.1.lastSeen = sid))
    cfg s sid m md rev win ?_ ?_ ?_
  · intro tag _
    exact Or.inl ⟨(serveReturns_ids s _).1, Or.inl (serveReturns_ids s _).2⟩
  · intro _ _ _ hlt _
    exact Or.inl ⟨rfl, Or.inr ⟨hlt, rfl⟩⟩
  · intro st _ _ _ hlt _ _ _ _
    refine Or.inr ?_
    split
    · exact ⟨List.map_append, hlt, rfl⟩
    · exact ⟨List.map_append, hlt, rfl⟩

theorem step_ids (cfg : SCfg) (s : Srv α) (x : SStim α) :
    (ids (s.step cfg x).1 = ids s ∧ s.lastSeen ≤ (s.step cfg x).1.lastSeen) ∨
    ∃ sid m md rev win, x = .frame sid (.newStream m md rev win) ∧ ids (s.step cfg x).1 = ids s ++ [sid] ∧
      s.lastSeen < sid ∧ (s.step cfg x).1.lastSeen = sid := by
  have keep : ∀ {r : Srv α × Out α}, ids r.1 = ids s ∧ r.1.lastSeen = s.lastSeen →
      ids r.1 = ids s ∧ s.lastSeen ≤ r.1.lastSeen := fun h => ⟨h.1, h.2 ▸ Int.le_refl _⟩
  cases x with
  | frame sid f =>
    rw [step_frame]
    refine Srv.onFrame_elim (motive := fun r => (ids r.1 = ids s ∧ s.lastSeen ≤ r.1.lastSeen) ∨
        ∃ sid' m md rev win, SStim.frame sid f = .frame sid' (.newStream m md rev win) ∧ ids r.1 = ids s ++ [sid'] ∧
          s.lastSeen < sid' ∧ r.1.lastSeen = sid') cfg s sid f
      (Or.inl ⟨rfl, Int.le_refl _⟩) (fun _ _ => Or.inl (keep (serveReturns_ids s _)))
      (fun _ _ hlt => Or.inl ⟨rfl, Int.le_of_lt hlt⟩) (fun st m md rev win hf hlt _ => Or.inr ⟨sid, m, md, rev, win, ?_⟩)
      (fun _ _ => Or.inl ⟨ids_setAny .., Int.le_refl _⟩)
    rw [hf]
    split <;> exact ⟨rfl, List.map_append, hlt, rfl⟩
  | call sid c =>
    rw [step_call, Srv.onCall_eq]
    split
    · exact Or.inl ⟨rfl, Int.le_refl _⟩
    · exact Or.inl ⟨ids_setAny .., Int.le_refl _⟩
  | tick d => exact Or.inl (keep (tick_ids s d))
  | closing b => exact Or.inl ⟨rfl, Int.le_refl _⟩
  | carrierEnds err =>
    rw [step_carrierEnds]
    split
    · exact Or.inl ⟨rfl, Int.le_refl _⟩
    · exact Or.inl (keep (serveReturns_ids s _))

theorem sinv_init : SInv ({} : Srv α) := by
  simp [SInv, ids]

theorem sinv_step (cfg : SCfg) (s : Srv α) (x : SStim α) (h : SInv s) : SInv (s.step cfg x).1 := by
  obtain ⟨h1, h2⟩ := h
  rcases step_ids cfg s x with ⟨hi, hl⟩ | ⟨sid, _, _, _, _, _, hi, hlt, hl⟩
  · unfold SInv
    rw [hi]
    exact ⟨fun i hm => Int.le_trans (h1 i hm) hl, h2⟩
  · unfold SInv
    rw [hi, hl]
    refine ⟨fun i hm => ?_, List.pairwise_append.mpr ⟨h2, List.pairwise_singleton _ _, fun a ha b hb => ?_⟩⟩
    · rcases List.mem_append.mp hm with hm | hm
      · exact Int.le_trans (h1 i hm) (Int.le_of_lt hlt)
      · rw [List.mem_singleton.mp hm]; exact Int.le_refl _
    · rw [List.mem_singleton.mp hb]
      exact Int.lt_of_le_of_lt (h1 a ha) hlt

theorem sinv_run (cfg : SCfg) : ∀ (xs : List (SStim α)) (s : Srv α), SInv s → SInv (Srv.run cfg s xs).1 :=
  run_keeps (sinv_step cfg)

end Proofs.Server
