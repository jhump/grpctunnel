import TunnelModel.Waiters
import TunnelModel.RoundRobin
/-!
  `waitForReady` against `add` / `remove` on `reverseChannels` (handler.go), for the
  model `TunnelModel.Waiters` that tracks the identity ("generation") of the
  `avail` channel and the generation every waiter captured.

  All statements are for EVERY op list (`run ops`, unbounded), with NO legality
  hypothesis: tunnel ids may be re-added, removes may be redundant (not found,
  repeated, on an empty list), waiter ids may repeat.

  `Inv` is the inductive invariant.  Besides the latch clause (`cur`) and "every
  replaced channel was closed" (`old`) it needs two bounds to be inductive: no
  generation above the current one is closed (`make` is fresh), and no waiter holds a
  generation above the current one.  From it: a parked waiter holds the CURRENT
  generation and the registry is empty, so no wake-up is lost.  With `removeBuggy`
  the run `lostRun` ends ready with a waiter parked for ever, although the Boolean
  abstraction (`gen ∈ closedGens ↔ chans ≠ []`) still holds on that run: only the
  channel identity goes wrong, which is why `RoundRobin.Pool` cannot see it.  Last,
  the refinement to `RoundRobin.Pool` (`abs_run`).
-/
namespace Proofs.Waiters
open TunnelModel.Waiters

theorem removeFirst_some_ne_nil {t : Nat} {l rest : List Nat}
    (h : removeFirst t l = some rest) : l ≠ [] :=
  fun hl => by rw [hl] at h; cases h

theorem removeFirst_none_iff (t : Nat) (l : List Nat) : removeFirst t l = none ↔ t ∉ l := by
  induction l with
  | nil => exact iff_of_true rfl List.not_mem_nil
  | cons a l ih =>
    rw [removeFirst, List.mem_cons, not_or]
    by_cases h : a = t
    · rw [if_pos h]; exact iff_of_false nofun fun hn => hn.1 h.symm
    · rw [if_neg h, ← ih]
      cases removeFirst t l with
      | none => exact iff_of_true rfl ⟨fun e => h e.symm, rfl⟩
      | some r => exact iff_of_false nofun fun hn => nomatch hn.2

theorem remove_of_none {s : State} {t : Nat} (h : removeFirst t s.chans = none) :
    s.remove t = s := by
  simp only [State.remove, h]

theorem remove_of_some {s : State} {t : Nat} {rest : List Nat}
    (h : removeFirst t s.chans = some rest) :
    s.remove t = { s with chans := rest, gen := if rest.length = 0 then s.gen + 1 else s.gen } := by
  simp only [State.remove, h]

theorem remove_not_mem (s : State) (t : Nat) (h : t ∉ s.chans) : s.remove t = s :=
  remove_of_none ((removeFirst_none_iff t s.chans).2 h)

theorem remove_nil (s : State) (t : Nat) (h : s.chans = []) : s.remove t = s :=
  remove_not_mem s t (h ▸ List.not_mem_nil)

/-- `add` closes the current channel when it registers the first tunnel, and nothing else -/
theorem mem_add_closedGens {s : State} {t g : Nat} :
    g ∈ (s.add t).closedGens ↔ (s.chans = [] ∧ g = s.gen) ∨ g ∈ s.closedGens := by
  show g ∈ (if (s.chans ++ [t]).length = 1 then s.gen :: s.closedGens else s.closedGens) ↔ _
  cases s.chans <;> simp

structure Inv (s : State) : Prop where
  /-- the channel in `c.avail` is closed iff there is a tunnel -/
  cur : s.gen ∈ s.closedGens ↔ s.chans ≠ []
  /-- every replaced channel had been closed -/
  old : ∀ g, g < s.gen → g ∈ s.closedGens
  bound : ∀ g ∈ s.closedGens, g ≤ s.gen
  wbound : ∀ p ∈ s.waiters, p.2 ≤ s.gen

theorem Inv.init : Inv State.init where
  cur := iff_of_false List.not_mem_nil fun h => h rfl
  old := fun g hg => absurd hg (Nat.not_lt_zero g)
  bound := fun _ hg => nomatch hg
  wbound := fun _ hp => nomatch hp

theorem Inv.add {s : State} (h : Inv s) (t : Nat) : Inv (s.add t) where
  cur := iff_of_true
    (mem_add_closedGens.mpr ((Decidable.em (s.chans = [])).imp (⟨·, rfl⟩) h.cur.2))
    (List.append_ne_nil_of_right_ne_nil _ (List.cons_ne_nil _ _))
  old := fun g hg => mem_add_closedGens.mpr (Or.inr (h.old g hg))
  bound := fun g hg => by
    rcases mem_add_closedGens.mp hg with ⟨_, rfl⟩ | hg
    · exact Nat.le_refl _
    · exact h.bound g hg
  wbound := h.wbound

theorem Inv.remove {s : State} (h : Inv s) (t : Nat) : Inv (s.remove t) := by
  cases hr : removeFirst t s.chans with
  | none => rw [remove_of_none hr]; exact h
  | some rest =>
    rw [remove_of_some hr]
    have hcl : s.gen ∈ s.closedGens := h.cur.2 (removeFirst_some_ne_nil hr)
    cases rest with
    | cons a l => exact ⟨iff_of_true hcl (List.cons_ne_nil _ _), h.old, h.bound, h.wbound⟩
    | nil =>
      -- the last tunnel went: `c.avail = make(chan struct{})` is generation `gen + 1`, open
      refine ⟨iff_of_false (fun hm => ?_) fun hne => hne rfl, fun g hg => ?_,
        fun g hg => Nat.le_succ_of_le (h.bound g hg), fun p hp => Nat.le_succ_of_le (h.wbound p hp)⟩
      · exact absurd (h.bound _ hm) (Nat.not_succ_le_self _)
      · rcases Nat.lt_succ_iff_lt_or_eq.mp hg with hg | rfl
        · exact h.old g hg
        · exact hcl

theorem Inv.wait {s : State} (h : Inv s) (w : Nat) : Inv (s.wait w) := by
  refine ⟨h.cur, h.old, h.bound, fun p hp => ?_⟩
  rcases List.mem_append.mp hp with hp | hp
  · exact h.wbound p hp
  · rw [List.mem_singleton.mp hp]; exact Nat.le_refl _

theorem Inv.step {s : State} (h : Inv s) (op : Op) : Inv (step s op) := by
  cases op with
  | add t => exact h.add t
  | remove t => exact h.remove t
  | wait w => exact h.wait w

theorem inv_runFrom {s : State} (h : Inv s) (ops : List Op) : Inv (runFrom s ops) := by
  induction ops generalizing s with
  | nil => exact h
  | cons op ops ih => exact ih (h.step op)

theorem inv_run (ops : List Op) : Inv (run ops) := inv_runFrom Inv.init ops

theorem runFrom_append (s : State) (ops₁ ops₂ : List Op) :
    runFrom s (ops₁ ++ ops₂) = runFrom (runFrom s ops₁) ops₂ :=
  List.foldl_append

theorem run_snoc (ops : List Op) (op : Op) : run (ops ++ [op]) = step (run ops) op :=
  runFrom_append State.init ops [op]

/-- in every reachable state the current `avail` is closed iff the list is
    non-empty, and every older `avail` is closed -/
theorem latch_inv (ops : List Op) :
    ((run ops).gen ∈ (run ops).closedGens ↔ (run ops).chans ≠ []) ∧
    (∀ g, g < (run ops).gen → g ∈ (run ops).closedGens) :=
  ⟨(inv_run ops).cur, (inv_run ops).old⟩

/-- the `close(c.avail)` of `add` (executed iff the list was empty) always closes
    an OPEN channel: Go's "close of closed channel" panic is unreachable -/
theorem add_closes_open_channel (ops : List Op) (h : (run ops).chans = []) :
    (run ops).gen ∉ (run ops).closedGens :=
  fun hm => (inv_run ops).cur.1 hm h

theorem Inv.parked_on_current {s : State} (h : Inv s) {p : Nat × Nat}
    (hp : p ∈ s.waiters) (hb : s.blocked p.2) : p.2 = s.gen ∧ s.chans = [] := by
  have heq : p.2 = s.gen :=
    Nat.le_antisymm (h.wbound p hp) (Nat.le_of_not_lt fun hlt => hb (h.old _ hlt))
  exact ⟨heq, Decidable.byContradiction fun hc => hb (heq ▸ h.cur.2 hc)⟩

/-- every parked waiter captured the CURRENT generation, and if any waiter is
    parked the registry is empty -/
theorem parked_on_current (ops : List Op) (w g : Nat)
    (hw : (w, g) ∈ (run ops).waiters) (hb : g ∉ (run ops).closedGens) :
    g = (run ops).gen ∧ (run ops).chans = [] :=
  (inv_run ops).parked_on_current hw hb

theorem parked_registry_empty (ops : List Op) (w : Nat) (h : (run ops).parked w) :
    (run ops).chans = [] := by
  obtain ⟨p, hp, _, hb⟩ := h
  exact ((inv_run ops).parked_on_current hp hb).2

theorem Inv.no_lost_wakeup {s : State} (h : Inv s) (hr : s.ready) : s.noneParked :=
  fun _ hp hb => hr (h.parked_on_current hp hb).2

/-- `WaitForReady` reflects whether the set is non-empty: while a tunnel is
    registered, no goroutine is parked in `waitForReady` -/
theorem no_lost_wakeup (ops : List Op) (hr : (run ops).ready) : ∀ w, ¬ (run ops).parked w :=
  fun _ ⟨p, hp, _, hb⟩ => (inv_run ops).no_lost_wakeup hr p hp hb

theorem no_lost_wakeup' (ops : List Op) (hr : (run ops).ready) : (run ops).noneParked :=
  (inv_run ops).no_lost_wakeup hr

theorem add_ready (s : State) (t : Nat) : (s.add t).ready :=
  List.append_ne_nil_of_right_ne_nil _ (List.cons_ne_nil _ _)

theorem after_add_none_parked (ops : List Op) (t : Nat) :
    ∀ w, ¬ (run (ops ++ [Op.add t])).parked w :=
  no_lost_wakeup _ (by rw [run_snoc]; exact add_ready _ t)

theorem Inv.parked_iff_not_ready {s : State} (h : Inv s) {w : Nat} (hw : (w, s.gen) ∈ s.waiters) :
    s.parked w ↔ ¬ s.ready :=
  ⟨fun ⟨p, hp, _, hb⟩ hr => h.no_lost_wakeup hr p hp hb,
   fun hr => ⟨_, hw, rfl, fun hm => hr (h.cur.1 hm)⟩⟩

/-- a goroutine entering `waitForReady` returns at once iff the registry is
    non-empty -/
theorem Inv.waitPasses_iff {s : State} (h : Inv s) : s.waitPasses ↔ s.ready :=
  Decidable.not_not.trans h.cur

theorem wait_returns_iff (ops : List Op) : (run ops).waitPasses ↔ (run ops).ready :=
  (inv_run ops).waitPasses_iff

/-- the same through the state after the `wait` step: the new waiter `w` is parked
    iff the registry is empty (also when the id `w` was used before) -/
theorem Inv.wait_parks_iff {s : State} (h : Inv s) (w : Nat) : (s.wait w).parked w ↔ ¬ s.ready :=
  (h.wait w).parked_iff_not_ready (List.mem_append_right _ (List.mem_singleton.mpr rfl))

theorem wait_parks_iff (ops : List Op) (w : Nat) :
    (run (ops ++ [Op.wait w])).parked w ↔ ¬ (run ops).ready := by
  rw [run_snoc]; exact (inv_run ops).wait_parks_iff w

/-- waiter 7 parks on the empty registry (generation 0); a redundant
    `remove 1` replaces `avail` (generation 1); `add 1` closes generation 1.
    The registry is ready and waiter 7 still sleeps on generation 0, which
    nobody will ever close. -/
def lostRun : List Op := [.wait 7, .remove 1, .add 1]

theorem buggy_loses_wakeup : (runBuggy lostRun).ready ∧ (runBuggy lostRun).parked 7 := by decide +kernel

theorem buggy_final_state :
    runBuggy lostRun = { chans := [1], gen := 1, closedGens := [1], waiters := [(7, 0)] } := by
  decide +kernel

/-- `no_lost_wakeup` is FALSE for the faulty variant -/
theorem buggy_no_lost_wakeup_false :
    ¬ ∀ ops, (runBuggy ops).ready → ∀ w, ¬ (runBuggy ops).parked w :=
  fun h => h lostRun buggy_loses_wakeup.1 7 buggy_loses_wakeup.2

/-- a waiter parked on a generation older than the current one stays so: nothing removes a
    waiter, the generation only grows, and `add` closes only the current generation -/
theorem stepBuggy_lost {s : State} {p : Nat × Nat}
    (h : p ∈ s.waiters ∧ p.2 < s.gen ∧ s.blocked p.2) (op : Op) :
    p ∈ (stepBuggy s op).waiters ∧ p.2 < (stepBuggy s op).gen ∧ (stepBuggy s op).blocked p.2 := by
  obtain ⟨hp, hg, hb⟩ := h
  cases op with
  | add t =>
    refine ⟨hp, hg, fun hm => ?_⟩
    rcases mem_add_closedGens.mp hm with ⟨_, heq⟩ | hm
    · exact Nat.ne_of_lt hg heq
    · exact hb hm
  | remove t =>
    refine ⟨hp, ?_, hb⟩
    show p.2 < if _ then s.gen + 1 else s.gen
    split
    · exact Nat.lt_succ_of_lt hg
    · exact hg
  | wait w => exact ⟨List.mem_append_left _ hp, hg, hb⟩

theorem runBuggyFrom_lost {s : State} {p : Nat × Nat}
    (h : p ∈ s.waiters ∧ p.2 < s.gen ∧ s.blocked p.2) (ops : List Op) :
    (runBuggyFrom s ops).parked p.1 := by
  induction ops generalizing s with
  | nil => exact ⟨p, h.1, rfl, h.2.2⟩
  | cons op ops ih => exact ih (stepBuggy_lost h op)

/-- generation 0 is never closed afterwards: the waiter is lost for good -/
theorem buggy_lost_forever (ops : List Op) : (runBuggy (lostRun ++ ops)).parked 7 := by
  have : runBuggy (lostRun ++ ops) = runBuggyFrom (runBuggy lostRun) ops := List.foldl_append
  rw [this, buggy_final_state]
  exact runBuggyFrom_lost (p := (7, 0)) (by decide) ops

/-- the same run with the real `remove` is fine -/
theorem buggy_run_ok_with_real_remove : (run lostRun).ready ∧ ¬ (run lostRun).parked 7 := by decide +kernel

/-- the fault is invisible to the Boolean latch: "current channel closed iff
    non-empty" still holds at the end of the faulty run -/
theorem buggy_latch_still_ok :
    ((runBuggy lostRun).gen ∈ (runBuggy lostRun).closedGens ↔ (runBuggy lostRun).chans ≠ []) := by
  decide +kernel

open TunnelModel.RoundRobin in
/-- forget channel identity and waiters; keys (not modelled here) are 0 -/
def abs (s : State) : Pool :=
  { chans := s.chans.map (fun t => (t, 0)), idx := 0, latchClosed := decide (s.gen ∈ s.closedGens) }

open TunnelModel.RoundRobin in
def poolStep (p : Pool) : Op → Pool
  | .add t => p.add t 0
  | .remove t => (p.remove t).1
  | .wait _ => p

theorem removeFirst_abs (t : Nat) (l : List Nat) :
    TunnelModel.RoundRobin.removeFirst t (l.map (fun t => (t, 0))) =
      (removeFirst t l).map (fun r => (0, r.map (fun t => (t, 0)))) := by
  induction l with
  | nil => rfl
  | cons a l ih =>
    rw [List.map_cons, TunnelModel.RoundRobin.removeFirst, removeFirst, ih]
    split
    · rfl
    · cases removeFirst t l <;> rfl

open TunnelModel.RoundRobin in
/-- one step of this model is one step of `Pool` on the abstraction (needs the
    invariant: a fresh channel is open) -/
theorem abs_step {s : State} (h : Inv s) (op : Op) : abs (step s op) = poolStep (abs s) op := by
  cases op with
  | add t =>
    simp only [step, poolStep, abs, State.add, Pool.add, List.map_append, List.map_cons,
      List.map_nil, List.length_append, List.length_map, List.length_cons, List.length_nil]
    by_cases hc : s.chans = []
    · simp [hc]
    · simp [hc]
  | remove t =>
    show abs (s.remove t) = ((abs s).remove t).1
    have ha : TunnelModel.RoundRobin.removeFirst t (abs s).chans = _ := removeFirst_abs t s.chans
    rw [Pool.remove, ha]
    cases hr : removeFirst t s.chans with
    | none => rw [remove_of_none hr]; rfl
    | some rest =>
      rw [remove_of_some hr]
      cases rest with
      | cons a l => rfl
      | nil =>
        have : s.gen + 1 ∉ s.closedGens := fun hm => Nat.not_succ_le_self _ (h.bound _ hm)
        exact congrArg (Pool.mk [] 0) (decide_eq_false this)
  | wait w => rfl

open TunnelModel.RoundRobin in
theorem abs_runFrom {s : State} (h : Inv s) (ops : List Op) :
    abs (runFrom s ops) = ops.foldl poolStep (abs s) := by
  induction ops generalizing s with
  | nil => rfl
  | cons op ops ih =>
    show abs (runFrom (step s op) ops) = ops.foldl poolStep (poolStep (abs s) op)
    rw [← abs_step h]; exact ih (h.step op)

open TunnelModel.RoundRobin in
theorem abs_run (ops : List Op) : abs (run ops) = ops.foldl poolStep Pool.empty :=
  abs_runFrom Inv.init ops

open TunnelModel.RoundRobin in
theorem abs_all (ops : List Op) :
    (ops.foldl poolStep Pool.empty).chans.map (·.1) = (run ops).chans ∧
    (ops.foldl poolStep Pool.empty).latchClosed = decide ((run ops).gen ∈ (run ops).closedGens) := by
  rw [← abs_run]
  exact ⟨(List.map_map ..).trans (List.map_id _), rfl⟩

#print axioms latch_inv
#print axioms parked_on_current
#print axioms no_lost_wakeup
#print axioms after_add_none_parked
#print axioms wait_returns_iff
#print axioms wait_parks_iff
#print axioms buggy_loses_wakeup
#print axioms buggy_no_lost_wakeup_false
#print axioms buggy_lost_forever
#print axioms abs_run

/-- a waiter released by an add: waiters 1 and 2 park on generation 0 (after two
    redundant removes on the empty list), `add 5` releases both -/
example :
    (run [.remove 9, .wait 1, .remove 9, .remove 9, .wait 2]).parked 1 ∧
    (run [.remove 9, .wait 1, .remove 9, .remove 9, .wait 2]).parked 2 ∧
    (run [.remove 9, .wait 1, .remove 9, .remove 9, .wait 2, .add 5]).ready ∧
    (run [.remove 9, .wait 1, .remove 9, .remove 9, .wait 2, .add 5]).noneParked := by decide +kernel

/-- redundant removes in between, several generations: fill, drain (with double
    and foreign removes), a waiter parks on generation 1, more redundant removes,
    a second waiter, then an add releases both; later a third waiter parks on
    generation 2 while the first two stay released -/
example :
    let ops₁ : List Op := [.add 1, .add 2, .wait 10, .remove 1, .remove 1, .remove 3, .remove 2,
                           .remove 2, .wait 11, .remove 1, .remove 2, .wait 12]
    let ops₂ := ops₁ ++ [.add 4]
    let ops₃ := ops₂ ++ [.remove 4, .remove 4, .wait 13]
    (run ops₁).gen = 1 ∧ ¬ (run ops₁).parked 10 ∧ (run ops₁).parked 11 ∧ (run ops₁).parked 12 ∧
    (run ops₂).ready ∧ (run ops₂).noneParked ∧
    (run ops₃).gen = 2 ∧ (run ops₃).parked 13 ∧ ¬ (run ops₃).parked 11 ∧ ¬ (run ops₃).parked 12 ∧
    (run ops₃).waiters = [(10, 0), (11, 1), (12, 1), (13, 2)] := by decide +kernel

end Proofs.Waiters
