import Proofs.Lemmas.LockTable
/-!
  The table obligations of C15 are closed by kernel evaluation over the regenerated
  table.  Two things make that evaluation dear, whatever the table contains:

  * `protOf a` looks up `(a.strct, a.field)`, a pair of projections of the whole row, so
    no two rows ask the kernel for the same term.  Taking the row apart first makes the
    key a pair of literals; rows of the same field then share one evaluation of the lookup.
  * `splitSections`, `atomicOps`, `newStreamSends`, `idWrites` compare long names before
    the section number / the short `how` / the flag `write`, which rule out most rows.
    The cheap test first is the same Boolean.

  The variants below are proved equal to the originals for every table; the obligations
  evaluate the variants.
-/
namespace Proofs.C15
open TunnelModel.Generated

def protOfKey : Access → Option Prot
  | ⟨s, f, _, _, _, _, _, _, _, _⟩ => protections.lookup (s, f)

theorem protOf_eq_key (a : Access) : protOf a = protOfKey a := by cases a; rfl

theorem violations_eq_key (t : List Access) :
    violations t = t.filter (fun a => !(match protOfKey a with | none => false | some p => obeys p a)) := by
  simp only [violations, accessOK, protOf_eq_key]; rfl

def guardedKey : SecRow → Bool
  | (_, l, _, _, s, f, _) => protectedBy l s f

theorem guardedRows_eq_key (t : List SecRow) : guardedRows t = t.filter guardedKey := by
  unfold guardedRows
  congr 1

def splitSectionsKey (t : List SecRow) : List (String × String) :=
  let g := t.filter guardedKey
  ((g.filter (fun r => g.any (fun r' => r'.2.2.1 != r.2.2.1 && (r'.1 == r.1 && r'.2.1 == r.2.1) &&
      (r.2.2.2.2.2.2 || r'.2.2.2.2.2.2)))).map (fun r => (r.1, r.2.1))).eraseDups

theorem splitSections_eq_key (t : List SecRow) : splitSections t = splitSectionsKey t := by
  unfold splitSections splitSectionsKey
  rw [guardedRows_eq_key]
  have h : ∀ a b c d : Bool, (a && b && c && d) = (c && (a && b) && d) := by decide
  simp only [h]

theorem writesUnderRLock_eq_key (t : List SecRow) :
    writesUnderRLock t = (t.filter guardedKey).filter (fun r => r.2.2.2.1 && r.2.2.2.2.2.2) := by
  unfold writesUnderRLock
  rw [guardedRows_eq_key]

theorem atomicOps_eq_key (t : List Access) (fn strct field : String) :
    atomicOps t fn strct field =
      ((t.filter (fun a => a.how == "atomic" && (a.fn == fn && a.strct == strct && a.field == field))).map
        (·.method)).eraseDups := by
  have h : ∀ a b c d : Bool, (a && b && c && d) = (d && (a && b && c)) := by decide
  simp only [atomicOps, h]

theorem newStreamSends_eq_key (t : List Access) :
    newStreamSends t = t.filter (fun a => a.how == "call" && a.method == "Send" &&
      (a.fn == "tunnelChannel.newStream" && a.strct == "tunnelChannel" && a.field == "stream")) := by
  have h : ∀ a b c d e : Bool, (a && b && c && d && e) = (d && e && (a && b && c)) := by decide
  simp only [newStreamSends, h]

theorem idWrites_eq_key (t : List Access) :
    idWrites t = t.filter (fun a => a.write && (a.strct == "tunnelChannel" && a.field == "lastStreamID")) := by
  have h : ∀ a b c : Bool, (a && b && c) = (c && (a && b)) := by decide
  simp only [idWrites, h]

end Proofs.C15
