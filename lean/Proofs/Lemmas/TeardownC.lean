import Proofs.Lemmas.ClientOps
import Proofs.Lemmas.ClientInv
import Proofs.Lemmas.ClientShape
/-!
  Tear-down on the client endpoint: the stream table (C14) and `close` (C04).

  Everything rests on invariants of the reachable states.  Per stream: `ClientShape.WF` (an RPC
  that has its terminal result is settled and out of the table), its converse `CT` (an RPC
  without one is in the table), and `QInv` (a blocked read has drained the queue, so waking it
  on a closed receiver cannot deliver a message).  For the endpoint: `FinOut` (once the channel
  is finished no stream is in the table).  `CT` comes from a relation `CRel` that holds of every
  elementary step (`ClientOps.Atom`).  `QInv` fails between the two passes of a look-ahead read,
  so it is proved of the operations (`ClientOps.Op`) instead.
-/
namespace Proofs.Teardown
open TunnelModel TunnelModel.LFrame TunnelModel.Framing

variable {α : Type}

section Client
open Proofs.ClientOps
open Proofs.ClientShape (WF AllWF ctxCancelled_WF cancel_settled_WF finish_shape cancelStream_shape pumpSend_shape
  step_AllWF start_AllWF)

def CT (s : CStream α) : Prop := s.done = none → s.inTable = true

def QInv (s : CStream α) : Prop := s.pread.isSome = true → s.rcv.queue = []

def CRel (s s' : CStream α) : Prop :=
  (s'.done = s.done ∧ s'.inTable = s.inTable) ∨ (s'.done.isSome = true ∧ s'.inTable = false)

theorem CRel.refl (s : CStream α) : CRel s s := Or.inl ⟨rfl, rfl⟩

theorem CRel.trans {a b c : CStream α} (h1 : CRel a b) (h2 : CRel b c) : CRel a c := by
  rcases h2 with ⟨h2c, h2t⟩ | h2'
  · rcases h1 with ⟨h1c, h1t⟩ | ⟨h1c, h1t⟩
    · exact Or.inl ⟨h2c.trans h1c, h2t.trans h1t⟩
    · exact Or.inr ⟨by rw [h2c]; exact h1c, h2t.trans h1t⟩
  · exact Or.inr h2'

theorem CRel.of_eq {s s' : CStream α} (hd : s'.done = s.done) (ht : s'.inTable = s.inTable) : CRel s s' :=
  Or.inl ⟨hd, ht⟩

theorem CRel.ct {s s' : CStream α} (h : CRel s s') (hi : CT s) : CT s' := by
  intro hd
  rcases h with ⟨h1, h2⟩ | ⟨h1, _⟩
  · rw [h2]; exact hi (h1 ▸ hd)
  · rw [hd] at h1; cases h1

theorem CRel.out {s s' : CStream α} (h : CRel s s') (ht : s.inTable = false) : s'.inTable = false := by
  rcases h with ⟨_, h1⟩ | ⟨_, h1⟩
  · rw [h1]; exact ht
  · exact h1

/-- only the step in which `finishStream` wins touches `done` and `inTable` -/
theorem tatom_crel {sid : Sid} {s s' : CStream α} {o : COut α} (h : TAtom sid s s' o) : CRel s s' := by
  cases h with
  | ctxEnds e _ => exact CRel.of_eq rfl rfl
  | finPre err tr _ => exact Or.inr ⟨rfl, rfl⟩
  | cancelTail _ => exact CRel.of_eq rfl rfl
  | read r =>
    obtain ⟨_, _, _, _, _, _, _, -, -, rfl, -⟩ := r.shape
    exact CRel.of_eq rfl rfl

theorem atom_crel {sid : Sid} {s s' : CStream α} {o : COut α} (h : Atom sid s s' o) : CRel s s' := by
  cases h with
  | tear h => exact tatom_crel h
  | prep h => cases h <;> exact CRel.of_eq rfl rfl
  | sent cfg snd =>
    obtain ⟨_, _, h, -⟩ := pumpSend_shape cfg sid s snd
    rw [h]; exact CRel.of_eq rfl rfl
  | upd h => cases h <;> exact CRel.of_eq rfl rfl
  | completes => exact CRel.refl s

theorem tchain_crel {sid : Sid} {s s' : CStream α} {o : COut α} (h : Chain (TAtom sid) s s' o) : CRel s s' :=
  h.fold_state CRel.refl CRel.trans tatom_crel

theorem chain_crel {sid : Sid} {s s' : CStream α} {o : COut α} (h : Chain (Atom sid) s s' o) : CRel s s' :=
  h.fold_state CRel.refl CRel.trans atom_crel

theorem stepEv_crel (cfg : CCfg) (sid : Sid) (s : CStream α) (ev : CEv α) : CRel s (s.stepEv cfg sid ev).1 :=
  chain_crel (stepEv_chain cfg sid s ev)

theorem ct_lift (cfg : CCfg) : CLift cfg (CT (α := α)) :=
  ⟨fun sid s ev => (stepEv_crel cfg sid s ev).ct, fun _ h => h, fun _ _ _ _ _ => rfl⟩

theorem finish_ct (sid : Sid) (s : CStream α) (err : Option SErr) (tr : MD) (h : CT s) :
    CT (s.finish sid err tr).1 := (tchain_crel (finish_chain sid s err tr)).ct h
theorem cancelStream_ct (sid : Sid) (s : CStream α) (err : SErr) (h : CT s) :
    CT (s.cancelStream sid err).1 := (tchain_crel (cancelStream_chain sid s err)).ct h
theorem ctxCancelled_ct (sid : Sid) (s : CStream α) (e : CtxErr) (h : CT s) :
    CT (s.ctxCancelled sid e).1 := (tchain_crel (ctxCancelled_chain sid s e)).ct h
theorem onFrame_ct (cfg : CCfg) (sid : Sid) (s : CStream α) (f : S2C α) (h : CT s) :
    CT (s.onFrame cfg sid f).1 := (chain_crel (onFrame_chain cfg sid s f)).ct h
theorem onCall_ct (cfg : CCfg) (sid : Sid) (s : CStream α) (c : CCall α) (h : CT s) :
    CT (s.onCall cfg sid c).1 := (chain_crel (onCall_chain cfg sid s c)).ct h

theorem QInv.of_none {s : CStream α} (h : s.pread = none) : QInv s := by
  intro hp; rw [h] at hp; cases hp

theorem QInv.congr {s s' : CStream α} (hp : s'.pread = s.pread) (hq : s'.rcv.queue = s.rcv.queue)
    (h : QInv s) : QInv s' := by
  intro h'; rw [hq]; exact h (hp ▸ h')

theorem resumeRead_pass (sid : Sid) (n : Nat) (s : CStream α) :
    QInv (s.resumeRead sid (n + 1)).1 ∨
    ∃ (p : PRead α) (s₂ : CStream α) (m : List α), s.pread = some p ∧ p.lookahead = none ∧ s₂.pread = some { lookahead := some m, rst := none } ∧
      (s.resumeRead sid (n + 1)).1 = (s₂.resumeRead sid n).1 := by
  cases hp : s.pread with
  | none => rw [resumeRead_none sid _ s hp]; exact .inl (QInv.of_none hp)
  | some p =>
    rcases hr : readLoop s.rcv.rwin s.rcv.queue p.rst with ⟨w, q, cr, out⟩
    obtain ⟨_, r, _, _, rfl, hnil⟩ := ReadLoop.readLoop_eq hr
    cases r with
    | cont st' =>
      cases hc : (s.rcv.closed || s.rcv.cancelled) with
      | false => rw [resumeRead_blocked hp hr hc]; exact .inl (fun _ => hnil st' rfl)
      | true =>
        cases hl : p.lookahead with
        | none => rw [resumeRead_ended hp hr hc (.inl hl)]; exact .inl (QInv.of_none rfl)
        | some m =>
          by_cases hd : s.done.getD .eof = .eof
          · rw [resumeRead_ended_msg hp hr hc hl hd]; exact .inl (QInv.of_none rfl)
          · rw [resumeRead_ended hp hr hc (.inr hd)]; exact .inl (QInv.of_none rfl)
    | msg m =>
      cases hl : p.lookahead with
      | some m1 => rw [resumeRead_second hp hr hl]; exact .inl (QInv.of_none rfl)
      | none =>
        cases hss : s.ss with
        | true => rw [resumeRead_msg hp hr hl hss]; exact .inl (QInv.of_none rfl)
        | false => rw [resumeRead_look hp hr hl hss]; exact .inr ⟨p, _, m, rfl, hl, rfl, rfl⟩
    | err e => rw [resumeRead_perr hp hr]; exact .inl (QInv.of_none rfl)

theorem resumeRead_qinv (sid : Sid) (fuel : Nat) (s : CStream α) : QInv (s.resumeRead sid (fuel + 2)).1 := by
  rcases resumeRead_pass sid (fuel + 1) s with h | ⟨_, s₂, m, -, -, hp₂, he⟩
  · exact h
  · rw [he]
    rcases resumeRead_pass sid fuel s₂ with h | ⟨p, _, _, hp, hl, -⟩
    · exact h
    · rw [hp₂] at hp; cases hp; cases hl

theorem finish_qinv (sid : Sid) (s : CStream α) (err : Option SErr) (tr : MD) (h : QInv s) :
    QInv (s.finish sid err tr).1 := by
  cases hd : s.done with
  | some c => rw [finish_done sid s err tr (isSome_of_eq_some hd)]; exact h
  | none =>
    obtain ⟨w, q, r', c, ps, hs, -⟩ := finish_shape sid s err tr hd
    rw [hs]; exact QInv.of_none rfl

theorem cancelStream_qinv (sid : Sid) (s : CStream α) (err : SErr) (h : QInv s) :
    QInv (s.cancelStream sid err).1 := by
  cases hd : s.done with
  | some c => rw [cancelStream_done sid s err (isSome_of_eq_some hd)]; exact h
  | none =>
    obtain ⟨w, q, r', c, ps, hs, -⟩ := cancelStream_shape sid s err hd
    rw [hs]; exact QInv.of_none rfl

theorem afterRead_qinv (sid : Sid) (fuel : Nat) (s : CStream α) :
    QInv (CStream.afterRead sid (s.resumeRead sid (fuel + 2))).1 := by
  rw [afterRead_eq]
  cases (s.resumeRead sid (fuel + 2)).2.2 with
  | none => exact resumeRead_qinv sid fuel s
  | some e => exact cancelStream_qinv sid _ e (resumeRead_qinv sid fuel s)

theorem ctxCancelled_qinv (sid : Sid) (s : CStream α) (e : CtxErr) (h : QInv s) :
    QInv (s.ctxCancelled sid e).1 := by
  cases hc : s.ctxDone with
  | some c => rw [ctxCancelled_done sid s e (isSome_of_eq_some hc)]; exact h
  | none =>
    rw [ctxCancelled_eq sid s e hc, ctxEnds_eq sid s e _ hc]
    exact cancelStream_qinv sid _ (.ctx e) (QInv.congr (s := s) rfl rfl h)

/-- a data frame is only queued behind a pending read if that read then runs -/
theorem op_qinv {sid : Sid} {s s' : CStream α} {o : COut α} (h : Op true sid s s' o) (hq : QInv s) : QInv s' := by
  cases h with
  | finish => exact finish_qinv _ _ _ _ hq
  | ctx => exact ctxCancelled_qinv _ _ _ hq
  | read hp => exact afterRead_qinv sid 1 _
  | sent _ cfg snd =>
    obtain ⟨_, _, h, -⟩ := pumpSend_shape cfg sid s snd
    rw [h]; exact QInv.congr rfl rfl hq
  | upd h => cases h <;> exact QInv.congr rfl rfl hq
  | completes => exact hq

theorem qinv_lift (cfg : CCfg) : CLift cfg (QInv (α := α)) :=
  CLift.of_ops op_qinv (fun _ h => h) (fun _ _ _ _ => QInv.of_none rfl)

/-- `ClientInv.AllS`, under a name that does not clash with the server's -/
abbrev CAll (P : CStream α → Prop) (c : Cli α) : Prop := Proofs.ClientInv.AllS P c

theorem newStream_ct (cfg : CCfg) (c : Cli α) (cs ss : Bool) (m : List Nat) (md : MD) (t : Option Nat) (cn : Bool)
    (h : CAll CT c) : CAll CT (c.newStream cfg cs ss m md t cn).1 :=
  newStream_all (ct_lift cfg) c cs ss m md t cn h
theorem step_ct (cfg : CCfg) (c : Cli α) (x : CStim α) (h : CAll CT c) : CAll CT (c.step cfg x).1 :=
  call_step (ct_lift cfg) c x h
theorem step_qinv (cfg : CCfg) (c : Cli α) (x : CStim α) (h : CAll QInv c) : CAll QInv (c.step cfg x).1 :=
  call_step (qinv_lift cfg) c x h

theorem cliCT_run (cfg : CCfg) (xs : List (CStim α)) (c : Cli α) (h : CAll CT c) : CAll CT (Cli.run cfg c xs).1 :=
  call_run (ct_lift cfg) xs c h

theorem cliQInv_run (cfg : CCfg) (xs : List (CStim α)) (c : Cli α) (h : CAll QInv c) :
    CAll QInv (Cli.run cfg c xs).1 :=
  call_run (qinv_lift cfg) xs c h

theorem open_of_inTable {s : CStream α} (hwf : WF s) (ht : s.inTable = true) : s.done = none :=
  (hwf.open_of (fun st => Bool.noConfusion (ht.symm.trans st.out))).1

theorem done_of_out {s : CStream α} (hct : CT s) (ht : s.inTable = false) : s.done.isSome = true := by
  cases hd : s.done with
  | some x => rfl
  | none => have := hct hd; rw [ht] at this; cases this

theorem inTable_eq_done_isNone {s : CStream α} (hwf : WF s) (hct : CT s) : s.inTable = s.done.isNone := by
  cases hd : s.done with
  | none => exact hct hd
  | some d => exact (hwf.settled (isSome_of_eq_some hd)).out

theorem table_exact_of_inv (c : Cli α) (hwf : AllWF c) (hct : CAll CT c) (sid : Sid) :
    sid ∈ c.table ↔ ∃ st, (sid, st) ∈ c.streams ∧ st.done = none := by
  simp only [Cli.table, List.mem_map, List.mem_filter]
  constructor
  · rintro ⟨e, ⟨he, ht⟩, rfl⟩
    exact ⟨e.2, he, open_of_inTable (hwf e he) ht⟩
  · rintro ⟨st, he, hd⟩
    exact ⟨(sid, st), ⟨he, hct (sid, st) he hd⟩, rfl⟩

theorem table_nil_of_out (c : Cli α) (h : ∀ e ∈ c.streams, e.2.inTable = false) : c.table = [] := by
  simp only [Cli.table, List.map_eq_nil_iff, List.filter_eq_nil_iff]
  intro e he
  rw [h e he]
  exact Bool.false_ne_true

/-- the gRPC code of a context error, as the client's `finishStream` maps it -/
def ctxCode : CtxErr → Nat
  | .canceled => codeCanceled
  | .deadline => codeDeadlineExceeded

theorem mapFinishErr_ctx_code (e : CtxErr) : ∃ msg, mapFinishErr (some (.ctx e)) = .status (mkStatus (ctxCode e) msg) := by
  cases e
  · exact ⟨_, rfl⟩
  · exact ⟨_, rfl⟩

/-- a blocked read woken on a closed receiver has drained the queue (`QInv`), so it returns the
    RPC's status, also when it is the look-ahead read holding a complete first message, which is dropped -/
theorem resumeRead_woken_dones (sid : Sid) (fuel : Nat) (s : CStream α) (st : Status)
    (hq : QInv s) (hc : s.rcv.closed = true) (hd : s.done = some (.status st)) :
    (s.resumeRead sid (fuel + 1)).2.1.dones =
      match s.pread with
      | some _ => [(sid, "recv", Res.status st.code)]
      | none => [] := by
  cases hp : s.pread with
  | none => rw [resumeRead_none sid _ s hp]
  | some p =>
    have hr : readLoop s.rcv.rwin s.rcv.queue p.rst = (s.rcv.rwin, [], [], some (.cont p.rst)) := by
      rw [hq (isSome_of_eq_some hp)]; rfl
    have hd' : s.done.getD .eof = .status st := by rw [hd]; rfl
    rw [resumeRead_ended hp hr (by rw [hc]; rfl) (.inr (by rw [hd']; exact fun h => nomatch h)), hd']
    rfl

theorem resumeRead_ctxDone (sid : Sid) (fuel : Nat) (s : CStream α) :
    (s.resumeRead sid fuel).1.ctxDone = s.ctxDone := by
  obtain ⟨w, q, p', r', h⟩ := resumeRead_shape sid fuel s
  rw [h]

/-- the context has ended, so no send and no `Header()` is blocked any more: only the blocked read
    is completed -/
theorem cancelStream_dones (sid : Sid) (s : CStream α) (err : SErr) (st : Status) (hd : s.done = none)
    (hc : s.ctxDone.isSome = true) (hph : s.pheader = false) (hq : QInv s)
    (hm : mapFinishErr (some err) = .status st) :
    (s.cancelStream sid err).2.dones =
      match s.pread with
      | some _ => [(sid, "recv", Res.status st.code)]
      | none => [] := by
  rw [cancelStream_eq sid s err hd, finish_eq sid s (some err) [] hd,
    ctxEnds_done _ _ _ _ (by rw [resumeRead_ctxDone]; exact hc)]
  show ((if s.pheader = true then _ else []) ++ ((finPre s (some err) []).resumeRead sid 3).2.1.dones ++ []) ++ [] = _
  rw [hph, resumeRead_woken_dones sid 2 (finPre s (some err) []) st (QInv.congr rfl rfl hq) rfl
    (congrArg some hm), List.append_nil, List.append_nil]
  rfl

/-- **what the end of the stream context completes**, exactly, on a live RPC
    (`done = none`, `ctxDone = none`) whose blocked read — if any — has drained
    the queue: a blocked send returns the context error; a blocked `Header()`
    returns the headers if they came, else the race marker (context error or
    nil headers); a blocked read returns the status `Canceled` /
    `DeadlineExceeded` — never a message, not even the first message a
    look-ahead read is holding. -/
theorem ctxCancelled_dones (sid : Sid) (s : CStream α) (e : CtxErr) (hc : s.ctxDone = none)
    (hd : s.done = none) (hq : QInv s) :
    (s.ctxCancelled sid e).2.dones =
      (match s.psend with
        | some _ => [(sid, "send", Res.ctx e)]
        | none => []) ++
      (if s.pheader then
        [(sid, "header", if s.gotHeaders then Res.md s.headers else .other "RACE:ctx-or-nil-headers")]
       else []) ++
      (match s.pread with
        | some _ => [(sid, "recv", Res.status (ctxCode e))]
        | none => []) := by
  obtain ⟨msg, hm⟩ := mapFinishErr_ctx_code e
  have h := cancelStream_dones sid ({ s with ctxDone := some e, psend := none, pheader := false } : CStream α)
    (.ctx e) (mkStatus (ctxCode e) msg) hd rfl rfl (QInv.congr (s := s) rfl rfl hq) hm
  rw [ctxCancelled_eq sid s e hc, ctxEnds_eq sid s e _ hc]
  refine (congrArg (fun l => _ ++ l) h).trans ?_
  rw [hd]
  rfl

def NonOK (r : Res α) : Prop :=
  match r with
  | .ok => False
  | .msg _ => False
  | _ => True

theorem ctxCancelled_dones_kind (sid : Sid) (s : CStream α) (e : CtxErr) (hwf : WF s)
    (ht : s.inTable = true) (hq : QInv s) :
    ∀ d ∈ (s.ctxCancelled sid e).2.dones,
      d.2 = ("send", Res.ctx e) ∨ d.2 = ("recv", Res.status (ctxCode e)) ∨ d.2.1 = "header" := by
  have hd := open_of_inTable hwf ht
  rw [ctxCancelled_dones sid s e (hwf.open_ctx hd) hd hq]
  intro d hm
  simp only [List.mem_append] at hm
  rcases hm with (hm | hm) | hm
  · cases hps : s.psend with
    | none => rw [hps] at hm; cases hm
    | some x => rw [hps] at hm; rw [List.mem_singleton.mp hm]; exact Or.inl rfl
  · by_cases hph : s.pheader = true
    · rw [if_pos hph] at hm; rw [List.mem_singleton.mp hm]; exact Or.inr (Or.inr rfl)
    · rw [if_neg hph] at hm; cases hm
  · cases hpr : s.pread with
    | none => rw [hpr] at hm; cases hm
    | some x => rw [hpr] at hm; rw [List.mem_singleton.mp hm]; exact Or.inr (Or.inl rfl)

/-- nothing is blocked, the RPC has its result, the stream is out of the table: the part of
    `ClientShape.Settled` that C04 speaks of -/
def Settled (s : CStream α) : Prop :=
  s.done.isSome = true ∧ s.ctxDone.isSome = true ∧ s.pread = none ∧ s.psend = none ∧ s.pheader = false ∧
  s.inTable = false

theorem settled_of_done {s : CStream α} (hwf : WF s) (hd : s.done.isSome = true) : Settled s :=
  have h := hwf.settled hd
  ⟨h.done, h.ctx, h.pread, h.psend, h.pheader, h.out⟩

theorem ctxCancelled_settled (sid : Sid) (s : CStream α) (e : CtxErr) (hwf : WF s) :
    Settled (s.ctxCancelled sid e).1 :=
  settled_of_done (ctxCancelled_WF sid s e hwf) (cancel_settled_WF sid s e hwf).2.2.2.1

theorem closeF_settled (sid : Sid) (s : CStream α) (hwf : WF s) (hct : CT s) : Settled (closeF sid s).1 := by
  unfold closeF
  split
  · exact ctxCancelled_settled sid s _ hwf
  · rename_i ht
    exact settled_of_done hwf (done_of_out hct (eq_false_of_ne_true ht))

theorem closeF_out (sid : Sid) (s : CStream α) (hwf : WF s) : (closeF sid s).1.inTable = false := by
  unfold closeF
  split
  · exact (ctxCancelled_settled sid s _ hwf).2.2.2.2.2
  · rename_i ht
    exact eq_false_of_ne_true ht

theorem close_streams (c : Cli α) (err : Option String) (b : Bool) (h : c.finished = none) :
    (c.close err b).1.streams = c.streams.map (fun e => (e.1, (closeF e.1 e.2).1)) := by
  rw [close_eq c err b h, ← goGen_fst]

theorem close_dones (c : Cli α) (err : Option String) (b : Bool) (h : c.finished = none) :
    (c.close err b).2.dones = c.streams.flatMap (fun e => (closeF e.1 e.2).2.dones) := by
  rw [close_eq c err b h, ← goGen_dones]
  cases b <;> exact List.append_nil _

/-- **C04, client.** `Cli.close` is what `Close()`, a carrier error or EOF, a protocol error and a
    settings failure all run.  On a state with `AllWF`, `CT` and `QInv` (every reachable one:
    `reachable`) that is not finished yet it records the reason, leaves every stream settled (hence
    the table empty), and completes only blocked calls: a send with the context error, a read with
    status `Canceled`, a `Header()` with the headers or the race marker (not an RPC result); so no
    "recv"/"send" completes with OK or a message.  The claims about completions need `QInv`: a
    blocked read that has not drained the queue delivers the queued message when `close` wakes it
    (second example at the end of the file). -/
theorem C04_client_close (c : Cli α) (err : Option String) (b : Bool)
    (hwf : AllWF c) (hct : CAll CT c) (hq : CAll QInv c) (hfin : c.finished = none) :
    (c.close err b).1.finished = some err ∧
    (∀ e ∈ (c.close err b).1.streams,
      e.2.done.isSome = true ∧ e.2.ctxDone.isSome = true ∧ e.2.pread = none ∧ e.2.psend = none ∧
      e.2.pheader = false ∧ e.2.inTable = false) ∧
    (c.close err b).1.table = [] ∧
    (∀ d ∈ (c.close err b).2.dones,
      d.2 = ("send", Res.ctx .canceled) ∨ d.2 = ("recv", Res.status codeCanceled) ∨ d.2.1 = "header") ∧
    (∀ d ∈ (c.close err b).2.dones, d.2.1 = "recv" ∨ d.2.1 = "send" → NonOK d.2.2) := by
  have hset : ∀ e ∈ (c.close err b).1.streams, Settled e.2 := by
    rw [close_streams c err b hfin]
    exact List.forall_mem_map.mpr (fun x hx => closeF_settled x.1 x.2 (hwf x hx) (hct x hx))
  have hcls : ∀ d ∈ (c.close err b).2.dones,
      d.2 = ("send", Res.ctx .canceled) ∨ d.2 = ("recv", Res.status codeCanceled) ∨ d.2.1 = "header" := by
    rw [close_dones c err b hfin]
    intro d hd
    obtain ⟨e, he, hd'⟩ := List.mem_flatMap.mp hd
    unfold closeF at hd'
    split at hd'
    · rename_i ht
      exact ctxCancelled_dones_kind e.1 e.2 .canceled (hwf e he) ht (hq e he) d hd'
    · cases hd'
  refine ⟨by rw [close_eq c err b hfin], hset, table_nil_of_out _ (fun e he => (hset e he).2.2.2.2.2), hcls, ?_⟩
  intro d hd hop
  rcases hcls d hd with h | h | h
  · rw [h]; exact True.intro
  · rw [h]; exact True.intro
  · rw [h] at hop
    rcases hop with hop | hop <;> exact absurd hop (by decide)

def FinOut (c : Cli α) : Prop := c.finished.isSome = true → ∀ e ∈ c.streams, e.2.inTable = false

theorem close_all_out (c : Cli α) (err : Option String) (b : Bool) (hwf : AllWF c) (hfin : c.finished = none) :
    ∀ e ∈ (c.close err b).1.streams, e.2.inTable = false := by
  rw [close_streams c err b hfin]
  exact List.forall_mem_map.mpr (fun x hx => closeF_out x.1 x.2 (hwf x hx))

theorem close_idempotent (c : Cli α) (err : Option String) (b : Bool) (h : c.finished.isSome = true) :
    c.close err b = (c, {}) :=
  ClientOps.close_finished c err b h

theorem close_finished (c : Cli α) (err : Option String) (b : Bool) :
    (c.close err b).1.finished.isSome = true := by
  cases hf : c.finished with
  | some x => rw [close_idempotent c err b (isSome_of_eq_some hf), hf]; rfl
  | none => rw [close_eq c err b hf]; rfl

theorem close_finOut (c : Cli α) (err : Option String) (b : Bool) (hwf : AllWF c) (h : FinOut c) :
    FinOut (c.close err b).1 := by
  cases hf : c.finished with
  | some x => rw [close_idempotent c err b (isSome_of_eq_some hf)]; exact h
  | none => exact fun _ => close_all_out c err b hwf hf

/-- **after `Cli.close` (any error class) the table is empty**, for every
    well-formed state that satisfies `FinOut` (every reachable state does:
    `reachable`).  `AllWF` and `CT` do not suffice: on a finished channel
    `close` does nothing, and a finished channel that holds a live stream
    satisfies both (first example at the end of the file; no such state is
    reachable). -/
theorem client_close_empties_table (c : Cli α) (err : Option String) (b : Bool)
    (hwf : AllWF c) (hfo : FinOut c) : (c.close err b).1.table = [] :=
  table_nil_of_out _ (close_finOut c err b hwf hfo (close_finished c err b))

/-- with "not finished yet" in place of `FinOut`; `CT` is not needed -/
theorem client_close_empties_table_partial (c : Cli α) (err : Option String) (b : Bool)
    (hwf : AllWF c) (_hct : CAll CT c) (hfin : c.finished = none) : (c.close err b).1.table = [] :=
  table_nil_of_out _ (close_all_out c err b hwf hfin)

theorem newStream_after_close (cfg : CCfg) (c : Cli α) (cs ss : Bool) (m : List Nat) (md : MD)
    (t : Option Nat) (cn : Bool) (h : c.finished.isSome = true) :
    c.newStream cfg cs ss m md t cn = (c, { dones := [(0, "new", .other "channel is closed")] }, none) := by
  unfold Cli.newStream
  rw [if_pos h]

theorem newStream_finished (cfg : CCfg) (c : Cli α) (cs ss : Bool) (m : List Nat) (md : MD)
    (t : Option Nat) (cn : Bool) : (c.newStream cfg cs ss m md t cn).1.finished = c.finished := by
  rcases newStream_cases cfg c cs ss m md t cn with ⟨_, he⟩ | ⟨n, _, _, he⟩
  · rw [he]
  · rw [he]; cases cn <;> rfl

theorem tick_finished (c : Cli α) (d : Nat) : (c.tick d).1.finished = c.finished := rfl

theorem finished_ignores_frames (cfg : CCfg) (c : Cli α) (sid : Sid) (f : S2C α)
    (h : c.finished.isSome = true) : c.onFrame cfg sid f = (c, {}) := by
  unfold Cli.onFrame
  rw [if_pos h]

theorem carrierEnds_finished (c : Cli α) (err : Option String) (h : c.finished.isSome = true) :
    c.carrierEnds err = (c, {}) := by
  unfold Cli.carrierEnds
  split <;> exact close_idempotent c _ _ h

theorem step_finished_or_close (cfg : CCfg) (c : Cli α) (x : CStim α) :
    (c.step cfg x).1.finished = c.finished ∨ ∃ err b, c.step cfg x = c.close err b := by
  cases x with
  | frame sid f =>
    exact onFrame_elim (motive := fun r => r.1.finished = c.finished ∨ ∃ err b, r = c.close err b) cfg c sid f
      (Or.inl rfl) (fun _ _ _ _ => Or.inl rfl) (fun _ _ _ => Or.inl rfl) (fun err _ => Or.inr ⟨err, false, rfl⟩)
  | new cs ss m md t cn => exact Or.inl (newStream_finished cfg c cs ss m md t cn)
  | call sid call => exact Or.inl (Proofs.ClientInv.client_call_local cfg c sid call).2.1
  | tick d => exact Or.inl rfl
  | carrierEnds err =>
    refine Or.inr ?_
    simp only [Cli.step, Cli.carrierEnds]
    split
    · exact ⟨_, _, rfl⟩
    · exact ⟨_, _, rfl⟩
  | close => exact Or.inr ⟨_, _, rfl⟩

theorem step_keeps_finished (cfg : CCfg) (c : Cli α) (x : CStim α) (h : c.finished.isSome = true) :
    (c.step cfg x).1.finished = c.finished := by
  rcases step_finished_or_close cfg c x with h' | ⟨err, b, h'⟩
  · exact h'
  · rw [h', close_idempotent c err b h]

theorem step_preserves_finished (cfg : CCfg) (c : Cli α) (x : CStim α) (h : c.finished.isSome = true) :
    (c.step cfg x).1.finished.isSome = true := by
  rw [step_keeps_finished cfg c x h]; exact h

theorem run_keeps_finished (cfg : CCfg) (xs : List (CStim α)) : ∀ (c : Cli α), c.finished.isSome = true →
    (Cli.run cfg c xs).1.finished = c.finished :=
  fun c h => run_inv (P := fun c' => c'.finished = c.finished)
    (fun c' x h' => (step_keeps_finished cfg c' x (h' ▸ h)).trans h') xs c rfl

theorem finished_step_all {P : CStream α → Prop} (cfg : CCfg)
    (ev : ∀ (sid : Sid) (s : CStream α) (ev : CEv α), P s → P (s.stepEv cfg sid ev).1)
    (clearSend : ∀ (s : CStream α), P s → P { s with psend := none })
    (c : Cli α) (x : CStim α) (hf : c.finished.isSome = true)
    (h : ∀ e ∈ c.streams, P e.2) : ∀ e ∈ (c.step cfg x).1.streams, P e.2 := by
  cases x with
  | frame sid f => simp only [Cli.step]; rw [finished_ignores_frames cfg c sid f hf]; exact h
  | new cs ss m md t cn => simp only [Cli.step]; rw [newStream_after_close cfg c cs ss m md t cn hf]; exact h
  | call sid call =>
    have hst : ∀ st, c.getAny sid = some st → P (st.onCall cfg sid call).1 :=
      fun st hg => ev sid st (.call call) (h _ (getAny_mem hg))
    exact onCall_elim (motive := fun r => ∀ e ∈ r.1.streams, P e.2) cfg c sid call (fun _ => h)
      (fun st hg => setAny_all h (hst st hg)) (fun st hg _ => setAny_all h (clearSend _ (hst st hg)))
      (fun st hg _ => setAny_all h (hst st hg))
  | tick d =>
    show ∀ e ∈ (c.tick d).1.streams, P e.2
    rw [tick_eq]
    refine goGen_all (fun sid s hs => ?_) h
    rcases tickF_cases (c.now + d) sid s with h' | h' <;> rw [h']
    · exact ev sid s (.ctx .deadline) hs
    · exact hs
  | carrierEnds err => simp only [Cli.step]; rw [carrierEnds_finished c err hf]; exact h
  | close => simp only [Cli.step]; rw [close_idempotent c _ _ hf]; exact h

theorem finOut_step (cfg : CCfg) (c : Cli α) (x : CStim α) (hwf : AllWF c) (h : FinOut c) :
    FinOut (c.step cfg x).1 := by
  rcases step_finished_or_close cfg c x with h' | ⟨err, b, h'⟩
  · intro hf
    rw [h'] at hf
    exact finished_step_all cfg (fun sid s ev => (stepEv_crel cfg sid s ev).out) (fun _ hs => hs) c x hf (h hf)
  · rw [h']
    exact close_finOut c err b hwf h

/-- The invariants of this file together.  Every step keeps them (`FinOut` needs `AllWF`), and `Cli.start`
    has no stream and is not finished: they hold in every reachable state. -/
structure Reach (c : Cli α) : Prop where
  wf : AllWF c
  ct : CAll CT c
  q : CAll QInv c
  fin : FinOut c

theorem Reach.run (cfg : CCfg) (xs : List (CStim α)) {c : Cli α} (h : Reach c) : Reach (Cli.run cfg c xs).1 :=
  run_inv (P := Reach)
    (fun c x h => ⟨step_AllWF cfg c x h.wf, step_ct cfg c x h.ct, step_qinv cfg c x h.q, finOut_step cfg c x h.wf h.fin⟩)
    xs c h

theorem reachable (cfg : CCfg) (xs : List (CStim α)) : Reach (Cli.run cfg (Cli.start cfg : Cli α) xs).1 :=
  Reach.run cfg xs ⟨start_AllWF cfg, Proofs.ClientInv.allS_start cfg _, Proofs.ClientInv.allS_start cfg _,
    fun h => absurd h Bool.false_ne_true⟩

theorem settled_of_finished {c : Cli α} (h : Reach c) (hf : c.finished.isSome = true) : ∀ e ∈ c.streams, Settled e.2 :=
  fun e he => settled_of_done (h.wf e he) (done_of_out (h.ct e he) (h.fin hf e he))

theorem C14_client_inTable (cfg : CCfg) (xs : List (CStim α)) :
    ∀ e ∈ (Cli.run cfg (Cli.start cfg : Cli α) xs).1.streams, e.2.inTable = e.2.done.isNone :=
  fun e he => inTable_eq_done_isNone ((reachable cfg xs).wf e he) ((reachable cfg xs).ct e he)

/-- **C14, client.** In every reachable state the table contains exactly the
    RPCs in flight: an id is in the table iff it has a stream object without
    terminal result. -/
theorem C14_client_table_exact (cfg : CCfg) (xs : List (CStim α)) :
    let c := (Cli.run cfg (Cli.start cfg : Cli α) xs).1
    ∀ sid, sid ∈ c.table ↔ ∃ st, (sid, st) ∈ c.streams ∧ st.done = none :=
  fun sid => table_exact_of_inv _ (reachable cfg xs).wf (reachable cfg xs).ct sid

/-- **C14/C04, client: in every reachable state, after `Cli.close` (any error
    class, whether or not the channel was already finished) the table is
    empty; and a finished channel has an empty table.** -/
theorem client_close_empties_table_run (cfg : CCfg) (xs : List (CStim α)) (err : Option String) (b : Bool) :
    let c := (Cli.run cfg (Cli.start cfg : Cli α) xs).1
    (c.close err b).1.table = [] ∧ (c.finished.isSome = true → c.table = []) :=
  ⟨client_close_empties_table _ err b (reachable cfg xs).wf (reachable cfg xs).fin,
   fun h => table_nil_of_out _ ((reachable cfg xs).fin h)⟩

theorem C04_client_close_run (cfg : CCfg) (xs : List (CStim α)) (err : Option String) (b : Bool) :
    let c := (Cli.run cfg (Cli.start cfg : Cli α) xs).1
    c.finished = none →
    (c.close err b).1.finished = some err ∧
    (∀ e ∈ (c.close err b).1.streams,
      e.2.done.isSome = true ∧ e.2.ctxDone.isSome = true ∧ e.2.pread = none ∧ e.2.psend = none ∧
      e.2.pheader = false ∧ e.2.inTable = false) ∧
    (c.close err b).1.table = [] ∧
    (∀ d ∈ (c.close err b).2.dones,
      d.2 = ("send", Res.ctx .canceled) ∨ d.2 = ("recv", Res.status codeCanceled) ∨ d.2.1 = "header") ∧
    (∀ d ∈ (c.close err b).2.dones, d.2.1 = "recv" ∨ d.2.1 = "send" → NonOK d.2.2) :=
  fun hfin => C04_client_close _ err b (reachable cfg xs).wf (reachable cfg xs).ct (reachable cfg xs).q hfin

/-- **C04, client: nothing hangs, ever after.**  On a finished channel every stream of every
    reachable state is settled, whatever calls, ticks and (ignored) frames came later. -/
theorem C04_client_finished_never_blocks (cfg : CCfg) (xs : List (CStim α)) :
    let c := (Cli.run cfg (Cli.start cfg : Cli α) xs).1
    c.finished.isSome = true →
    ∀ e ∈ c.streams,
      e.2.done.isSome = true ∧ e.2.ctxDone.isSome = true ∧ e.2.pread = none ∧ e.2.psend = none ∧
      e.2.pheader = false ∧ e.2.inTable = false :=
  settled_of_finished (reachable cfg xs)

section Examples

/-- a decidable view of a completed call (`Res` has no decidable equality) -/
structure DoneView where
  sid : Int
  op : String
  kind : String
  code : Nat := 0
  msg : List Nat := []
  deriving DecidableEq

def doneView (d : Sid × String × Res Nat) : DoneView :=
  match d.2.2 with
  | .ok => { sid := d.1, op := d.2.1, kind := "ok" }
  | .msg m => { sid := d.1, op := d.2.1, kind := "msg", msg := m }
  | .md _ => { sid := d.1, op := d.2.1, kind := "md" }
  | .eof => { sid := d.1, op := d.2.1, kind := "eof" }
  | .status c => { sid := d.1, op := d.2.1, kind := "status", code := c }
  | .ctx .canceled => { sid := d.1, op := d.2.1, kind := "ctx-canceled" }
  | .ctx .deadline => { sid := d.1, op := d.2.1, kind := "ctx-deadline" }
  | .other _ => { sid := d.1, op := d.2.1, kind := "other" }

-- `client_close_empties_table` needs `FinOut`: a finished channel holding a live stream is
-- well-formed and satisfies `CT`; `close` is a no-op there and the table keeps the stream.
example :
    let st : CStream Nat := { cs := true, ss := true, fc := true, rcv := RcvQ.init 10, win := 10 }
    let c : Cli Nat := { finished := some none, streams := [(1, st)] }
    WF st ∧ st.done = none ∧ st.inTable = true ∧ (c.close none false).1.table = [1] := by decide +kernel

-- `C04_client_close` needs `QInv`: a well-formed stream whose blocked read has not drained the
-- queue.  The read woken by `close` finds the complete message and delivers it.
example :
    let st : CStream Nat :=
      { cs := true, ss := true, fc := true, win := 10,
        rcv := { rwin := 9, queue := [DFrame.env 1 [7]], closed := false, cancelled := false },
        pread := some { lookahead := none, rst := none } }
    WF st ∧ st.inTable = true ∧
    (st.ctxCancelled 1 .canceled).2.dones.map doneView = [{ sid := 1, op := "recv", kind := "msg", msg := [7] }] := by
  decide +kernel

-- The look-ahead read: on a non-server-stream method the first response is complete and held by
-- the eager second read; `Close()` completes that read with status Canceled (1) and the held
-- message is dropped.  The table is empty, the stream settled, and a new RPC fails at once.
example :
    let r := Cli.run (α := Nat) {} (Cli.start {})
      [.frame (-1) (.settings 100 [1]), .new true false [1] [] none false, .call 1 .recv,
       .frame 1 (.msg 1 [7]), .close, .new true true [1] [] none false]
    r.2.map (fun o => o.dones.map doneView) =
      [[], [{ sid := 1, op := "new", kind := "ok" }], [], [],
       [{ sid := 1, op := "recv", kind := "status", code := 1 }],
       [{ sid := 0, op := "new", kind := "other" }]] ∧
    r.1.table = [] ∧ r.1.finished = some none ∧
    r.1.streams.map (fun e => (e.1, e.2.done.isSome, e.2.pread.isSome, e.2.inTable)) = [(1, true, false, false)] := by
  decide +kernel

-- C14: two RPCs, one finished by its close frame; the table holds the other
example :
    let c := (Cli.run (α := Nat) {} (Cli.start {})
      [.frame (-1) (.settings 100 [1]), .new true true [1] [] none false, .new true true [1] [] none false,
       .frame 1 (.close (mkStatus 0 "") [("k", ["v"])])]).1
    c.table = [2] ∧ c.streams.map (fun e => (e.1, e.2.done.isNone, e.2.trailers)) =
      [(1, false, [("k", ["v"])]), (2, true, [])] := by decide +kernel

end Examples

end Client

end Proofs.Teardown
