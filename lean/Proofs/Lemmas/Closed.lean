import TunnelModel.Closed
import Proofs.Lemmas.Run
/-!
  Closed multi-stream model with bounded carriers (`TunnelModel.Closed`): any number of
  half-streams, both directions, two FIFO carriers of capacity `K`, any set of stalled reading
  applications, any message sizes, every schedule.

  The invariant assumes nothing of `K`, `W`, `cm`; `0 < K` and `0 < W` are needed to characterise the
  states without enabled action (`Stuck`) and for what follows from that; `0 < cm` only for termination.

  `sent = min msgs.sum W` holds for every stalled half-stream, also with zero-length messages, so
  `(sent, delivered, queue.sum, remaining)` of every half-stream is schedule-independent
  (`expected W cfg`).  An empty message changes only `todo`: a stalled half-stream can end with
  `remaining = 0` and one unsent EMPTY message behind an exhausted window (last `example` of
  `Example`); hence the last two conjuncts of `completes`.
-/
namespace Proofs.Closed
open TunnelModel.Closed

abbrev Cfg := List (Dir × Bool × List Nat)

def dataOf (i : Nat) : Frame → Nat
  | .data j k => if j = i then k else 0
  | .credit _ _ => 0

def credOf (i : Nat) : Frame → Nat
  | .credit j k => if j = i then k else 0
  | .data _ _ => 0

/-- data bytes of half-stream `i` in flight on the wire `w` -/
def dataFl (i : Nat) (w : List Frame) : Nat := (w.map (dataOf i)).sum
/-- credit of half-stream `i` in flight on the wire `w` -/
def credFl (i : Nat) (w : List Frame) : Nat := (w.map (credOf i)).sum

@[simp] theorem dataFl_nil (i) : dataFl i [] = 0 := rfl
@[simp] theorem credFl_nil (i) : credFl i [] = 0 := rfl
@[simp] theorem dataFl_cons (i f w) : dataFl i (f :: w) = dataOf i f + dataFl i w := rfl
@[simp] theorem credFl_cons (i f w) : credFl i (f :: w) = credOf i f + credFl i w := rfl
@[simp] theorem dataFl_snoc (i f w) : dataFl i (w ++ [f]) = dataFl i w + dataOf i f := by
  simp [dataFl, List.sum_append]
@[simp] theorem credFl_snoc (i f w) : credFl i (w ++ [f]) = credFl i w + credOf i f := by
  simp [credFl, List.sum_append]

@[simp] theorem dataOf_data_self (i k) : dataOf i (.data i k) = k := if_pos rfl
@[simp] theorem dataOf_credit (i j k) : dataOf i (.credit j k) = 0 := rfl
@[simp] theorem credOf_credit_self (i k) : credOf i (.credit i k) = k := if_pos rfl
@[simp] theorem credOf_data (i j k) : credOf i (.data j k) = 0 := rfl

def fidx : Frame → Nat
  | .data i _ => i
  | .credit i _ => i

theorem dataOf_idx_ne {i : Nat} {f : Frame} (h : fidx f ≠ i) : dataOf i f = 0 := by
  cases f with
  | data j k => exact if_neg h
  | credit j k => rfl

theorem credOf_idx_ne {i : Nat} {f : Frame} (h : fidx f ≠ i) : credOf i f = 0 := by
  cases f with
  | data j k => rfl
  | credit j k => exact if_neg h

/-- the carrier of a half-stream's data frames -/
def dataWire (d : Dir) (s : St) : List Frame :=
  match d with
  | .up => s.ab
  | .down => s.ba

/-- the carrier of a half-stream's window updates -/
def credWire (d : Dir) (s : St) : List Frame :=
  match d with
  | .up => s.ba
  | .down => s.ab

def opp : Dir → Dir
  | .up => .down
  | .down => .up

theorem credWire_eq (d : Dir) (s : St) : credWire d s = dataWire (opp d) s := by cases d <;> rfl

theorem opp_ne (d : Dir) : opp d ≠ d := by cases d <;> exact Dir.noConfusion

/-- the carrier on which a half-stream of direction `d` puts the frame -/
def carrier (d : Dir) : Frame → Dir
  | .data _ _ => d
  | .credit _ _ => opp d

/-- the direction a half-stream must have for its frame `f` to travel on `ab` (`onAB = true`) or `ba` -/
def frameDir (onAB : Bool) : Frame → Dir
  | .data _ _ => if onAB then .up else .down
  | .credit _ _ => if onAB then .down else .up

theorem frameDir_of_carrier {d : Dir} {f : Frame} :
    (carrier d f = .up → d = frameDir true f) ∧ (carrier d f = .down → d = frameDir false f) := by
  cases d <;> cases f <;> simp [carrier, opp, frameDir]

/-- `s` with the half-streams replaced by `hs` and the carrier `d` by `w` -/
def put (s : St) (hs : List Half) (d : Dir) (w : List Frame) : St :=
  match d with
  | .up => { halves := hs, ab := w, ba := s.ba }
  | .down => { halves := hs, ab := s.ab, ba := w }

/-- `g` summed over the frames on both carriers: with `dataOf i` the data bytes of half-stream `i` in
    flight (only one carrier can hold any, see `wrong_carrier`), with `credOf i` its credit, with
    `frameCost` the carriers' share of the termination measure -/
def onWires (g : Frame → Nat) (s : St) : Nat := (s.ab.map g).sum + (s.ba.map g).sum

section
variable (g : Frame → Nat) (s : St) (hs : List Half) (d : Dir)

theorem put_halves (w : List Frame) : (put s hs d w).halves = hs := by cases d <;> rfl

theorem dataWire_put (w : List Frame) (d' : Dir) :
    dataWire d' (put s hs d w) = if d' = d then w else dataWire d' s := by
  cases d <;> cases d' <;> rfl

theorem onWires_push (f : Frame) : onWires g (put s hs d (dataWire d s ++ [f])) = onWires g s + g f := by
  have e : ∀ w : List Frame, ((w ++ [f]).map g).sum = (w.map g).sum + g f := fun w => by
    rw [List.map_append, List.sum_append]; exact congrArg _ (Nat.add_zero _)
  cases d
  · exact (congrArg (· + _) (e _)).trans (Nat.add_right_comm ..)
  · exact (congrArg (_ + ·) (e _)).trans (Nat.add_assoc ..).symm

variable {s d} in
theorem onWires_pop {f : Frame} {rest : List Frame} (hw : dataWire d s = f :: rest) :
    onWires g s = g f + onWires g (put s hs d rest) := by
  cases d
  · exact (congrArg (fun w => (List.map g w).sum + _) hw).trans (Nat.add_assoc ..)
  · exact (congrArg (fun w => _ + (List.map g w).sum) hw).trans (Nat.add_left_comm ..)

theorem onWires_split : onWires g s = ((dataWire d s).map g).sum + ((dataWire (opp d) s).map g).sum := by
  cases d
  · rfl
  · exact Nat.add_comm ..

end

/-- what a receive loop does to the half-stream named by the frame -/
def acceptF (h : Half) : Frame → Half
  | .data _ k => { h with queue := h.queue ++ [k] }
  | .credit _ k => { h with win := h.win + k }

theorem deliver_eq {hs : List Half} {f : Frame} {h : Half} (hi : hs[fidx f]? = some h) :
    deliver hs f = hs.set (fidx f) (acceptF h f) := by
  cases f <;> simp only [deliver, upd, fidx] at hi ⊢ <;> rw [hi] <;> rfl

theorem deliver_none {hs : List Half} {f : Frame} (hi : hs[fidx f]? = none) : deliver hs f = hs := by
  cases f <;> simp only [deliver, upd, fidx] at hi ⊢ <;> rw [hi]

/-- the receive loop that consumes carrier `d` -/
def loopOf : Dir → Act
  | .up => .loopB
  | .down => .loopA

/-- `step` as a relation: one rule per kind of action, the carrier being a parameter -/
inductive Step (K cm : Nat) (s : St) : Act → St → Prop
  | send {i : Nat} {h h' : Half} {k : Nat} : s.halves[i]? = some h → h.chunk cm = some (k, h') →
      (dataWire h.dir s).length < K →
      Step K cm s (.send i) (put s (s.halves.set i h') h.dir (dataWire h.dir s ++ [.data i k]))
  | read {i : Nat} {h h' : Half} : s.halves[i]? = some h → h.read = some h' →
      Step K cm s (.read i) { s with halves := s.halves.set i h' }
  | credit {i : Nat} {h : Half} : s.halves[i]? = some h → h.pending ≠ 0 →
      (dataWire (opp h.dir) s).length < K →
      Step K cm s (.credit i) (put s (s.halves.set i { h with pending := 0 }) (opp h.dir)
        (dataWire (opp h.dir) s ++ [.credit i h.pending]))
  | loop {d : Dir} {f : Frame} {rest : List Frame} : dataWire d s = f :: rest →
      Step K cm s (loopOf d) (put s (deliver s.halves f) d rest)

theorem step_iff {K cm : Nat} {s s' : St} {a : Act} : step K cm s a = some s' ↔ Step K cm s a s' := by
  constructor
  · intro hs
    cases a with
    | send i =>
      simp only [step] at hs
      split at hs
      · cases hs
      · rename_i h hi
        split at hs
        · cases hs
        · rename_i k h' hc
          have := Step.send (K := K) hi hc
          split at hs <;> rename_i hd <;> rw [hd] at this <;> split at hs
          · cases hs; exact this ‹_›
          · cases hs
          · cases hs; exact this ‹_›
          · cases hs
    | read i =>
      simp only [step] at hs
      split at hs
      · cases hs
      · rename_i h hi
        split at hs
        · cases hs
        · rename_i h' hr
          cases hs; exact Step.read hi hr
    | credit i =>
      simp only [step] at hs
      split at hs
      · cases hs
      · rename_i h hi
        split at hs
        · cases hs
        · rename_i hp
          have := Step.credit (K := K) (cm := cm) hi hp
          split at hs <;> rename_i hd <;> rw [hd] at this <;> split at hs
          · cases hs; rw [hd]; exact this ‹_›
          · cases hs
          · cases hs; rw [hd]; exact this ‹_›
          · cases hs
    | loopA =>
      simp only [step] at hs
      split at hs
      · cases hs
      · rename_i f rest hba
        cases hs; exact Step.loop (d := .down) hba
    | loopB =>
      simp only [step] at hs
      split at hs
      · cases hs
      · rename_i f rest hab
        cases hs; exact Step.loop (d := .up) hab
  · intro hs
    cases hs with
    | @send i h h' k hi hc hroom =>
      simp only [step, hi, hc]
      cases hd : h.dir <;> rw [hd] at hroom <;> simp only [dataWire] at hroom <;> rw [if_pos hroom] <;> rfl
    | read hi hr => simp only [step, hi, hr]
    | @credit i h hi hp hroom =>
      simp only [step, hi, if_neg hp]
      cases hd : h.dir <;> rw [hd] at hroom <;> simp only [dataWire, opp] at hroom <;> rw [if_pos hroom] <;> rfl
    | @loop d f rest hw => cases d <;> simp only [dataWire] at hw <;> simp only [loopOf, step, hw] <;> rfl

theorem isRun (K cm : Nat) : Run.IsRun (step K cm) (run K cm) :=
  ⟨fun _ => rfl, fun s a as => by rw [run]; cases step K cm s a <;> rfl⟩

/-- the last conjunct is what termination needs -/
theorem chunk_spec {cm : Nat} {h h' : Half} {k : Nat} (hc : h.chunk cm = some (k, h')) :
    h'.dir = h.dir ∧ h'.willing = h.willing ∧ h'.queue = h.queue ∧ h'.pending = h.pending ∧
    h'.delivered = h.delivered ∧ h'.win + k = h.win ∧ h'.sent = h.sent + k ∧
    h'.remaining + k = h.remaining ∧ 0 < h.win ∧ h.todo ≠ [] ∧
    (0 < cm → h'.todo.length + 1 ≤ h.todo.length + k) := by
  unfold Half.chunk at hc
  split at hc
  · cases hc
  · rename_i rem rest htodo
    split at hc
    · cases hc
    · rename_i hw
      injection hc with hc
      injection hc with hk hh
      have hkw : k ≤ h.win := hk ▸ Nat.le_trans (Nat.min_le_left ..) (Nat.min_le_left ..)
      have hkr : k ≤ rem := hk ▸ Nat.le_trans (Nat.min_le_left ..) (Nat.min_le_right ..)
      have hk0 : 0 < cm → rem ≠ 0 → k ≠ 0 := fun hcm hr => by omega
      rw [hk] at hh
      subst hh
      refine ⟨rfl, rfl, rfl, rfl, rfl, Nat.sub_add_cancel hkw, rfl, ?_, Nat.pos_of_ne_zero hw,
        htodo ▸ List.cons_ne_nil _ _, fun hcm => ?_⟩
      · simp only [Half.remaining, htodo, List.sum_cons]
        split
        · rename_i e; rw [e]; exact Nat.add_comm ..
        · rw [List.sum_cons, Nat.add_right_comm, Nat.sub_add_cancel hkr]
      · have := hk0 hcm
        simp only [htodo, List.length_cons]
        split
        · omega
        · rw [List.length_cons]; omega

theorem chunk_some {cm : Nat} {h : Half} (ht : h.todo ≠ []) (hw : h.win ≠ 0) : ∃ p, h.chunk cm = some p := by
  unfold Half.chunk
  cases htd : h.todo with
  | nil => exact absurd htd ht
  | cons rem rest => exact ⟨_, if_neg hw⟩

theorem read_spec {h h' : Half} (hr : h.read = some h') :
    ∃ k q, h.queue = k :: q ∧ h.willing = true ∧ h.pending = 0 ∧
      h' = { h with queue := q, delivered := h.delivered + k, pending := k } := by
  unfold Half.read at hr
  split at hr
  · rename_i hw
    split at hr
    · cases hr
    · rename_i k q hq
      injection hr with hr
      exact ⟨k, q, hq, hw.1, hw.2, hr.symm⟩
  · cases hr

theorem read_some {h : Half} {k : Nat} {q : List Nat} (hw : h.willing = true) (hp : h.pending = 0)
    (hq : h.queue = k :: q) : ∃ h', h.read = some h' := by
  unfold Half.read
  rw [if_pos ⟨hw, hp⟩, hq]
  exact ⟨_, rfl⟩

/-- the frame names a half-stream of the configuration, whose direction puts it on carrier `d` -/
def FrameOK (cfg : Cfg) (d : Dir) (f : Frame) : Prop :=
  ∃ c, cfg[fidx f]? = some c ∧ carrier c.1 f = d

/-- what holds of one half-stream, given its data bytes `D` and credit `C` in flight -/
structure HalfOK (W D C : Nat) (h : Half) (c : Dir × Bool × List Nat) : Prop where
  dir : h.dir = c.1
  willing : h.willing = c.2.1
  cons : h.win + D + h.queue.sum + h.pending + C = W
  ghost : h.sent = h.delivered + h.queue.sum + D
  total : h.sent + h.remaining = c.2.2.sum
  stalled : h.willing = false → h.pending = 0 ∧ h.delivered = 0

/-- The inductive form of the invariant.  What is in flight is counted over both carriers, so that
    preservation never has to know which carrier a frame travels on. -/
structure CoreInv (K W : Nat) (cfg : Cfg) (s : St) : Prop where
  bound : ∀ d, (dataWire d s).length ≤ K
  len : s.halves.length = cfg.length
  half : ∀ i h c, s.halves[i]? = some h → cfg[i]? = some c →
    HalfOK W (onWires (dataOf i) s) (onWires (credOf i) s) h c
  frames : ∀ d, ∀ f ∈ dataWire d s, FrameOK cfg d f

section
variable {W D C : Nat} {h h' : Half} {c : Dir × Bool × List Nat}

theorem halfOK_chunk {cm k : Nat} (hc : h.chunk cm = some (k, h')) (hok : HalfOK W D C h c) :
    HalfOK W (D + k) C h' c := by
  obtain ⟨e1, e2, e3, e4, e5, e7, e8, e9, _, _, _⟩ := chunk_spec hc
  obtain ⟨h1, h2, h3, h4, h5, h6⟩ := hok
  constructor
  · rw [e1]; exact h1
  · rw [e2]; exact h2
  · rw [e3, e4, ← h3, ← e7]; simp +arith only
  · rw [e3, e5, e8, h4]; simp +arith only
  · rw [e8, ← h5, ← e9]; simp +arith only
  · rw [e2, e4, e5]; exact h6

theorem halfOK_read (hr : h.read = some h') (hok : HalfOK W D C h c) : HalfOK W D C h' c := by
  obtain ⟨k, q, hq, hw, hp, rfl⟩ := read_spec hr
  obtain ⟨h1, h2, h3, h4, h5, h6⟩ := hok
  rw [hq, List.sum_cons] at h3 h4
  rw [hp] at h3
  refine ⟨h1, h2, ?_, ?_, h5, fun hf => ?_⟩
  · rw [← h3]; simp +arith only
  · rw [h4]; simp +arith only
  · rw [hw] at hf; cases hf

theorem halfOK_credit (hok : HalfOK W D C h c) : HalfOK W D (C + h.pending) { h with pending := 0 } c := by
  obtain ⟨h1, h2, h3, h4, h5, h6⟩ := hok
  refine ⟨h1, h2, ?_, h4, h5, fun hf => ⟨rfl, (h6 hf).2⟩⟩
  rw [← h3]; simp +arith only

theorem halfOK_accept (f : Frame) (hok : HalfOK W (dataOf (fidx f) f + D) (credOf (fidx f) f + C) h c) :
    HalfOK W D C (acceptF h f) c := by
  obtain ⟨h1, h2, h3, h4, h5, h6⟩ := hok
  cases f with
  | data i k =>
    rw [fidx, dataOf_data_self] at h3 h4
    rw [credOf_data, Nat.zero_add] at h3
    refine ⟨h1, h2, ?_, ?_, h5, h6⟩
    · rw [← h3]; simp +arith only [acceptF, List.sum_append, List.sum_singleton]
    · simp +arith only [acceptF, h4, List.sum_append, List.sum_singleton]
  | credit i k =>
    rw [fidx, credOf_credit_self] at h3
    rw [dataOf_credit, Nat.zero_add] at h3 h4
    refine ⟨h1, h2, ?_, h4, h5, h6⟩
    rw [← h3]; simp +arith only [acceptF]

end

theorem get_of_length_eq {α β : Type} {l : List α} {l' : List β} (hl : l.length = l'.length) {i : Nat} {x : α}
    (h : l[i]? = some x) : ∃ y, l'[i]? = some y :=
  ⟨l'[i]'(hl ▸ Run.lt_of_get h), List.getElem?_eq_getElem _⟩

theorem inv_init (K W : Nat) (cfg : Cfg) : CoreInv K W cfg (init W cfg) := by
  refine ⟨fun d => ?_, List.length_map _, ?_, fun d f hf => ?_⟩
  · cases d <;> exact Nat.zero_le K
  · intro i h c hi hc
    simp only [init, List.getElem?_map, hc, Option.map_some, Option.some.injEq] at hi
    subst hi
    exact ⟨rfl, rfl, rfl, rfl, Nat.zero_add _, fun _ => ⟨rfl, rfl⟩⟩
  · cases d <;> cases hf

section
variable {K W : Nat} {cfg : Cfg} {s : St} (hinv : CoreInv K W cfg s) {i : Nat} {h h' : Half}
include hinv

theorem frame_half {d : Dir} {f : Frame} (hf : f ∈ dataWire d s) :
    ∃ h, s.halves[fidx f]? = some h ∧ carrier h.dir f = d := by
  obtain ⟨c, hc, hd⟩ := hinv.frames d f hf
  obtain ⟨h, hi⟩ := get_of_length_eq hinv.len.symm hc
  exact ⟨h, hi, (hinv.half _ h c hi hc).dir ▸ hd⟩

/-- the shape of every step: one half-stream and one carrier are replaced, and what is in flight
    changes by frames of that half-stream only -/
theorem inv_put {s' : St} (hi : s.halves[i]? = some h) {d : Dir} {w : List Frame}
    (hs' : s' = put s (s.halves.set i h') d w) (hlen : w.length ≤ K) (hfr : ∀ f ∈ w, FrameOK cfg d f)
    (hfl : ∀ g : Frame → Nat, (∀ f, fidx f = i → g f = 0) → onWires g s' = onWires g s)
    (hself : ∀ c, HalfOK W (onWires (dataOf i) s) (onWires (credOf i) s) h c →
      HalfOK W (onWires (dataOf i) s') (onWires (credOf i) s') h' c) :
    CoreInv K W cfg s' := by
  subst hs'
  refine ⟨fun d' => ?_, ?_, ?_, fun d' f hf => ?_⟩
  · rw [dataWire_put]
    split
    · exact hlen
    · exact hinv.bound d'
  · rw [put_halves, List.length_set]; exact hinv.len
  · intro j hj c hjs hc
    rw [put_halves] at hjs
    by_cases e : j = i
    · subst e
      rw [Run.get_set_self hi] at hjs
      cases hjs
      exact hself c (hinv.half j h c hi hc)
    · rw [Run.get_set_ne e] at hjs
      rw [hfl (dataOf j) fun f hf => dataOf_idx_ne (hf ▸ Ne.symm e),
        hfl (credOf j) fun f hf => credOf_idx_ne (hf ▸ Ne.symm e)]
      exact hinv.half j hj c hjs hc
  · rw [dataWire_put] at hf
    split at hf
    · rename_i e; subst e; exact hfr f hf
    · exact hinv.frames d' f hf

theorem inv_push (hi : s.halves[i]? = some h) (f : Frame) (hf : fidx f = i)
    (hroom : (dataWire (carrier h.dir f) s).length < K)
    (hself : ∀ c D C, HalfOK W D C h c → HalfOK W (D + dataOf i f) (C + credOf i f) h' c) :
    CoreInv K W cfg (put s (s.halves.set i h') (carrier h.dir f) (dataWire (carrier h.dir f) s ++ [f])) := by
  refine inv_put hinv hi rfl ?_ ?_ ?_ ?_
  · rw [List.length_append]; exact hroom
  · intro g hg
    rcases List.mem_append.mp hg with hg | hg
    · exact hinv.frames _ g hg
    · cases List.mem_singleton.mp hg
      obtain ⟨c, hc⟩ := get_of_length_eq hinv.len hi
      exact ⟨c, by rw [hf]; exact hc, by rw [(hinv.half i h c hi hc).dir]⟩
  · intro g hg
    rw [onWires_push, hg f hf]; rfl
  · intro c hok
    rw [onWires_push, onWires_push]
    exact hself c _ _ hok

theorem inv_pop {d : Dir} {f : Frame} {rest : List Frame} (hw : dataWire d s = f :: rest) :
    CoreInv K W cfg (put s (deliver s.halves f) d rest) := by
  obtain ⟨h, hi, _⟩ := frame_half hinv (d := d) (f := f) (by rw [hw]; exact List.mem_cons_self)
  rw [deliver_eq hi]
  have e := fun g => onWires_pop g (s.halves.set (fidx f) (acceptF h f)) hw
  refine inv_put hinv hi rfl ?_ ?_ ?_ ?_
  · have := hinv.bound d
    rw [hw] at this
    exact Nat.le_of_succ_le this
  · intro g hg
    exact hinv.frames d g (by rw [hw]; exact List.mem_cons_of_mem f hg)
  · intro g hg
    rw [e g, hg f rfl, Nat.zero_add]
  · intro c hok
    rw [e (dataOf (fidx f)), e (credOf (fidx f))] at hok
    exact halfOK_accept f hok

theorem inv_step {cm : Nat} {s' : St} {a : Act} (hs : step K cm s a = some s') : CoreInv K W cfg s' := by
  cases step_iff.mp hs with
  | send hi hc hroom =>
    refine inv_push hinv hi (.data _ _) rfl hroom fun c D C hok => ?_
    rw [dataOf_data_self]
    exact halfOK_chunk hc hok
  | read hi hr =>
    exact inv_put (d := .up) hinv hi rfl (hinv.bound .up) (hinv.frames .up)
      (fun _ _ => rfl) fun c hok => halfOK_read hr hok
  | @credit i h hi hp hroom =>
    refine inv_push (h' := { h with pending := 0 }) hinv hi (.credit i h.pending) rfl hroom
      fun c D C hok => ?_
    rw [credOf_credit_self]
    exact halfOK_credit hok
  | loop hw => exact inv_pop hinv hw

end

def Reachable (K W cm : Nat) (cfg : Cfg) (s : St) : Prop :=
  ∃ as, run K cm (init W cfg) as = some s

theorem inv_run {K W cm : Nat} {cfg : Cfg} {as : List Act} {s : St}
    (hr : run K cm (init W cfg) as = some s) : CoreInv K W cfg s :=
  (isRun K cm).preserves (fun h hs => inv_step h hs) (inv_init K W cfg) hr

theorem flight_zero {cfg : Cfg} {d : Dir} {f : Frame} (hf : FrameOK cfg d f) {i : Nat}
    {c : Dir × Bool × List Nat} (hc : cfg[i]? = some c) :
    (d ≠ c.1 → dataOf i f = 0) ∧ (d ≠ opp c.1 → credOf i f = 0) := by
  obtain ⟨g, hg, rfl⟩ := hf
  by_cases e : fidx f = i
  · rw [e, hc] at hg
    cases hg
    cases f
    · exact ⟨fun hne => absurd rfl hne, fun _ => rfl⟩
    · exact ⟨fun _ => rfl, fun hne => absurd rfl hne⟩
  · exact ⟨fun _ => dataOf_idx_ne e, fun _ => credOf_idx_ne e⟩

section
variable {K W : Nat} {cfg : Cfg} {s : St} (hinv : CoreInv K W cfg s) {i : Nat} {h : Half}
include hinv

/-- no frame of a half-stream travels on the wrong carrier -/
theorem wrong_carrier (hi : s.halves[i]? = some h) :
    dataFl i (dataWire (opp h.dir) s) = 0 ∧ credFl i (dataWire h.dir s) = 0 := by
  obtain ⟨c, hc⟩ := get_of_length_eq hinv.len hi
  rw [(hinv.half i h c hi hc).dir]
  exact ⟨(Run.sum_map_eq_zero _).mpr fun f hf => (flight_zero (hinv.frames _ f hf) hc).1 (opp_ne _),
    (Run.sum_map_eq_zero _).mpr fun f hf => (flight_zero (hinv.frames _ f hf) hc).2 (opp_ne _).symm⟩

/-- hence what a half-stream has in flight over both carriers is what is on its own two -/
theorem halfOK_carrier (hi : s.halves[i]? = some h) :
    ∃ c, cfg[i]? = some c ∧ HalfOK W (dataFl i (dataWire h.dir s)) (credFl i (credWire h.dir s)) h c := by
  obtain ⟨c, hc⟩ := get_of_length_eq hinv.len hi
  obtain ⟨h1, h2⟩ := wrong_carrier hinv hi
  have ok := hinv.half i h c hi hc
  unfold dataFl credFl at *
  rw [onWires_split (dataOf i) s h.dir, onWires_split (credOf i) s h.dir, h1, h2, Nat.add_zero,
    Nat.zero_add, ← credWire_eq] at ok
  exact ⟨c, hc, ok⟩

end

/-- the invariant per carrier, as a reader of the Go code would state it -/
structure Inv (K W : Nat) (cfg : Cfg) (s : St) : Prop where
  carriers : s.ab.length ≤ K ∧ s.ba.length ≤ K
  static : s.halves.length = cfg.length ∧
    ∀ (i : Nat) (h : Half) (c : Dir × Bool × List Nat), s.halves[i]? = some h → cfg[i]? = some c → h.dir = c.1 ∧ h.willing = c.2.1
  conservation : ∀ (i : Nat) (h : Half), s.halves[i]? = some h →
    h.win + dataFl i (dataWire h.dir s) + h.queue.sum + h.pending + credFl i (credWire h.dir s) = W
  framesAB : ∀ f ∈ s.ab, ∃ h, s.halves[fidx f]? = some h ∧ h.dir = frameDir true f
  framesBA : ∀ f ∈ s.ba, ∃ h, s.halves[fidx f]? = some h ∧ h.dir = frameDir false f
  wrongCarrier : ∀ (i : Nat) (h : Half), s.halves[i]? = some h →
    dataFl i (credWire h.dir s) = 0 ∧ credFl i (dataWire h.dir s) = 0
  ghostSent : ∀ (i : Nat) (h : Half), s.halves[i]? = some h →
    h.sent = h.delivered + h.queue.sum + dataFl i (dataWire h.dir s)
  ghostTotal : ∀ (i : Nat) (h : Half) (c : Dir × Bool × List Nat), s.halves[i]? = some h → cfg[i]? = some c → h.sent + h.remaining = c.2.2.sum
  /-- a stalled application has read nothing and owes no window update -/
  stalled : ∀ (i : Nat) (h : Half), s.halves[i]? = some h → h.willing = false → h.pending = 0 ∧ h.delivered = 0

theorem inv_of_core {K W : Nat} {cfg : Cfg} {s : St} (hinv : CoreInv K W cfg s) : Inv K W cfg s where
  carriers := ⟨hinv.bound .up, hinv.bound .down⟩
  static := ⟨hinv.len, fun i h c hi hc => ⟨(hinv.half i h c hi hc).dir, (hinv.half i h c hi hc).willing⟩⟩
  conservation _ _ hi := (halfOK_carrier hinv hi).elim fun _ ok => ok.2.cons
  framesAB _ hf := (frame_half hinv (d := .up) hf).imp fun _ hh => ⟨hh.1, frameDir_of_carrier.1 hh.2⟩
  framesBA _ hf := (frame_half hinv (d := .down) hf).imp fun _ hh => ⟨hh.1, frameDir_of_carrier.2 hh.2⟩
  wrongCarrier _ _ hi := credWire_eq .. ▸ wrong_carrier hinv hi
  ghostSent _ _ hi := (halfOK_carrier hinv hi).elim fun _ ok => ok.2.ghost
  ghostTotal i h c hi hc := (hinv.half i h c hi hc).total
  stalled _ _ hi := (halfOK_carrier hinv hi).elim fun _ ok => ok.2.stalled

theorem inv_reachable {K W cm : Nat} {cfg : Cfg} {s : St} (h : Reachable K W cm cfg s) : Inv K W cfg s := by
  obtain ⟨as, hr⟩ := h
  exact inv_of_core (inv_run hr)

/-- the receiver never holds more than one window of unread bytes -/
theorem Inv.receiver_bounded {K W : Nat} {cfg : Cfg} {s : St} (I : Inv K W cfg s) {i : Nat} {h : Half}
    (hi : s.halves[i]? = some h) : h.queue.sum ≤ W := by
  have := I.conservation i h hi
  omega

theorem loop_enabled {K cm : Nat} {s : St} {d : Dir} (h : dataWire d s ≠ []) :
    (step K cm s (loopOf d)).isSome = true := by
  cases hw : dataWire d s with
  | nil => exact absurd hw h
  | cons f rest => rw [step_iff.mpr (Step.loop hw)]; rfl

/-- a receive loop is never blocked: in EVERY state (reachable or not) it can take the next
    frame off its carrier, however full the other carrier is and whatever the applications do -/
theorem loop_never_blocked (K cm : Nat) (s : St) :
    (s.ab ≠ [] → (step K cm s .loopB).isSome = true) ∧ (s.ba ≠ [] → (step K cm s .loopA).isSome = true) :=
  ⟨loop_enabled (d := .up), loop_enabled (d := .down)⟩

def Stuck (K cm : Nat) (s : St) : Prop := ∀ a, step K cm s a = none

structure Quiet (s : St) : Prop where
  ab : s.ab = []
  ba : s.ba = []
  half : ∀ (i : Nat) (h : Half), s.halves[i]? = some h →
    h.pending = 0 ∧ (h.willing = true → h.queue = []) ∧ (h.todo ≠ [] → h.win = 0)

theorem quiet_of_stuck {K cm : Nat} (hK : 0 < K) {s : St} (hst : Stuck K cm s) : Quiet s := by
  have no : ∀ {a s'}, ¬ Step K cm s a s' := fun h => by cases (step_iff.mpr h).symm.trans (hst _)
  have hwire : ∀ d, dataWire d s = [] := fun d => by
    cases hw : dataWire d s with
    | nil => rfl
    | cons f rest => exact absurd (Step.loop hw) no
  have hroom : ∀ d, (dataWire d s).length < K := fun d => by rw [hwire d]; exact hK
  refine ⟨hwire .up, hwire .down, fun i h hi => ?_⟩
  have hp : h.pending = 0 := Decidable.byContradiction fun hp => no (Step.credit hi hp (hroom _))
  refine ⟨hp, fun hw => ?_, fun ht => Decidable.byContradiction fun hw => ?_⟩
  · cases hq : h.queue with
    | nil => rfl
    | cons k q =>
      obtain ⟨h', hr⟩ := read_some hw hp hq
      exact absurd (Step.read hi hr) no
  · obtain ⟨⟨k, h'⟩, hc⟩ := chunk_some (cm := cm) ht hw
    exact no (Step.send hi hc (hroom _))

theorem stuck_of_quiet {K cm : Nat} {s : St} (hq : Quiet s) : Stuck K cm s := by
  intro a
  cases hs : step K cm s a with
  | none => rfl
  | some s' =>
    exfalso
    cases step_iff.mp hs with
    | send hi hc _ =>
      obtain ⟨_, _, _, _, _, _, _, _, hw, ht, _⟩ := chunk_spec hc
      exact Nat.ne_of_gt hw ((hq.half _ _ hi).2.2 ht)
    | read hi hr =>
      obtain ⟨k, q, hk, hw, _, _⟩ := read_spec hr
      rw [(hq.half _ _ hi).2.1 hw] at hk
      cases hk
    | credit hi hp _ => exact hp (hq.half _ _ hi).1
    | @loop d f rest hw =>
      cases d
      · exact List.cons_ne_nil f rest (hw.symm.trans hq.ab)
      · exact List.cons_ne_nil f rest (hw.symm.trans hq.ba)

theorem stuck_iff {K cm : Nat} (hK : 0 < K) (s : St) : Stuck K cm s ↔ Quiet s :=
  ⟨quiet_of_stuck hK, stuck_of_quiet⟩

theorem exists_enabled_of_not_stuck {K cm : Nat} {s : St} (h : ¬ Stuck K cm s) :
    ∃ a, (step K cm s a).isSome = true := by
  apply Classical.byContradiction
  intro hno
  refine h fun a => ?_
  cases hs : step K cm s a with
  | none => rfl
  | some s' => exact absurd ⟨a, by rw [hs]; rfl⟩ hno

/-- half-stream `i` still has something to do: bytes or a (possibly empty) message not yet sent,
    a frame of it in flight, a chunk not yet read, or a window update owed -/
def Unfinished (s : St) (i : Nat) (h : Half) : Prop :=
  0 < h.remaining ∨ h.todo ≠ [] ∨ (∃ f, (f ∈ s.ab ∨ f ∈ s.ba) ∧ fidx f = i) ∨ h.queue ≠ [] ∨ 0 < h.pending

section
variable {K W cm : Nat} {cfg : Cfg} {s : St} (core : CoreInv K W cfg s) (hK : 0 < K) (hW : 0 < W)
include core hK hW

/-- a state without enabled action that satisfies the invariant leaves every
    half-stream in the same, explicitly known situation: a half-stream whose application reads is
    complete, whatever the others do; a half-stream whose application is stalled has its sender parked
    behind exactly `min (total bytes) W` unread bytes. -/
theorem CoreInv.completes (hmax : Stuck K cm s)
    {i : Nat} {d : Dir} {willing : Bool} {msgs : List Nat} (hc : cfg[i]? = some (d, willing, msgs)) :
    ∃ h, s.halves[i]? = some h ∧ h.dir = d ∧ h.willing = willing ∧ h.pending = 0 ∧
      (willing = true →
        h.delivered = msgs.sum ∧ h.sent = msgs.sum ∧ h.remaining = 0 ∧ h.todo = [] ∧ h.queue = [] ∧
        h.win = W) ∧
      (willing = false →
        h.delivered = 0 ∧ h.sent = h.queue.sum ∧ h.sent ≤ W ∧ h.sent = min msgs.sum W ∧
        h.win + h.queue.sum = W ∧ (0 < h.remaining → h.queue.sum = W) ∧
        (h.todo ≠ [] → h.queue.sum = W ∧ h.win = 0)) := by
  obtain ⟨h, hi⟩ := get_of_length_eq core.len.symm hc
  have q := quiet_of_stuck hK hmax
  obtain ⟨hp, hq, hsend⟩ := q.half i h hi
  obtain ⟨o1, o2, o3, o4, o5, o6⟩ := core.half i h _ hi hc
  dsimp only at o5
  -- nothing is in flight, so the invariant speaks of the half-stream alone
  have e : ∀ g, onWires g s = 0 := fun g => by rw [onWires, q.ab, q.ba]; rfl
  rw [e, e, hp] at o3
  rw [e] at o4
  simp only [Nat.add_zero] at o3 o4
  have hrem : h.todo = [] → h.remaining = 0 := fun e => by rw [Half.remaining, e]; rfl
  refine ⟨h, hi, o1, o2, hp, fun hw => ?_, fun hw => ?_⟩
  · subst hw
    have hq' := hq o2
    rw [hq', List.sum_nil, Nat.add_zero] at o3 o4
    have htodo : h.todo = [] :=
      Decidable.byContradiction fun ht => Nat.ne_of_gt hW (o3.symm.trans (hsend ht))
    rw [hrem htodo] at o5
    exact ⟨o4.symm.trans o5, o5, hrem htodo, htodo, hq', o3⟩
  · subst hw
    rw [(o6 o2).2, Nat.zero_add] at o4
    have hle : h.sent ≤ W := by rw [o4, ← o3]; exact Nat.le_add_left ..
    have key : h.todo ≠ [] → h.queue.sum = W ∧ h.win = 0 := fun ht => by
      rw [hsend ht, Nat.zero_add] at o3
      exact ⟨o3, hsend ht⟩
    have key2 : 0 < h.remaining → h.queue.sum = W := fun hr =>
      (key fun e => by rw [hrem e] at hr; exact Nat.lt_irrefl 0 hr).1
    refine ⟨(o6 o2).2, o4, hle, ?_, o3, key2, key⟩
    show h.sent = min msgs.sum W
    rw [← o5]
    by_cases ht : h.todo = []
    · rw [hrem ht]; exact (Nat.min_eq_left hle).symm
    · rw [o4, (key ht).1]; exact (Nat.min_eq_right (Nat.le_add_right ..)).symm

theorem CoreInv.no_deadlock {i : Nat} {h : Half} (hi : s.halves[i]? = some h)
    (hw : h.willing = true) (hu : Unfinished s i h) : ∃ a, (step K cm s a).isSome = true := by
  refine exists_enabled_of_not_stuck fun hst => ?_
  obtain ⟨⟨d, w, msgs⟩, hc⟩ := get_of_length_eq core.len hi
  obtain ⟨h', hi', _, hw', hp, h1, _⟩ := core.completes hK hW hst hc
  cases hi.symm.trans hi'
  obtain ⟨_, _, e3, e4, e5, _⟩ := h1 (hw'.symm.trans hw)
  have q := quiet_of_stuck hK hst
  rcases hu with hu | hu | ⟨f, hf, _⟩ | hu | hu
  · rw [e3] at hu; exact Nat.lt_irrefl 0 hu
  · exact hu e4
  · rw [q.ab, q.ba] at hf
    rcases hf with hf | hf <;> cases hf
  · exact hu e5
  · rw [hp] at hu; exact Nat.lt_irrefl 0 hu

theorem CoreInv.outcome_closed_form (hmax : Stuck K cm s) : summary s = expected W cfg := by
  apply List.ext_getElem?
  intro i
  simp only [summary, expected, List.getElem?_map]
  cases hc : cfg[i]? with
  | none =>
    have : s.halves[i]? = none := by
      rw [List.getElem?_eq_none_iff] at hc ⊢
      rw [core.len]; exact hc
    rw [this]; rfl
  | some c =>
    obtain ⟨d, w, msgs⟩ := c
    obtain ⟨h, hi, _, _, _, h1, h2⟩ := core.completes hK hW hmax hc
    rw [hi, Option.map_some, Option.map_some]
    cases w with
    | true =>
      obtain ⟨e1, e2, e3, _, e5, _⟩ := h1 rfl
      rw [e1, e2, e3, e5]; rfl
    | false =>
      obtain ⟨e1, e2, _, e4, _, _, _⟩ := h2 rfl
      have e6 : h.remaining = msgs.sum - min msgs.sum W := by
        have : h.sent + h.remaining = msgs.sum := (core.half i h _ hi hc).total
        omega
      rw [e1, ← e2, e4, e6]; rfl

theorem CoreInv.final_willing (hmax : Stuck K cm s)
    {i : Nat} {d : Dir} {msgs : List Nat} (hc : cfg[i]? = some (d, true, msgs)) :
    s.halves[i]? = some { dir := d, willing := true, todo := [], win := W, queue := [], pending := 0,
                          sent := msgs.sum, delivered := msgs.sum } := by
  obtain ⟨h, hi, h1, h2, h3, h4, _⟩ := core.completes hK hW hmax hc
  obtain ⟨h5, h6, _, h7, h8, h9⟩ := h4 rfl
  cases h
  dsimp only at h1 h2 h3 h5 h6 h7 h8 h9
  rw [hi, h1, h2, h3, h5, h6, h7, h8, h9]

end

/-- every maximal schedule (one ending in a state without enabled action) -/
theorem completes {K W cm : Nat} (hK : 0 < K) (hW : 0 < W) {cfg : Cfg} {as : List Act} {s : St}
    (hr : run K cm (init W cfg) as = some s) (hmax : Stuck K cm s)
    {i : Nat} {d : Dir} {willing : Bool} {msgs : List Nat} (hc : cfg[i]? = some (d, willing, msgs)) :
    ∃ h, s.halves[i]? = some h ∧ h.dir = d ∧ h.willing = willing ∧ h.pending = 0 ∧
      (willing = true →
        h.delivered = msgs.sum ∧ h.sent = msgs.sum ∧ h.remaining = 0 ∧ h.todo = [] ∧ h.queue = [] ∧
        h.win = W) ∧
      (willing = false →
        h.delivered = 0 ∧ h.sent = h.queue.sum ∧ h.sent ≤ W ∧ h.sent = min msgs.sum W ∧
        h.win + h.queue.sum = W ∧ (0 < h.remaining → h.queue.sum = W) ∧
        (h.todo ≠ [] → h.queue.sum = W ∧ h.win = 0)) :=
  (inv_run hr).completes hK hW hmax hc

theorem no_deadlock {K W cm : Nat} (hK : 0 < K) (hW : 0 < W) {cfg : Cfg} {s : St}
    (hr : Reachable K W cm cfg s) {i : Nat} {h : Half} (hi : s.halves[i]? = some h)
    (hw : h.willing = true) (hu : Unfinished s i h) : ∃ a, (step K cm s a).isSome = true :=
  hr.elim fun _ hrun => (inv_run hrun).no_deadlock hK hW hi hw hu

theorem no_deadlock_undelivered {K W cm : Nat} (hK : 0 < K) (hW : 0 < W) {cfg : Cfg} {s : St}
    (hr : Reachable K W cm cfg s) {i : Nat} {d : Dir} {msgs : List Nat} {h : Half}
    (hc : cfg[i]? = some (d, true, msgs)) (hi : s.halves[i]? = some h) (hu : h.delivered ≠ msgs.sum) :
    ∃ a, (step K cm s a).isSome = true := by
  refine exists_enabled_of_not_stuck fun hst => ?_
  obtain ⟨as, hrun⟩ := hr
  obtain ⟨h', hi', _, _, _, h1, _⟩ := completes hK hW hrun hst hc
  cases hi.symm.trans hi'
  exact hu (h1 rfl).1

theorem outcome_closed_form {K W cm : Nat} (hK : 0 < K) (hW : 0 < W) {cfg : Cfg} {as : List Act} {s : St}
    (hr : run K cm (init W cfg) as = some s) (hmax : Stuck K cm s) : summary s = expected W cfg :=
  (inv_run hr).outcome_closed_form hK hW hmax

/-- two maximal schedules from the same initial state agree on
    `(sent, delivered, queue.sum, remaining)` of EVERY half-stream, willing or stalled, with or
    without empty messages — also when the carrier capacities and chunk maxima differ -/
theorem outcome_schedule_independent {K₁ K₂ W cm₁ cm₂ : Nat} (hK₁ : 0 < K₁) (hK₂ : 0 < K₂) (hW : 0 < W)
    {cfg : Cfg} {as₁ as₂ : List Act} {s₁ s₂ : St}
    (hr₁ : run K₁ cm₁ (init W cfg) as₁ = some s₁) (hmax₁ : Stuck K₁ cm₁ s₁)
    (hr₂ : run K₂ cm₂ (init W cfg) as₂ = some s₂) (hmax₂ : Stuck K₂ cm₂ s₂) :
    summary s₁ = summary s₂ := by
  rw [outcome_closed_form hK₁ hW hr₁ hmax₁, outcome_closed_form hK₂ hW hr₂ hmax₂]

theorem willing_state_schedule_independent {K W cm : Nat} (hK : 0 < K) (hW : 0 < W) {cfg : Cfg}
    {as₁ as₂ : List Act} {s₁ s₂ : St}
    (hr₁ : run K cm (init W cfg) as₁ = some s₁) (hmax₁ : Stuck K cm s₁)
    (hr₂ : run K cm (init W cfg) as₂ = some s₂) (hmax₂ : Stuck K cm s₂)
    {i : Nat} {d : Dir} {msgs : List Nat} (hc : cfg[i]? = some (d, true, msgs)) :
    s₁.halves[i]? = s₂.halves[i]? ∧ s₁.ab = s₂.ab ∧ s₁.ba = s₂.ba := by
  have q₁ := quiet_of_stuck hK hmax₁
  have q₂ := quiet_of_stuck hK hmax₂
  exact ⟨((inv_run hr₁).final_willing hK hW hmax₁ hc).trans ((inv_run hr₂).final_willing hK hW hmax₂ hc).symm,
    q₁.ab.trans q₂.ab.symm, q₁.ba.trans q₂.ba.symm⟩

def frameCost : Frame → Nat
  | .data _ _ => 4
  | .credit _ _ => 1

def wireCost (w : List Frame) : Nat := (w.map frameCost).sum

def halfCost (h : Half) : Nat :=
  5 * (h.todo.sum + h.todo.length) + 3 * h.queue.length + (if h.pending = 0 then 0 else 2)

/-- Every action strictly decreases this: each action moves one item one station down the chain
    unsent byte or message 5 > data frame 4 > queued chunk 3 > credit owed 2 > credit frame 1 > added to
    the window 0 (`send`, a loop on a data frame, `read`, `credit`, a loop on a credit frame). -/
def measure (s : St) : Nat := (s.halves.map halfCost).sum + wireCost s.ab + wireCost s.ba

theorem measure_eq (s : St) : measure s = (s.halves.map halfCost).sum + onWires frameCost s :=
  Nat.add_assoc ..

theorem wireCost_cons (w : List Frame) (f : Frame) : wireCost (f :: w) = frameCost f + wireCost w := rfl

theorem frameCost_pos (f : Frame) : 0 < frameCost f := by cases f <;> exact Nat.succ_pos _

theorem halfCost_chunk {cm : Nat} (hcm : 0 < cm) {h h' : Half} {k : Nat} (hc : h.chunk cm = some (k, h')) :
    halfCost h' + 5 ≤ halfCost h := by
  obtain ⟨_, _, e3, e4, _, _, _, e9, _, _, e12⟩ := chunk_spec hc
  have := e12 hcm
  unfold Half.remaining at e9
  unfold halfCost
  rw [e3, e4]
  omega

theorem halfCost_read {h h' : Half} (hr : h.read = some h') : halfCost h' + 1 ≤ halfCost h := by
  obtain ⟨k, q, hq, _, hp, rfl⟩ := read_spec hr
  simp only [halfCost, hq, hp, List.length_cons, if_true]
  split <;> omega

theorem halfCost_accept (h : Half) (f : Frame) : halfCost (acceptF h f) + 1 ≤ halfCost h + frameCost f := by
  cases f with
  | data i k =>
    dsimp only [halfCost, acceptF, frameCost]
    rw [List.length_append, List.length_singleton]
    omega
  | credit i k => exact Nat.le_refl _

theorem cost_deliver (hs : List Half) (f : Frame) :
    ((deliver hs f).map halfCost).sum + 1 ≤ (hs.map halfCost).sum + frameCost f := by
  cases hi : hs[fidx f]? with
  | none =>
    rw [deliver_none hi]
    exact Nat.add_le_add_left (frameCost_pos f) _
  | some h =>
    rw [deliver_eq hi]
    have := Run.sum_map_set halfCost (acceptF h f) hi
    have := halfCost_accept h f
    omega

/-- a half-stream replaced by one that costs less pays for `n` units of new frames -/
theorem measure_set {hs : List Half} {i n w : Nat} {h h' : Half} (hi : hs[i]? = some h)
    (hlt : halfCost h' + n < halfCost h) :
    ((hs.set i h').map halfCost).sum + (w + n) < (hs.map halfCost).sum + w := by
  have := Run.sum_map_set halfCost h' hi
  omega

theorem measure_decreases {K cm : Nat} (hcm : 0 < cm) {s s' : St} (a : Act)
    (hs : step K cm s a = some s') : measure s' < measure s := by
  rw [measure_eq, measure_eq]
  cases step_iff.mp hs with
  | send hi hc _ =>
    rw [put_halves, onWires_push]
    exact measure_set hi (halfCost_chunk hcm hc)
  | read hi hr => exact measure_set (n := 0) hi (halfCost_read hr)
  | @credit i h hi hp _ =>
    rw [put_halves, onWires_push]
    refine measure_set (n := 1) hi (Nat.le_of_eq ?_)
    show halfCost { h with pending := 0 } + 2 = halfCost h
    unfold halfCost
    rw [if_neg hp]; rfl
  | @loop d f rest hw =>
    have := cost_deliver s.halves f
    rw [put_halves, onWires_pop frameCost (deliver s.halves f) hw]
    omega

theorem run_length_le {K cm : Nat} (hcm : 0 < cm) : ∀ (as : List Act) {s s' : St},
    run K cm s as = some s' → as.length + measure s' ≤ measure s :=
  fun _ _ _ hr => (isRun K cm).length_le (P := fun _ => True) (fun _ _ => trivial)
    (fun _ hs => measure_decreases hcm _ hs) trivial hr

theorem measure_init (W : Nat) (cfg : Cfg) : measure (init W cfg) = workBound cfg := by
  simp only [measure, init, wireCost, List.map_nil, List.sum_nil, Nat.add_zero, workBound]
  induction cfg with
  | nil => rfl
  | cons c cfg ih =>
    simp only [List.map_cons, List.sum_cons, ih]
    simp [halfCost, Half.init]
    omega

/-- every execution is finite: a schedule from the initial state has at most
    `5·Σ (bytes + number of messages)` actions, whatever the interleaving -/
theorem terminates {K W cm : Nat} (hcm : 0 < cm) (cfg : Cfg) (as : List Act) {s : St}
    (hr : run K cm (init W cfg) as = some s) : as.length ≤ workBound cfg := by
  have := run_length_le hcm as hr
  rw [measure_init] at this
  omega

section
variable {K cm : Nat} {s : St}

theorem firstEnabled_spec (l : List Act) :
    (firstEnabled K cm s l = none → ∀ a ∈ l, step K cm s a = none) ∧
    (∀ {a s'}, firstEnabled K cm s l = some (a, s') → step K cm s a = some s') := by
  induction l with
  | nil => exact ⟨fun _ _ ha => (nomatch ha), fun hf => (nomatch hf)⟩
  | cons b l ih =>
    rw [firstEnabled]
    cases hb : step K cm s b with
    | some s1 => exact ⟨fun hf => (nomatch hf), fun hf => by cases hf; exact hb⟩
    | none =>
      refine ⟨fun hf a ha => ?_, ih.2⟩
      rcases List.mem_cons.mp ha with e | e
      · rw [e]; exact hb
      · exact ih.1 hf a e

end

theorem mem_allActs_loop (n : Nat) : Act.loopA ∈ allActs n ∧ Act.loopB ∈ allActs n := by
  induction n with
  | zero => simp [allActs]
  | succ n ih => simp [allActs, ih.1, ih.2]

theorem mem_allActs_idx {n i : Nat} (h : i < n) :
    Act.send i ∈ allActs n ∧ Act.read i ∈ allActs n ∧ Act.credit i ∈ allActs n := by
  induction n with
  | zero => omega
  | succ n ih =>
    by_cases e : i = n
    · subst e; simp [allActs]
    · have := ih (by omega)
      simp [allActs, this.1, this.2.1, this.2.2]

theorem mem_allActs_of_step {K cm : Nat} {s s' : St} {a : Act} (hs : step K cm s a = some s') :
    a ∈ allActs s.halves.length := by
  cases step_iff.mp hs with
  | send hi _ _ => exact (mem_allActs_idx (Run.lt_of_get hi)).1
  | read hi _ => exact (mem_allActs_idx (Run.lt_of_get hi)).2.1
  | credit hi _ _ => exact (mem_allActs_idx (Run.lt_of_get hi)).2.2
  | @loop d _ _ _ =>
    cases d
    · exact (mem_allActs_loop _).2
    · exact (mem_allActs_loop _).1

theorem stuck_of_allActs {K cm : Nat} {s : St}
    (h : ∀ a ∈ allActs s.halves.length, step K cm s a = none) : Stuck K cm s := by
  intro a
  cases hs : step K cm s a with
  | none => rfl
  | some s' => exact hs.symm.trans (h a (mem_allActs_of_step hs))

/-- `enabledActs` is a decision procedure for `Stuck` -/
theorem stuck_iff_enabledActs {K cm : Nat} {s : St} : Stuck K cm s ↔ enabledActs K cm s = [] := by
  rw [enabledActs, List.filter_eq_nil_iff]
  constructor
  · intro hst a _
    rw [hst a]; exact Bool.false_ne_true
  · intro he
    refine stuck_of_allActs fun a ha => ?_
    have := he a ha
    cases hs : step K cm s a with
    | none => rfl
    | some s' => rw [hs] at this; exact absurd rfl this

theorem run_traceToEnd (K cm : Nat) : ∀ (fuel : Nat) (s : St),
    run K cm s (traceToEnd K cm fuel s) = some (runToEnd K cm fuel s) := by
  intro fuel
  induction fuel with
  | zero => intro s; rfl
  | succ n ih =>
    intro s
    simp only [traceToEnd, runToEnd]
    cases hf : firstEnabled K cm s (allActs s.halves.length) with
    | none => rfl
    | some p =>
      obtain ⟨a, s'⟩ := p
      simp only [run, (firstEnabled_spec _).2 hf]
      exact ih s'

theorem runToEnd_stuck {K cm : Nat} (hcm : 0 < cm) : ∀ (fuel : Nat) (s : St), measure s ≤ fuel →
    Stuck K cm (runToEnd K cm fuel s) := by
  intro fuel
  induction fuel with
  | zero =>
    intro s hm a
    cases hs : step K cm s a with
    | none => exact hs
    | some s' =>
      have := measure_decreases hcm a hs
      omega
  | succ n ih =>
    intro s hm
    rw [runToEnd]
    cases hf : firstEnabled K cm s (allActs s.halves.length) with
    | none => exact stuck_of_allActs ((firstEnabled_spec _).1 hf)
    | some p =>
      obtain ⟨a, s'⟩ := p
      have := measure_decreases hcm a ((firstEnabled_spec _).2 hf)
      exact ih s' (by omega)

/-- with fuel `workBound cfg` (the bound of `terminates`) the executable scheduler ends in a
    state without enabled action, and that state is reachable -/
theorem runToEnd_maximal {K W cm : Nat} (hcm : 0 < cm) (cfg : Cfg) {fuel : Nat} (hf : workBound cfg ≤ fuel) :
    Stuck K cm (runToEnd K cm fuel (init W cfg)) ∧ Reachable K W cm cfg (runToEnd K cm fuel (init W cfg)) :=
  ⟨runToEnd_stuck hcm fuel _ (by rw [measure_init]; exact hf), ⟨_, run_traceToEnd K cm fuel _⟩⟩

/-- hence the scheduler's answer is THE answer: every maximal schedule ends with the
    summary computed by `runToEnd` -/
theorem runToEnd_is_the_answer {K W cm : Nat} (hK : 0 < K) (hW : 0 < W) (hcm : 0 < cm) {cfg : Cfg}
    {as : List Act} {s : St} (hr : run K cm (init W cfg) as = some s) (hmax : Stuck K cm s) :
    summary s = summary (runToEnd K cm (workBound cfg) (init W cfg)) := by
  obtain ⟨h1, _⟩ := runToEnd_maximal (K := K) (W := W) hcm cfg (Nat.le_refl (workBound cfg))
  exact outcome_schedule_independent hK hK hW hr hmax (run_traceToEnd K cm _ _) h1

/-! ### non-vacuity: a concrete tunnel with K = 1, W = 4, cm = 2 -/

namespace Example

/-- half-stream 0: stalled reader, one message of 10 bytes; 1: willing `up`, messages 5, 0, 3;
    2: willing `down`, one message of 6 bytes -/
def cfg : Cfg := [(.up, false, [10]), (.up, true, [5, 0, 3]), (.down, true, [6])]

/-- a maximal schedule (47 actions; the one `traceToEnd` follows) -/
def sched : List Act :=
  [.send 2, .send 1, .loopA, .send 2, .read 2, .loopA, .loopB, .credit 2, .read 2, .read 1, .credit 1,
   .loopA, .loopB, .send 2, .credit 2, .loopA, .read 2, .loopB, .credit 2, .loopB, .send 1, .loopB,
   .send 1, .read 1, .credit 1, .loopA, .loopB, .send 1, .read 1, .credit 1, .loopA, .loopB, .send 1,
   .read 1, .loopB, .send 1, .read 1, .credit 1, .loopA, .loopB, .read 1, .credit 1, .send 0, .loopA,
   .loopB, .send 0, .loopB]

/-- another maximal schedule: the stalled stream goes first and fills the carrier, the `down` stream
    is served before the `up` stream -/
def sched' : List Act :=
  [.send 0, .loopB, .send 0, .loopB,
   .send 2, .loopA, .read 2, .credit 2, .loopB, .send 2, .loopA, .read 2, .credit 2, .loopB,
   .send 2, .loopA, .read 2, .credit 2, .loopB,
   .send 1, .loopB, .read 1, .credit 1, .loopA, .send 1, .loopB, .read 1, .credit 1, .loopA,
   .send 1, .loopB, .read 1, .credit 1, .loopA, .send 1, .loopB, .read 1,
   .send 1, .loopB, .read 1, .credit 1, .loopA, .send 1, .loopB, .read 1, .credit 1, .loopA]

def final : St :=
  { halves := [{ dir := .up, willing := false, todo := [6], win := 0, queue := [2, 2], pending := 0, sent := 4, delivered := 0 },
               { dir := .up, willing := true, todo := [], win := 4, queue := [], pending := 0, sent := 8, delivered := 8 },
               { dir := .down, willing := true, todo := [], win := 4, queue := [], pending := 0, sent := 6, delivered := 6 }],
    ab := [], ba := [] }

/-- The schedules are run once each, here; the examples below then only inspect `final`. -/
theorem run_sched : run 1 2 (init 4 cfg) sched = some final := by decide +kernel
theorem run_sched' : run 1 2 (init 4 cfg) sched' = some final := by decide +kernel
theorem trace_eq : traceToEnd 1 2 (workBound cfg) (init 4 cfg) = sched := by decide +kernel

theorem runToEnd_eq : runToEnd 1 2 (workBound cfg) (init 4 cfg) = final :=
  Option.some.inj ((trace_eq ▸ run_traceToEnd 1 2 (workBound cfg) (init 4 cfg)).symm.trans run_sched)

/-- the schedule runs, ends with no enabled action; the stalled sender is parked with 4 unread bytes
    and 6 bytes unsent, the two willing streams are complete -/
example :
    (run 1 2 (init 4 cfg) sched).map summary = some [(4, 0, 4, 6), (8, 8, 0, 0), (6, 6, 0, 0)] ∧
    (run 1 2 (init 4 cfg) sched).map (enabledActs 1 2) = some [] ∧
    (run 1 2 (init 4 cfg) sched).map (fun s => (s.ab, s.ba)) = some ([], []) := by
  rw [run_sched]; decide

example :
    (run 1 2 (init 4 cfg) sched).map (fun s => s.halves.map (fun h => (h.win, h.queue, h.todo, h.pending))) =
      some [(0, [2, 2], [6], 0), (4, [], [], 0), (4, [], [], 0)] := by
  rw [run_sched]; decide

example :
    (run 1 2 (init 4 cfg) sched').map summary = some [(4, 0, 4, 6), (8, 8, 0, 0), (6, 6, 0, 0)] ∧
    (run 1 2 (init 4 cfg) sched').map (enabledActs 1 2) = some [] ∧
    (run 1 2 (init 4 cfg) sched').map (fun s => (s.ab, s.ba)) = some ([], []) := by
  rw [run_sched']; decide

/-- the same, with "no enabled action" as `Stuck` -/
example : ∃ s, run 1 2 (init 4 cfg) sched = some s ∧ Stuck 1 2 s ∧
    summary s = [(4, 0, 4, 6), (8, 8, 0, 0), (6, 6, 0, 0)] :=
  ⟨final, run_sched, stuck_iff_enabledActs.mpr (by decide), by decide⟩

/-- the executable scheduler gives the same answer, which is the closed form -/
example : summary (runToEnd 1 2 (workBound cfg) (init 4 cfg)) = expected 4 cfg := by rw [runToEnd_eq]; decide
example : traceToEnd 1 2 (workBound cfg) (init 4 cfg) = sched := trace_eq
example : workBound cfg = 145 ∧ sched.length = 47 ∧ sched'.length = 47 := by decide

/-- an empty message needs a positive window: with the messages 4, 0 and a stalled reader the empty
    message stays unsent although no BYTE remains (`remaining = 0`, `todo = [0]`) -/
example :
    (run 1 2 (init 4 [(.up, false, [4, 0])]) [.send 0, .loopB, .send 0, .loopB]).map
        (fun s => (summary s, s.halves.map (·.todo), enabledActs 1 2 s)) =
      some ([(4, 0, 4, 0)], [[0]], []) := by
  decide +kernel

end Example

/-! ### why "receive loops never send" matters: the `Faulty` variant deadlocks

  In `TunnelModel.Closed.Faulty` the receive loop itself puts the window update on the carrier.
  Two willing streams in opposite directions, K = 1: each side sends one frame, both carriers are
  full, both loops need room on the opposite carrier — nothing can move, nothing was delivered. -/
namespace FaultyExample

def cfg : Cfg := [(.up, true, [2]), (.down, true, [2])]
def sched : List Act := [.send 0, .send 1]

/-- the state after `sched` in the faulty model: both carriers full, nothing delivered -/
def dead : St :=
  { halves := [{ dir := .up, willing := true, todo := [], win := 2, queue := [], pending := 0, sent := 2, delivered := 0 },
               { dir := .down, willing := true, todo := [], win := 2, queue := [], pending := 0, sent := 2, delivered := 0 }],
    ab := [.data 0 2], ba := [.data 1 2] }

theorem reachable : Faulty.run 1 2 (init 4 cfg) sched = some dead := by decide +kernel

/-- no action at all is enabled in `dead` (for every `Act`, not only those of the enumeration) -/
theorem deadlock : ∀ a, Faulty.step 1 2 dead a = none := by
  intro a
  cases a with
  | loopA => decide
  | loopB => decide
  | send i =>
    match i with
    | 0 => decide
    | 1 => decide
    | n + 2 => rfl
  | read i =>
    match i with
    | 0 => decide
    | 1 => decide
    | n + 2 => rfl
  | credit i =>
    match i with
    | 0 => decide
    | 1 => decide
    | n + 2 => rfl

/-- both streams are willing and unfinished: a frame in flight, nothing delivered -/
theorem unfinished : dead.halves.map (fun h => (h.willing, h.delivered)) = [(true, 0), (true, 0)] ∧
    Faulty.enabledActs 1 2 dead = [] ∧ Unfinished dead 0 dead.halves[0] ∧ Unfinished dead 1 dead.halves[1] := by
  refine ⟨by decide, by decide +kernel, ?_, ?_⟩
  · exact Or.inr (Or.inr (Or.inl ⟨.data 0 2, Or.inl (by decide), rfl⟩))
  · exact Or.inr (Or.inr (Or.inl ⟨.data 1 2, Or.inr (by decide), rfl⟩))

/-- in the correct model the same schedule reaches the same state, both loops are enabled there, and
    `runToEnd` completes both streams -/
example : run 1 2 (init 4 cfg) sched = some dead := by decide +kernel
example : (step 1 2 dead .loopA).isSome = true ∧ (step 1 2 dead .loopB).isSome = true := by decide
example : summary (runToEnd 1 2 (workBound cfg) (init 4 cfg)) = [(2, 2, 0, 0), (2, 2, 0, 0)] := by decide +kernel

end FaultyExample

end Proofs.Closed
