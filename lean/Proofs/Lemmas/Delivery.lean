import TunnelModel.LFrame.Trace
import Proofs.Lemmas.Framing
import Proofs.Lemmas.ServerOps
import Proofs.Lemmas.ServerShape
import Proofs.Lemmas.ClientOps
/-!
  C01, DELIVERY half — "the messages an application obtains are exactly the complete messages
  obtained by reassembling, from the start, the data frames that were fed to its stream, in order,
  with nothing duplicated, reordered, merged or fabricated" — for both endpoints, at the level of
  one stream object (`SStream.runEv` / `CStream.runEv` of `TunnelModel/LFrame/Trace.lean`).

  Legality.  Without an assumption on the event list the statement is FALSE: the histories must be
  legal with respect to reads (`legalRecvsS` / `legalRecvsC`, same style as `legalSends`): a
  `.call .recv` is only issued when no read is pending.  This is the grpc-go stream contract (one
  `RecvMsg` at a time on each side of an RPC).  In the model a second `RecvMsg` while one is pending
  overwrites `pread` with a new read, so the partial message (or the message held by the
  look-ahead) of the first read is lost; the two counterexamples are checked at the end of the file.
  (The proofs only need the weaker `recvOK`: the pending read, if any, retains nothing.)

  Flow control.  For revision zero (`fc = false`) the receiver is a one-slot hand-off and the model
  gives up (`unsupported := true`, the frame is not enqueued) when a frame arrives while the slot is
  full; the `_rev0` theorems hold for any `fc` under the hypothesis that the final state has
  `unsupported = false` (`unsupported` is sticky, so the model never gave up during the run).

  Proof.  `InvC q c pr b fed del` (endpoint independent) is the invariant on the queue `q`, the
  receiver's `closed` flag `c`, the pending read `pr` and "reading is over for good" `b`, relating
  the ghost histories `fed` / `del`: either `pr = none ∧ b` and `del <+: (parse none fed).1`
  (nothing will be delivered any more), or `¬ b` and `Acct`.  `readLoop_spec` characterises one pass
  of the read loop by `parse`.  Per endpoint, `Tr s r` / `CTr s r` says that a step `r` from `s`
  keeps the invariant while delivering the messages in its output.  On the client it is shown of
  the steps that reads and tear-downs consist of (`ClientOps.ReadPass`, `ClientOps.TAtom`), hence
  of every chain of them; on the server the operations are followed through their equations in
  `ServerOps`, because there the invariant is broken between the steps of `cancelCtx`.  `Spec` adds
  the data frames a step feeds; `Spec.run_inv` is the induction over the event list for both.
-/

namespace Proofs.Delivery
open TunnelModel.LFrame TunnelModel.Framing
open Proofs.Framing (parse_append parse_append_ok)
open Proofs.ServerOps (halfClose_eq finishCore_fst finishCore_snd cancelCtx_snd cancelCtx_of_done cancelCtx_of_open
  ctxMark pumpSend_fst hdrStage afterSend_eq sendErr afterDecode_eq failWith opName drained readPass resumeRead_none
  resumeRead_succ startRecv_eq ccSend ccRead cancelCtx_fst)
open Proofs.ClientOps (ReadPass TAtom Chain finish_chain ctxCancelled_chain afterRead_chain resumeRead_chain
  pumpSend_sent finish_done_isSome finish_won)

variable {α : Type}

theorem parse_append_err {st : RState α} {fs : List (DFrame α)} {ms : List (List α)} {e : PErr}
    (h : parse st fs = (ms, .error e)) (gs : List (DFrame α)) :
    parse st (fs ++ gs) = (ms, .error e) := by
  rw [parse_append, h]

theorem parse_msgs_prefix (st : RState α) (fs gs : List (DFrame α)) :
    (parse st fs).1 <+: (parse st (fs ++ gs)).1 := by
  rcases h : parse st fs with ⟨ms, r⟩
  cases r with
  | ok st' => rw [parse_append_ok h]; exact List.prefix_append _ _
  | error e => rw [parse_append_err h]; exact List.prefix_refl _

/-- `ReadLoop.readLoop_spec` is about the same prefix of the queue: how it moves the window -/
theorem readLoop_spec (q : List (DFrame α)) : ∀ (w : Nat) (st : RState α) (w' : Nat)
    (q' : List (DFrame α)) (cs : List Nat) (out : Option (PStep α)),
    readLoop w q st = (w', q', cs, out) →
    ∃ taken r, q = taken ++ q' ∧ out = some r ∧
      match r with
      | .cont st' => q' = [] ∧ parse st taken = ([], .ok st')
      | .msg m => parse st taken = ([m], .ok none)
      | .err e => parse st taken = ([], .error e) := by
  induction q with
  | nil =>
    intro w st w' q' cs out h
    simp only [readLoop, Prod.mk.injEq] at h
    obtain ⟨_, rfl, _, rfl⟩ := h
    exact ⟨[], .cont st, rfl, rfl, rfl, rfl⟩
  | cons f q ih =>
    intro w st w' q' cs out h
    simp only [readLoop] at h
    cases hps : parseStep st f with
    | cont st1 =>
      simp only [hps, Prod.mk.injEq] at h
      obtain ⟨_, rfl, _, rfl⟩ := h
      obtain ⟨taken, r, hq, hr, hp⟩ := ih _ _ _ _ _ _ rfl
      refine ⟨f :: taken, r, congrArg (f :: ·) hq, hr, ?_⟩
      cases r <;> simpa only [parse, hps] using hp
    | msg m =>
      simp only [hps, Prod.mk.injEq] at h
      obtain ⟨_, rfl, _, rfl⟩ := h
      exact ⟨[f], .msg m, rfl, rfl, by simp only [parse, hps]⟩
    | err e =>
      simp only [hps, Prod.mk.injEq] at h
      obtain ⟨_, rfl, _, rfl⟩ := h
      exact ⟨[f], .err e, rfl, rfl, by simp only [parse, hps]⟩

/-- message held by the pending read (the eager look-ahead holds the first message) -/
def held (pr : Option (PRead α)) : List (List α) :=
  match pr with
  | some p => (match p.lookahead with | some m => [m] | none => [])
  | none => []

def rstOf (pr : Option (PRead α)) : RState α :=
  match pr with
  | some p => p.rst
  | none => none

/-- a `RecvMsg` may be started: no read that retains data is pending -/
def recvOK (pr : Option (PRead α)) : Bool :=
  match pr with
  | none => true
  | some p => p.lookahead.isNone && p.rst.isNone

/-- `Acct q c pr fed del`: the frames fed so far are `consumed ++ q ++ rest`
    where `consumed` was taken out of the queue by reads, `q` is the queue and
    `rest` was dropped after the receiver was closed (`c`); reassembling
    `consumed` from the start gives exactly the messages delivered so far, then
    the one held by the look-ahead, and stops in the state of the pending read -/
def Acct (q : List (DFrame α)) (c : Bool) (pr : Option (PRead α)) (fed : List (DFrame α))
    (del : List (List α)) : Prop :=
  ∃ consumed rest, fed = consumed ++ (q ++ rest) ∧ (c = false → rest = []) ∧
    parse none consumed = (del ++ held pr, .ok (rstOf pr))

def InvC (q : List (DFrame α)) (c : Bool) (pr : Option (PRead α)) (b : Bool) (fed : List (DFrame α))
    (del : List (List α)) : Prop :=
  (pr = none ∧ b = true ∧ del <+: (parse none fed).1) ∨ (b = false ∧ Acct q c pr fed del)

theorem Acct.prefix {q c pr fed del} (h : Acct (α := α) q c pr fed del) :
    (del ++ held pr) <+: (parse none fed).1 := by
  obtain ⟨consumed, rest, hf, _, hp⟩ := h
  subst hf
  have := parse_msgs_prefix none consumed (q ++ rest)
  rw [hp] at this
  exact this

theorem Acct.eof_result {q : List (DFrame α)} {pr : Option (PRead α)} {acc : List (DFrame α)}
    {del : List (List α)} (h : Acct q false pr acc del) (hq : q = []) :
    (parse none acc).1 = del ++ held pr := by
  obtain ⟨consumed, rest, hf, hr, hp⟩ := h
  rw [hf, hq, hr rfl, List.append_nil, List.append_nil, hp]

theorem InvC.prefix {q c pr b fed del} (h : InvC (α := α) q c pr b fed del) :
    del <+: (parse none fed).1 := by
  rcases h with ⟨_, _, h⟩ | ⟨_, h⟩
  · exact h
  · exact (List.prefix_append del _).trans h.prefix

theorem InvC.dead {del : List (List α)} {fed : List (DFrame α)} (h : del <+: (parse none fed).1)
    (q : List (DFrame α)) (c : Bool) : InvC q c none true fed del :=
  Or.inl ⟨rfl, rfl, h⟩

theorem Acct.mono_closed {q c c' pr fed del} (h : Acct (α := α) q c pr fed del) (hc : c = true → c' = true) :
    Acct q c' pr fed del := by
  obtain ⟨consumed, rest, hf, hr, hp⟩ := h
  refine ⟨consumed, rest, hf, fun h' => hr ?_, hp⟩
  cases c
  · rfl
  · rw [hc rfl] at h'; exact absurd h' (by simp)

theorem Acct.feed {q pr fed del} (h : Acct (α := α) q false pr fed del) (f : DFrame α) :
    Acct (q ++ [f]) false pr (fed ++ [f]) del := by
  obtain ⟨consumed, rest, hf, hr, hp⟩ := h
  have := hr rfl
  subst this
  refine ⟨consumed, [], ?_, fun _ => rfl, hp⟩
  rw [hf]; simp

theorem Acct.close {q c pr fed del} (h : Acct (α := α) q c pr fed del) (extra : List (DFrame α)) :
    Acct q true pr (fed ++ extra) del := by
  obtain ⟨consumed, rest, hf, _, hp⟩ := h
  refine ⟨consumed, rest ++ extra, ?_, fun h => absurd h (by simp), hp⟩
  rw [hf]; simp

theorem Acct.cancel {q pr fed del} (h : Acct (α := α) q true pr fed del) :
    Acct [] true pr fed del := by
  obtain ⟨consumed, rest, hf, _, hp⟩ := h
  exact ⟨consumed, q ++ rest, by rw [hf]; simp, fun h => absurd h (by simp), hp⟩

theorem Acct.start {q c pr fed del} (h : Acct (α := α) q c pr fed del) (hk : recvOK pr = true) :
    Acct q c (some { lookahead := none, rst := none }) fed del := by
  obtain ⟨consumed, rest, hf, hr, hp⟩ := h
  refine ⟨consumed, rest, hf, hr, ?_⟩
  cases pr with
  | none => exact hp
  | some p =>
    simp only [recvOK, Bool.and_eq_true, Option.isNone_iff_eq_none] at hk
    simp only [held, rstOf, hk.1, hk.2] at hp
    exact hp

theorem Acct.pass {q q' taken : List (DFrame α)} {p : PRead α} {c fed del} {ms : List (List α)}
    {r : Except PErr (RState α)} (h : Acct q c (some p) fed del) (hq : q = taken ++ q')
    (hp : parse p.rst taken = (ms, r)) :
    ∃ consumed rest, fed = consumed ++ (q' ++ rest) ∧ (c = false → rest = []) ∧
      parse none consumed = (del ++ held (some p) ++ ms, r) := by
  obtain ⟨consumed, rest, hf, hrest, hpc⟩ := h
  refine ⟨consumed ++ taken, rest, by rw [hf, hq, List.append_assoc, List.append_assoc], hrest, ?_⟩
  rw [parse_append_ok hpc, show rstOf (some p) = p.rst from rfl, hp]

theorem Acct.read_cont {q q' : List (DFrame α)} {w w' : Nat} {cs : List Nat} {out : Option (PStep α)}
    {p : PRead α} {c fed del} {st' : RState α}
    (hr : readLoop w q p.rst = (w', q', cs, out)) (ho : out = some (.cont st'))
    (h : Acct q c (some p) fed del) :
    Acct q' c (some { lookahead := p.lookahead, rst := st' }) fed del := by
  subst ho
  obtain ⟨taken, r, hq, ho, hc⟩ := readLoop_spec q _ _ _ _ _ _ hr
  cases ho
  obtain ⟨consumed, rest, hf, hrest, hp⟩ := h.pass hq hc.2
  rw [List.append_nil] at hp
  exact ⟨consumed, rest, hf, hrest, hp⟩

theorem Acct.read_msg {q q' : List (DFrame α)} {w w' : Nat} {cs : List Nat} {out : Option (PStep α)}
    {p : PRead α} {c fed del} {m : List α}
    (hr : readLoop w q p.rst = (w', q', cs, out)) (ho : out = some (.msg m)) (hl : p.lookahead = none)
    (h : Acct q c (some p) fed del) :
    Acct q' c none fed (del ++ [m]) ∧
    Acct q' c (some { lookahead := some m, rst := none }) fed del := by
  subst ho
  obtain ⟨taken, r, hq, ho, hm⟩ := readLoop_spec q _ _ _ _ _ _ hr
  cases ho
  obtain ⟨consumed, rest, hf, hrest, hp⟩ := h.pass hq hm
  rw [show held (some p) = [] by rw [held, hl], List.append_nil] at hp
  exact ⟨⟨consumed, rest, hf, hrest, by rw [hp]; exact congrArg (·, _) (List.append_nil _).symm⟩,
         ⟨consumed, rest, hf, hrest, hp⟩⟩

theorem InvC.lift {q c pr b fed del q' c' fed'} (h : InvC (α := α) q c pr b fed del)
    (hf : (parse none fed).1 <+: (parse none fed').1)
    (hA : Acct q c pr fed del → Acct q' c' pr fed' del) : InvC q' c' pr b fed' del := by
  rcases h with ⟨h1, h2, h3⟩ | ⟨hb, h⟩
  · exact Or.inl ⟨h1, h2, h3.trans hf⟩
  · exact Or.inr ⟨hb, hA h⟩

theorem InvC.live {q c p b fed del q' c' pr' del'} (h : InvC (α := α) q c (some p) b fed del)
    (hA : Acct q c (some p) fed del → Acct q' c' pr' fed del') : InvC q' c' pr' b fed del' := by
  rcases h with ⟨h, _, _⟩ | ⟨hb, h⟩
  · cases h
  · exact Or.inr ⟨hb, hA h⟩

theorem InvC.mono_closed {q c c' pr b fed del} (h : InvC (α := α) q c pr b fed del) (hc : c = true → c' = true) :
    InvC q c' pr b fed del :=
  h.lift (List.prefix_refl _) (·.mono_closed hc)

theorem InvC.feed {q pr b fed del} (h : InvC (α := α) q false pr b fed del) (f : DFrame α) :
    InvC (q ++ [f]) false pr b (fed ++ [f]) del :=
  h.lift (parse_msgs_prefix none fed [f]) (·.feed f)

theorem InvC.close {q c pr b fed del} (h : InvC (α := α) q c pr b fed del) (extra : List (DFrame α)) :
    InvC q true pr b (fed ++ extra) del :=
  h.lift (parse_msgs_prefix none fed extra) (·.close extra)

theorem InvC.cancel {q pr b fed del} (h : InvC (α := α) q true pr b fed del) :
    InvC [] true pr b fed del :=
  h.lift (List.prefix_refl _) Acct.cancel

theorem InvC.start {q c pr fed del} (h : InvC (α := α) q c pr false fed del) (hk : recvOK pr = true) :
    InvC q c (some { lookahead := none, rst := none }) false fed del := by
  rcases h with ⟨_, h2, _⟩ | ⟨hb, h⟩
  · cases h2
  · exact Or.inr ⟨hb, h.start hk⟩

theorem InvC.read_fail {q c p b fed del} (h : InvC (α := α) q c (some p) b fed del)
    (q' : List (DFrame α)) (c' : Bool) : InvC q' c' none true fed del :=
  InvC.dead h.prefix q' c'

theorem InvC.read_eof {q c p b fed del} {m : List α} (h : InvC (α := α) q c (some p) b fed del)
    (hl : p.lookahead = some m) (q' : List (DFrame α)) (c' : Bool) :
    InvC q' c' none true fed (del ++ [m]) := by
  rcases h with ⟨h, _, _⟩ | ⟨_, h⟩
  · cases h
  · have := h.prefix
    simp only [held, hl] at this
    exact InvC.dead this q' c'

theorem msgsOfDones_append (a b : List (Sid × String × Res α)) :
    msgsOfDones (a ++ b) = msgsOfDones a ++ msgsOfDones b := by
  simp [msgsOfDones, List.filterMap_append]

@[simp] theorem msgsOfDones_nil : msgsOfDones ([] : List (Sid × String × Res α)) = [] := rfl

theorem msgsOfDones_toRes (sid : Sid) (n : String) (e : SErr) :
    msgsOfDones [(sid, n, (e.toRes : Res α))] = [] := by
  cases e <;> rfl

theorem msgsOfDones_header (sid : Sid) (c : Bool) (r : Res α) (h : ∀ m, r ≠ .msg m) :
    msgsOfDones (if c = true then [(sid, "header", r)] else []) = [] := by
  cases c with
  | false => rfl
  | true => cases r <;> first | rfl | exact absurd rfl (h _)

theorem msgsOfDones_filter (l : List (Sid × String × Res α)) (p : Sid × String × Res α → Bool)
    (h : msgsOfDones l = []) : msgsOfDones (l.filter p) = [] := by
  simp only [msgsOfDones, List.filterMap_eq_nil_iff] at h ⊢
  intro d hd
  exact h d (List.mem_filter.mp hd).1

/-! In this section `step` / `run` stand for `stepEv` / `runEv` of an endpoint, `I` for its invariant,
  `fc` / `un` for its fields `fc` / `unsupported`, `legal` / `ok` for the legality of its reads. -/

section Run
variable {σ ε ω : Type} {I : σ → List (DFrame α) → List (List α) → Prop} {fc un : σ → Bool}

/-- what a step from `s` to `s'` does that delivers `ms` and may also feed the data frames `fd` to the
    stream; on a stream without flow control the step may instead give up (`unsupported`) -/
structure Spec (I : σ → List (DFrame α) → List (List α) → Prop) (fc un : σ → Bool) (s s' : σ)
    (ms : List (List α)) (fd : List (DFrame α)) : Prop where
  inv : ∀ fed del, I s fed del → (fc s = false ∧ un s' = true) ∨ I s' (fed ++ fd) (del ++ ms)
  fc : fc s' = fc s
  un : un s = true → un s' = true

variable {step : σ → ε → σ × ω} {run : σ → List ε → σ × List ω} {legal : σ → List ε → Bool}
  {ok : σ → ε → Bool} {data : ε → List (DFrame α)} {fedOf : List ε → List (DFrame α)}
  {msgs : ω → List (List α)} {delOf : List ω → List (List α)}
  (run_cons : ∀ s e es, run s (e :: es) = ((run (step s e).1 es).1, (step s e).2 :: (run (step s e).1 es).2))
  (legal_cons : ∀ s e es, legal s (e :: es) = true → ok s e = true ∧ legal (step s e).1 es = true)
  (spec : ∀ s e, ok s e = true → Spec I fc un s (step s e).1 (msgs (step s e).2) (data e))

include run_cons legal_cons spec in
theorem Spec.run_un (run_nil : ∀ s, run s [] = (s, [])) : ∀ (evs : List ε) (s : σ),
    legal s evs = true → un s = true → un (run s evs).1 = true := by
  intro evs
  induction evs with
  | nil => intro s _ h; rw [run_nil]; exact h
  | cons e es ih =>
    intro s hl h
    rw [run_cons]
    exact ih _ (legal_cons s e es hl).2 ((spec s e (legal_cons s e es hl).1).un h)

include run_cons legal_cons spec in
theorem Spec.run_inv (run_nil : ∀ s, run s [] = (s, [])) (fed_nil : fedOf [] = [])
    (fed_cons : ∀ e es, fedOf (e :: es) = data e ++ fedOf es) (del_nil : delOf [] = [])
    (del_cons : ∀ o os, delOf (o :: os) = msgs o ++ delOf os) : ∀ (evs : List ε) (s : σ)
    (fed : List (DFrame α)) (del : List (List α)), I s fed del → legal s evs = true →
    (fc s = true ∨ un (run s evs).1 = false) →
    I (run s evs).1 (fed ++ fedOf evs) (del ++ delOf (run s evs).2) := by
  intro evs
  induction evs with
  | nil =>
    intro s fed del hi _ _
    rw [run_nil, fed_nil, del_nil, List.append_nil, List.append_nil]
    exact hi
  | cons e es ih =>
    intro s fed del hi hl hfu
    obtain ⟨hk, hl'⟩ := legal_cons s e es hl
    have hs := spec s e hk
    rw [run_cons] at hfu ⊢
    rw [fed_cons, del_cons, ← List.append_assoc, ← List.append_assoc]
    rcases hs.inv fed del hi with ⟨hfc, hu⟩ | hi'
    · -- the step gave up: excluded by `hfu`
      have := Spec.run_un run_cons legal_cons spec run_nil es _ hl' hu
      rcases hfu with h | h
      · rw [hfc] at h; cases h
      · rw [this] at h; cases h
    · exact ih _ _ _ hi' hl' (hfu.imp (fun h => hs.fc.trans h) id)

end Run

/-- the invariant on the reads of a server stream (`Server.SInv` is about the ids of an endpoint):
    reading is over for good once the sticky read error is set or the context is done (and no
    read is pending) -/
def SInv (s : SStream α) (fed : List (DFrame α)) (del : List (List α)) : Prop :=
  InvC s.rcv.queue s.rcv.closed s.pread (s.readErr.isSome || s.ctxDone.isSome) fed del

/-- no read pending and none will ever be started -/
def DeadS (s : SStream α) : Prop :=
  s.pread = none ∧ (s.readErr.isSome || s.ctxDone.isSome) = true

theorem SInv.prefix {s : SStream α} {fed del} (h : SInv s fed del) : del <+: (parse none fed).1 :=
  InvC.prefix h

theorem SInv.of_dead {s : SStream α} {fed del} (hd : DeadS s) (h : del <+: (parse none fed).1) :
    SInv s fed del := by
  unfold SInv
  rw [hd.1, hd.2]
  exact InvC.dead h _ _

theorem SInv.ctx_dead {s : SStream α} {fed del} (h : SInv s fed del) (hc : s.ctxDone.isSome = true) :
    DeadS s := by
  rcases h with ⟨h1, h2, _⟩ | ⟨hb, _⟩
  · exact ⟨h1, h2⟩
  · rw [hc] at hb; simp at hb

/-- the part of the state the invariant looks at is unchanged (the receiver may get closed) -/
structure Keeps (s s' : SStream α) : Prop where
  queue : s'.rcv.queue = s.rcv.queue
  closed : s.rcv.closed = true → s'.rcv.closed = true
  pread : s'.pread = s.pread
  readErr : s'.readErr = s.readErr
  ctxDone : s'.ctxDone = s.ctxDone
  fc : s'.fc = s.fc
  un : s'.unsupported = s.unsupported

theorem Keeps.refl (s : SStream α) : Keeps s s := ⟨rfl, id, rfl, rfl, rfl, rfl, rfl⟩

theorem Keeps.trans {a b c : SStream α} (h1 : Keeps a b) (h2 : Keeps b c) : Keeps a c :=
  ⟨h2.queue.trans h1.queue, fun h => h2.closed (h1.closed h), h2.pread.trans h1.pread,
   h2.readErr.trans h1.readErr, h2.ctxDone.trans h1.ctxDone, h2.fc.trans h1.fc, h2.un.trans h1.un⟩

theorem Keeps.inv {s s' : SStream α} (h : Keeps s s') {fed del} (hi : SInv s fed del) : SInv s' fed del := by
  unfold SInv at *
  rw [h.queue, h.pread, h.readErr, h.ctxDone]
  exact hi.mono_closed h.closed

structure Tr (s : SStream α) (r : SStream α × Out α) : Prop where
  inv : ∀ fed del, SInv s fed del → SInv r.1 fed (del ++ msgsOfDones r.2.dones)
  fc : r.1.fc = s.fc
  un : r.1.unsupported = s.unsupported

theorem Tr.of_keeps {s : SStream α} {r : SStream α × Out α} (h : Keeps s r.1)
    (hm : msgsOfDones r.2.dones = []) : Tr s r :=
  ⟨fun _ _ hi => by rw [hm, List.append_nil]; exact h.inv hi, h.fc, h.un⟩

theorem Tr.of_dead {s : SStream α} {r : SStream α × Out α}
    (hd : (s.ctxDone.isSome = true → DeadS s) → DeadS r.1) (hm : msgsOfDones r.2.dones = [])
    (hfc : r.1.fc = s.fc) (hun : r.1.unsupported = s.unsupported) : Tr s r :=
  ⟨fun _ _ hi => by rw [hm, List.append_nil]; exact SInv.of_dead (hd hi.ctx_dead) hi.prefix, hfc, hun⟩

theorem Tr.refl (s : SStream α) : Tr s (s, {}) := Tr.of_keeps (Keeps.refl s) rfl

theorem Tr.seq {s : SStream α} {r1 r2 : SStream α × Out α} {o : Out α} (h1 : Tr s r1) (h2 : Tr r1.1 r2)
    (hm : msgsOfDones o.dones = msgsOfDones r1.2.dones ++ msgsOfDones r2.2.dones) : Tr s (r2.1, o) :=
  ⟨fun fed del hi => by
      rw [hm, ← List.append_assoc]
      exact h2.inv _ _ (h1.inv _ _ hi),
   h2.fc.trans h1.fc, h2.un.trans h1.un⟩

/-- `Tr.seq` when the first step emits nothing: the conclusion leaves the operation `r` as it is
    (a conclusion `Tr s (r.1, o)` would make unification evaluate `r`) -/
theorem Tr.after {s s1 : SStream α} {r : SStream α × Out α} (h1 : Tr s (s1, {})) (h2 : Tr s1 r) : Tr s r :=
  ⟨fun _ _ hi => h2.inv _ _ (by have := h1.inv _ _ hi; rwa [show msgsOfDones ({} : Out α).dones = [] from rfl,
      List.append_nil] at this), h2.fc.trans h1.fc, h2.un.trans h1.un⟩

theorem Tr.pre {s s1 : SStream α} {r : SStream α × Out α} (h1 : Keeps s s1) (h2 : Tr s1 r) : Tr s r :=
  Tr.after (Tr.of_keeps h1 rfl) h2

theorem Tr.post {s s2 : SStream α} {r : SStream α × Out α} {o : Out α} (h1 : Tr s r) (h2 : Keeps r.1 s2)
    (hm : msgsOfDones o.dones = msgsOfDones r.2.dones) : Tr s (s2, o) :=
  ⟨fun fed del hi => by rw [hm]; exact h2.inv (h1.inv _ _ hi), h2.fc.trans h1.fc, h2.un.trans h1.un⟩

theorem halfClose_keeps (s : SStream α) (e : SErr) : Keeps s (s.halfClose e) := by
  rw [halfClose_eq]
  exact ⟨rfl, fun h => (congrArg (_ || ·) h).trans (Bool.or_true _), rfl, rfl, rfl, rfl, rfl⟩

theorem finishCore_keeps (sid : Sid) (s : SStream α) (err : Option SErr) :
    Keeps s (s.finishCore sid err).1 := by
  rw [finishCore_fst]
  exact ⟨rfl, fun h => (congrArg (_ || ·) h).trans (Bool.or_true _), rfl, rfl, rfl, rfl, rfl⟩

theorem finishCore_msgs (sid : Sid) (s : SStream α) (err : Option SErr) :
    msgsOfDones (s.finishCore sid err).2.dones = [] := by
  rw [finishCore_snd]
  split <;> rfl

theorem cancelCtx_dones (sid : Sid) (s : SStream α) (e : CtxErr) :
    (s.cancelCtx sid e).2.dones =
      if s.ctxDone.isSome then []
      else
        (ccSend sid ({ s with ctxDone := some e, rcv := if s.fc then s.rcv.cancel else s.rcv.close } : SStream α) e).2.dones ++
        (ccRead sid (ccSend sid
          ({ s with ctxDone := some e, rcv := if s.fc then s.rcv.cancel else s.rcv.close } : SStream α) e).1 e).2.dones := by
  rw [cancelCtx_snd, apply_ite Out.dones]
  rfl

theorem ccSend_keeps (sid : Sid) (s : SStream α) (e : CtxErr) : Keeps s (ccSend sid s e).1 := by
  unfold ServerOps.ccSend
  split
  · dsimp only
    split
    · exact Keeps.trans (b := ({ s with psend := none, finishAfterSend := false, hstatus := .returned } : SStream α))
        ⟨rfl, id, rfl, rfl, rfl, rfl, rfl⟩ (finishCore_keeps _ _ _)
    · exact ⟨rfl, id, rfl, rfl, rfl, rfl, rfl⟩
  · exact Keeps.refl s

theorem ccSend_msgs (sid : Sid) (s : SStream α) (e : CtxErr) : msgsOfDones (ccSend sid s e).2.dones = [] := by
  unfold ServerOps.ccSend
  split
  · dsimp only
    split
    · exact finishCore_msgs _ _ _
    · rfl
  · rfl

theorem ccRead_fields (sid : Sid) (s : SStream α) (e : CtxErr) :
    (ccRead sid s e).1.pread = none ∧ (ccRead sid s e).1.ctxDone = s.ctxDone ∧
    (ccRead sid s e).1.fc = s.fc ∧ (ccRead sid s e).1.unsupported = s.unsupported := by
  unfold ServerOps.ccRead
  split
  · dsimp only
    split
    · have h := finishCore_keeps sid
        ({ s with pread := none, readErr := some (.ctx e), hstatus := .returned } : SStream α) (some (.ctx e))
      exact ⟨h.pread, h.ctxDone, h.fc, h.un⟩
    · exact ⟨rfl, rfl, rfl, rfl⟩
  · rename_i hp
    exact ⟨hp, rfl, rfl, rfl⟩

theorem ccRead_msgs (sid : Sid) (s : SStream α) (e : CtxErr) : msgsOfDones (ccRead sid s e).2.dones = [] := by
  unfold ServerOps.ccRead
  split
  · dsimp only
    split
    · simp only [Out.add, msgsOfDones_append, finishCore_msgs]; rfl
    · rfl
  · rfl

theorem cancelCtx_msgs (sid : Sid) (s : SStream α) (e : CtxErr) :
    msgsOfDones (s.cancelCtx sid e).2.dones = [] := by
  rw [cancelCtx_dones]
  split
  · rfl
  · rw [msgsOfDones_append, ccSend_msgs, ccRead_msgs]; rfl

theorem cancelCtx_tr (sid : Sid) (s : SStream α) (e : CtxErr) : Tr s (s.cancelCtx sid e) := by
  cases hc : s.ctxDone with
  | some c => rw [cancelCtx_of_done sid e (by rw [hc]; rfl)]; exact Tr.refl s
  | none =>
    have h1 := ccSend_keeps sid (ctxMark s e) e
    have h2 := ccRead_fields sid (ccSend sid (ctxMark s e) e).1 e
    refine Tr.of_dead (fun _ => ?_) (cancelCtx_msgs sid s e) ?_ ?_ <;> rw [cancelCtx_of_open sid e hc]
    · exact ⟨h2.1, by rw [h2.2.1, h1.ctxDone]; exact Bool.or_true _⟩
    · exact h2.2.2.1.trans h1.fc
    · exact h2.2.2.2.trans h1.un

theorem finish_msgs (sid : Sid) (s : SStream α) (err : Option SErr) (b : Bool) :
    msgsOfDones (s.finish sid err b).2.dones = [] := by
  rw [ServerOps.finish_eq]
  show msgsOfDones (_ ++ _) = []
  rw [msgsOfDones_append, cancelCtx_msgs, finishCore_msgs]
  rfl

theorem finish_tr (sid : Sid) (s : SStream α) (err : Option SErr) (b : Bool) : Tr s (s.finish sid err b) := by
  rw [ServerOps.finish_eq]
  refine Tr.post (Tr.pre (finishCore_keeps sid s _) (cancelCtx_tr sid _ .canceled)) (Keeps.refl _) ?_
  show msgsOfDones (_ ++ _) = _
  rw [msgsOfDones_append, finishCore_msgs, List.append_nil]

theorem pumpSend_keeps (cfg : SCfg) (sid : Sid) (s : SStream α) (snd : Snd α) :
    Keeps s (s.pumpSend cfg sid snd).1 := by
  rw [pumpSend_fst]
  exact ⟨rfl, id, rfl, rfl, rfl, rfl, rfl⟩

theorem pumpSend_msgs (cfg : SCfg) (sid : Sid) (s : SStream α) (snd : Snd α) :
    msgsOfDones (s.pumpSend cfg sid snd).2.dones = [] := by
  unfold SStream.pumpSend
  split
  · dsimp only
    split
    · rfl
    · split <;> rfl
  · rfl

theorem pumpSend_tr {s s1 : SStream α} (hk : Keeps s s1) (cfg : SCfg) (sid : Sid) (snd : Snd α) {o : Out α}
    (ho : msgsOfDones o.dones = msgsOfDones (s1.pumpSend cfg sid snd).2.dones) :
    Tr s ((s1.pumpSend cfg sid snd).1, o) :=
  Tr.of_keeps (hk.trans (pumpSend_keeps cfg sid s1 snd)) (ho.trans (pumpSend_msgs cfg sid s1 snd))

theorem hdrStage_keeps (sid : Sid) (s : SStream α) : Keeps s (hdrStage sid s).1 := by
  unfold ServerOps.hdrStage
  split
  · exact Keeps.refl s
  · exact ⟨rfl, id, rfl, rfl, rfl, rfl, rfl⟩

theorem afterSend_tr (sid : Sid) {s0 s : SStream α} {o : Out α} (h : Tr s0 (s, o))
    (ho : msgsOfDones o.dones = []) : Tr s0 (s.afterSend sid o) := by
  rw [afterSend_eq]
  split
  · refine Tr.seq h (Tr.pre (s1 := ({ s with finishAfterSend := false, hstatus := .returned } : SStream α))
      ⟨rfl, id, rfl, rfl, rfl, rfl, rfl⟩ (finish_tr sid _ (sendErr o) false)) ?_
    show msgsOfDones (List.filter _ o.dones ++ _) = _
    rw [msgsOfDones_append, msgsOfDones_filter _ _ ho, ho]
  · exact h

theorem SInv.mk' {X : SStream α} {q : List (DFrame α)} {c : Bool} {pr : Option (PRead α)} {b : Bool} {fed del}
    (hq : X.rcv.queue = q) (hc : X.rcv.closed = c) (hp : X.pread = pr)
    (hb : (X.readErr.isSome || X.ctxDone.isSome) = b) (h : InvC q c pr b fed del) : SInv X fed del := by
  subst hq hc hp hb
  exact h

theorem failWith_tr {s s' : SStream α} (sid : Sid) (cf : List (Sid × S2C α)) (e : SErr) (b : Bool)
    (hfc : s'.fc = s.fc) (hun : s'.unsupported = s.unsupported) : Tr s (failWith sid cf s' e b) := by
  have h1 : Tr s (({ s' with pread := none, readErr := some e } : SStream α),
      { frames := cf, dones := [(sid, opName s', e.toRes)] }) :=
    Tr.of_dead (fun _ => ⟨rfl, rfl⟩) (msgsOfDones_toRes _ _ _) hfc hun
  unfold ServerOps.failWith
  split
  · exact h1
  · exact Tr.seq h1 (finish_tr sid ({ s' with pread := none, readErr := some e } : SStream α) (some e) false)
      (msgsOfDones_append _ _)

theorem resumeRead_tr (sid : Sid) (mn : String) : ∀ (fuel : Nat) (s : SStream α),
    Tr s (SStream.resumeRead sid mn fuel s) := by
  intro fuel
  induction fuel with
  | zero => intro s; exact Tr.refl s
  | succ fuel ih =>
    intro s
    cases hp : s.pread with
    | none => rw [resumeRead_none sid mn _ hp]; exact Tr.refl s
    | some p =>
      rw [resumeRead_succ sid mn fuel hp]
      unfold readPass
      generalize hr : readLoop s.rcv.rwin s.rcv.queue p.rst = r
      obtain ⟨rwin, q, credits, out⟩ := r
      dsimp only
      have hcs : ∀ fed del, SInv s fed del →
          InvC s.rcv.queue s.rcv.closed (some p) (s.readErr.isSome || s.ctxDone.isSome) fed del :=
        fun fed del hi => hp ▸ hi
      have hfail : ∀ e b, Tr s (failWith sid (s.creditFrames sid credits) (drained s rwin q) e b) := fun e b =>
        failWith_tr sid _ e b rfl rfl
      split
      · -- the queue ran dry
        split
        · split
          · rename_i m hl _
            exact ⟨fun fed del hi => SInv.of_dead ⟨rfl, rfl⟩ ((hcs fed del hi).read_eof hl [] true).prefix, rfl, rfl⟩
          · exact hfail _ _
        · refine ⟨fun fed del hi => ?_, rfl, rfl⟩
          show SInv _ fed (del ++ [])
          rw [List.append_nil]
          exact SInv.mk' rfl rfl rfl rfl ((hcs fed del hi).live (Acct.read_cont hr rfl))
      · -- a complete message
        rename_i m
        split
        · exact hfail _ _
        · rename_i hl
          split
          · exact ⟨fun fed del hi => SInv.mk' rfl rfl rfl rfl
              ((hcs fed del hi).live fun a => (a.read_msg hr rfl hl).1), rfl, rfl⟩
          · have h2 := ih ({ drained s rwin q with pread := some { lookahead := some m, rst := none } } : SStream α)
            refine ⟨fun fed del hi => ?_, h2.fc, h2.un⟩
            exact h2.inv fed del
              (SInv.mk' rfl rfl rfl rfl ((hcs fed del hi).live fun a => (a.read_msg hr rfl hl).2))
      · -- a reassembly error
        exact hfail _ _
      · -- `readLoop` always has an outcome
        obtain ⟨_, _, _, ho, _⟩ := readLoop_spec _ _ _ _ _ _ _ hr
        cases ho

theorem afterDecode_tr (sid : Sid) {s0 s : SStream α} {o : Out α} (h : Tr s0 (s, o)) :
    Tr s0 (s.afterDecode sid o) := by
  rw [afterDecode_eq]
  split
  · split
    · exact Tr.post h ⟨rfl, id, rfl, rfl, rfl, rfl, rfl⟩ rfl
    · exact Tr.seq h (Tr.pre (s1 := ({ s with hstatus := .returned } : SStream α))
        ⟨rfl, id, rfl, rfl, rfl, rfl, rfl⟩ (finish_tr sid _ _ false)) (msgsOfDones_append _ _)
    · exact h
  · exact h

theorem readAndSettle_tr (sid : Sid) (s : SStream α) : Tr s (s.readAndSettle sid) :=
  afterDecode_tr sid (resumeRead_tr sid "" 3 s)

theorem startRecv_tr (sid : Sid) (s : SStream α) (hk : recvOK s.pread = true) : Tr s (s.startRecv sid) := by
  rw [startRecv_eq]
  split
  · exact afterDecode_tr sid (Tr.of_keeps (r := (s, _)) (Keeps.refl s) (msgsOfDones_toRes _ _ _))
  · rename_i he
    split
    · rename_i c hc
      exact afterDecode_tr sid (Tr.of_dead (r := (({ s with readErr := some (.ctx c) } : SStream α), _))
        (fun h => ⟨(h (by rw [hc]; rfl)).1, rfl⟩) rfl rfl rfl)
    · rename_i hc
      refine Tr.after (s1 := ({ s with pread := some { lookahead := none, rst := none } } : SStream α))
        ⟨fun fed del hi => ?_, rfl, rfl⟩ (readAndSettle_tr _ _)
      unfold SInv at hi
      rw [he, hc] at hi
      show SInv _ fed (del ++ [])
      rw [List.append_nil]
      exact SInv.mk' rfl rfl rfl (by rw [he, hc]; rfl) (InvC.start hi hk)

theorem accept_cases (r : RcvQ α) (f : DFrame α) :
    (r.closed = true ∧ r.accept f = (r, .dropped)) ∨
    (r.closed = false ∧ f.size > r.rwin ∧ r.accept f = (r, .windowExceeded)) ∨
    (r.closed = false ∧
      r.accept f = ({ r with rwin := r.rwin - f.size, queue := r.queue ++ [f] }, .ok)) := by
  unfold RcvQ.accept
  cases hc : r.closed with
  | true => exact Or.inl ⟨rfl, by simp⟩
  | false =>
    by_cases hw : f.size > r.rwin
    · exact Or.inr (Or.inl ⟨rfl, hw, by simp [hw]⟩)
    · exact Or.inr (Or.inr ⟨rfl, by simp [hw]⟩)

/-- How either endpoint receives a data frame (`acceptServerFrame` / `acceptClientFrame`): a closed receiver
    drops it; with flow control a frame beyond the window is an error; without, the receiver is a one-slot
    hand-off and the model gives up if the slot is full; otherwise the frame is queued. -/
theorem dataFrame_elim {γ : Type} {motive : γ → Prop} (fc : Bool) (r : RcvQ α) (df : DFrame α)
    (drop exceed stuck : γ) (enq : RcvQ α → γ) (hdrop : r.closed = true → motive drop)
    (hexceed : fc = true → r.closed = false → motive exceed)
    (hstuck : fc = false → r.closed = false → motive stuck)
    (henq : ∀ r' : RcvQ α, r.closed = false → r'.queue = r.queue ++ [df] → r'.closed = r.closed → motive (enq r')) :
    motive
      (if fc then
        match r.accept df with
        | (_, .dropped) => drop
        | (_, .windowExceeded) => exceed
        | (r', .ok) => enq r'
      else
        if r.closed then drop
        else if !r.queue.isEmpty then stuck
        else enq { r with queue := [df] }) := by
  cases fc with
  | true =>
    rw [if_pos rfl]
    rcases accept_cases r df with ⟨hc, ha⟩ | ⟨hc, _, ha⟩ | ⟨hc, ha⟩
    · rw [ha]; exact hdrop hc
    · rw [ha]; exact hexceed rfl hc
    · rw [ha]; exact henq _ hc rfl rfl
  | false =>
    rw [if_neg Bool.false_ne_true]
    cases hc : r.closed with
    | true => rw [if_pos rfl]; exact hdrop hc
    | false =>
      rw [if_neg Bool.false_ne_true]
      cases hq : r.queue with
      | nil => exact henq _ hc (by show [df] = r.queue ++ [df]; rw [hq]; rfl) hc.symm
      | cons f q => exact hstuck rfl hc

abbrev SEvSpec (s : SStream α) (r : SStream α × Out α) (fd : List (DFrame α)) : Prop :=
  Spec SInv SStream.fc SStream.unsupported s r.1 (msgsOfDones r.2.dones) fd

theorem Tr.ev {s : SStream α} {r : SStream α × Out α} (h : Tr s r) : SEvSpec s r [] :=
  ⟨fun fed del hi => Or.inr (by rw [List.append_nil]; exact h.inv fed del hi), h.fc, fun hu => by rw [h.un]; exact hu⟩

theorem dataFrame_spec (sid : Sid) (s : SStream α) (df : DFrame α) :
    SEvSpec s (ServerOps.dataFrame sid s df) [df] := by
  have hdrop : s.rcv.closed = true → SEvSpec s (s, {}) [df] := by
    intro hc
    refine ⟨fun fed del hi => Or.inr ?_, rfl, id⟩
    show SInv s (fed ++ [df]) (del ++ [])
    rw [List.append_nil]
    unfold SInv at *
    rw [hc] at hi ⊢
    exact hi.close [df]
  have hfeed : ∀ r : RcvQ α, s.rcv.closed = false → r.queue = s.rcv.queue ++ [df] → r.closed = s.rcv.closed →
      SEvSpec s (({ s with rcv := r } : SStream α).readAndSettle sid) [df] := by
    intro r hc hq hrc
    have h2 := readAndSettle_tr sid ({ s with rcv := r } : SStream α)
    refine ⟨fun fed del hi => Or.inr (h2.inv _ _ ?_), h2.fc, fun hu => by rw [h2.un]; exact hu⟩
    unfold SInv at hi
    rw [hc] at hi
    exact SInv.mk' hq (hrc.trans hc) rfl rfl (hi.feed df)
  unfold ServerOps.dataFrame
  refine dataFrame_elim (motive := fun r => SEvSpec s r [df]) s.fc s.rcv df _ _ _ _ hdrop (fun _ _ => ?_)
    (fun hfc _ => ⟨fun fed del hi => Or.inl ⟨hfc, rfl⟩, rfl, fun _ => rfl⟩) hfeed
  -- the window is exceeded: the stream is finished, its context ends, and no frame counts any more
  have h2 := finish_tr sid s (some errFlowControl) true
  refine ⟨fun fed del hi => Or.inr ?_, h2.fc, fun hu => by rw [h2.un]; exact hu⟩
  have h3 := h2.inv fed del hi
  exact SInv.of_dead (h3.ctx_dead (ServerShape.finish_ctxDone sid s _ _)) (h3.prefix.trans (parse_msgs_prefix none fed _))

def c2sData (f : C2S α) : List (DFrame α) :=
  match dataOfC2S f with
  | some d => [d]
  | none => []

theorem onFrame_spec (cfg : SCfg) (sid : Sid) (s : SStream α) (f : C2S α) :
    SEvSpec s (s.onFrame cfg sid f) (c2sData f) := by
  cases f with
  | newStream m md rev win => exact (Tr.refl s).ev
  | msg size d => exact dataFrame_spec sid s (.env size d)
  | more d => exact dataFrame_spec sid s (.more d)
  | halfClose =>
    rw [ServerOps.onFrame_halfClose]
    split
    · exact (Tr.refl s).ev
    · exact (Tr.pre (halfClose_keeps s .eof) (readAndSettle_tr _ _)).ev
  | cancel => exact (finish_tr _ _ _ _).ev
  | windowUpdate n =>
    rw [ServerOps.onFrame_windowUpdate]
    split
    · exact (Tr.refl s).ev
    · split
      · exact Tr.ev (Tr.of_keeps ⟨rfl, id, rfl, rfl, rfl, rfl, rfl⟩ rfl)
      · rename_i snd hsnd
        refine Tr.ev (afterSend_tr sid (pumpSend_tr ?_ cfg sid snd rfl) (pumpSend_msgs cfg sid _ snd))
        exact ⟨rfl, id, rfl, rfl, rfl, rfl, rfl⟩
  | unset => exact (finish_tr _ _ _ _).ev

def callOK (s : SStream α) : HCall α → Bool
  | .recv => recvOK s.pread
  | _ => true

theorem onCall_tr (cfg : SCfg) (sid : Sid) (s : SStream α) (c : HCall α) (hk : callOK s c = true) :
    Tr s (s.onCall cfg sid c) := by
  cases c with
  | recv => exact startRecv_tr sid s hk
  | send m =>
    rw [ServerOps.onCall_send]
    split
    · exact Tr.of_keeps (hdrStage_keeps sid s) rfl
    · refine pumpSend_tr ?_ cfg sid _ (congrArg msgsOfDones (List.nil_append _))
      exact (hdrStage_keeps sid s).trans ⟨rfl, id, rfl, rfl, rfl, rfl, rfl⟩
  | setHeader md =>
    rw [ServerOps.onCall_setHeader]
    split
    · exact Tr.of_keeps (Keeps.refl s) rfl
    · exact Tr.of_keeps ⟨rfl, id, rfl, rfl, rfl, rfl, rfl⟩ rfl
  | sendHeader md =>
    rw [ServerOps.onCall_sendHeader]
    split
    · exact Tr.of_keeps (Keeps.refl s) rfl
    · exact Tr.of_keeps ⟨rfl, id, rfl, rfl, rfl, rfl, rfl⟩ rfl
  | setTrailer md =>
    rw [ServerOps.onCall_setTrailer]
    split
    · exact Tr.of_keeps (Keeps.refl s) rfl
    · exact Tr.of_keeps ⟨rfl, id, rfl, rfl, rfl, rfl, rfl⟩ rfl
  | ret st =>
    rw [ServerOps.onCall_ret]
    exact Tr.post (Tr.pre (s1 := ({ s with hstatus := .returned } : SStream α))
      ⟨rfl, id, rfl, rfl, rfl, rfl, rfl⟩ (finish_tr sid _ _ false)) (Keeps.refl _)
      (congrArg msgsOfDones (List.append_nil _))
  | reply m =>
    rw [ServerOps.onCall_reply]
    refine afterSend_tr sid (pumpSend_tr ?_ cfg sid _ (congrArg msgsOfDones (List.nil_append _)))
      ((congrArg msgsOfDones (List.nil_append _)).trans (pumpSend_msgs cfg sid _ _))
    exact (hdrStage_keeps sid s).trans ⟨rfl, id, rfl, rfl, rfl, rfl, rfl⟩

def sevData : SEv α → List (DFrame α)
  | .frame f => c2sData f
  | _ => []

def sevOK (s : SStream α) : SEv α → Bool
  | .call c => callOK s c
  | _ => true

theorem stepEv_spec (cfg : SCfg) (sid : Sid) (s : SStream α) (e : SEv α) (hk : sevOK s e = true) :
    SEvSpec s (s.stepEv cfg sid e) (sevData e) := by
  cases e with
  | frame f => exact onFrame_spec cfg sid s f
  | call c => exact (onCall_tr cfg sid s c hk).ev
  | ctx e => exact (cancelCtx_tr sid s e).ev

theorem fedData_cons (e : SEv α) (es : List (SEv α)) :
    SEv.fedData (e :: es) = sevData e ++ SEv.fedData es := by
  cases e with
  | frame f => cases f <;> rfl
  | call c => rfl
  | ctx e => rfl

theorem deliveredMsgs_cons (o : Out α) (os : List (Out α)) :
    Out.deliveredMsgs (o :: os) = msgsOfDones o.dones ++ Out.deliveredMsgs os := by
  simp [Out.deliveredMsgs]

/-- **Legality of the handler's reads** (grpc-go stream contract: one
    `RecvMsg` at a time on each side of an RPC).  The state is threaded; every
    `.call .recv` comes when no read is pending (`pread = none`).
    Same style as `SStream.legalSends`. -/
def legalRecvsS (cfg : SCfg) (sid : Sid) : SStream α → List (SEv α) → Bool
  | _, [] => true
  | s, e :: es =>
    let isRecv := match e with | .call .recv => true | _ => false
    let ok := !isRecv || s.pread.isNone
    ok && legalRecvsS cfg sid (s.stepEv cfg sid e).1 es

theorem legalRecvsS_cons (cfg : SCfg) (sid : Sid) (s : SStream α) (e : SEv α) (es : List (SEv α))
    (h : legalRecvsS cfg sid s (e :: es) = true) :
    sevOK s e = true ∧ legalRecvsS cfg sid (s.stepEv cfg sid e).1 es = true := by
  simp only [legalRecvsS, Bool.and_eq_true] at h
  refine ⟨?_, h.2⟩
  cases e with
  | frame f => rfl
  | ctx e => rfl
  | call c =>
    cases c with
    | recv =>
      have h1 : s.pread.isNone = true := h.1
      show recvOK s.pread = true
      rw [Option.isNone_iff_eq_none.mp h1]
      rfl
    | _ => rfl

theorem runEv_unsupported (cfg : SCfg) (sid : Sid) (evs : List (SEv α)) : ∀ (s : SStream α),
    legalRecvsS cfg sid s evs = true → s.unsupported = true →
    (SStream.runEv cfg sid s evs).1.unsupported = true :=
  Spec.run_un (msgs := fun o => msgsOfDones o.dones) (ServerOps.runEv_cons cfg sid) (legalRecvsS_cons cfg sid)
    (stepEv_spec cfg sid) (fun _ => rfl) evs

theorem runEv_inv (cfg : SCfg) (sid : Sid) (evs : List (SEv α)) : ∀ (s : SStream α) (fed : List (DFrame α))
    (del : List (List α)), SInv s fed del → legalRecvsS cfg sid s evs = true →
    (s.fc = true ∨ (SStream.runEv cfg sid s evs).1.unsupported = false) →
    SInv (SStream.runEv cfg sid s evs).1 (fed ++ SEv.fedData evs)
      (del ++ Out.deliveredMsgs (SStream.runEv cfg sid s evs).2) :=
  Spec.run_inv (ServerOps.runEv_cons cfg sid) (legalRecvsS_cons cfg sid) (stepEv_spec cfg sid) (fun _ => rfl) rfl
    fedData_cons rfl deliveredMsgs_cons evs

/-- a stream as `Srv.createStream` builds it (second alternative of the last
    conjunct: a unary method, whose decode read is started at once) -/
def Fresh (s0 : SStream α) : Prop :=
  s0.rcv.queue = [] ∧ s0.rcv.closed = false ∧ s0.rcv.cancelled = false ∧ s0.readErr = none ∧
  s0.halfClosed = none ∧ s0.ctxDone = none ∧
  (s0.pread = none ∨ s0.pread = some { lookahead := none, rst := none })

theorem Fresh.inv {s0 : SStream α} (h : Fresh s0) : SInv s0 [] [] := by
  obtain ⟨hq, hc, _, he, _, hx, hp⟩ := h
  unfold SInv
  rw [hq, hc, he, hx]
  refine Or.inr ⟨rfl, [], [], rfl, fun _ => rfl, ?_⟩
  rcases hp with hp | hp <;> rw [hp] <;> rfl

/-- **C01, delivery half, server (flow control).**  On a freshly created
    stream with flow control, along any run in which the handler never calls
    `RecvMsg` while a read is pending, the request messages delivered to the
    handler are a prefix of the complete messages obtained by reassembling,
    from the start, the data frames fed to the stream. -/
theorem server_delivers_parsed_prefix (cfg : SCfg) (sid : Sid) (s0 : SStream α) (h0 : Fresh s0)
    (hfc : s0.fc = true) (evs : List (SEv α)) (hl : legalRecvsS cfg sid s0 evs = true) :
    (Out.deliveredMsgs (SStream.runEv cfg sid s0 evs).2) <+: (parse none (SEv.fedData evs)).1 := by
  have := (runEv_inv cfg sid evs s0 [] [] h0.inv hl (Or.inl hfc)).prefix
  simpa using this

/-- **C01, delivery half, server, revision zero** (any `fc`): the same as long
    as the model has not given up (`unsupported = false` at the end). -/
theorem server_delivers_parsed_prefix_rev0 (cfg : SCfg) (sid : Sid) (s0 : SStream α) (h0 : Fresh s0)
    (evs : List (SEv α)) (hl : legalRecvsS cfg sid s0 evs = true)
    (hu : (SStream.runEv cfg sid s0 evs).1.unsupported = false) :
    (Out.deliveredMsgs (SStream.runEv cfg sid s0 evs).2) <+: (parse none (SEv.fedData evs)).1 := by
  have := (runEv_inv cfg sid evs s0 [] [] h0.inv hl (Or.inr hu)).prefix
  simpa using this

/-- the invariant on the reads of a client stream (`ClientInv.CInv` is about the ids of an
    endpoint); reading is over for good once the sticky read error is set (and no read is
    pending); once the RPC is done the receiver is closed -/
def CInv (s : CStream α) (fed : List (DFrame α)) (del : List (List α)) : Prop :=
  (s.done.isSome = true → s.rcv.closed = true) ∧
  InvC s.rcv.queue s.rcv.closed s.pread s.readErr.isSome fed del

theorem CInv.prefix {s : CStream α} {fed del} (h : CInv s fed del) : del <+: (parse none fed).1 :=
  InvC.prefix h.2

theorem CInv.mk' {X : CStream α} {q : List (DFrame α)} {c : Bool} {pr : Option (PRead α)} {b : Bool} {fed del}
    (hg : X.done.isSome = true → X.rcv.closed = true)
    (hq : X.rcv.queue = q) (hc : X.rcv.closed = c) (hp : X.pread = pr)
    (hb : X.readErr.isSome = b) (h : InvC q c pr b fed del) : CInv X fed del := by
  subst hq hc hp hb
  exact ⟨hg, h⟩

theorem CInv.of_dead {s : CStream α} {fed del} (hg : s.done.isSome = true → s.rcv.closed = true)
    (hp : s.pread = none) (hb : s.readErr.isSome = true) (h : del <+: (parse none fed).1) :
    CInv s fed del :=
  CInv.mk' hg rfl rfl hp hb (InvC.dead h _ _)

/-- client twin of `Keeps` (`done` for `ctxDone`); here the receiver's `closed` flag is unchanged as well -/
structure CKeeps (s s' : CStream α) : Prop where
  queue : s'.rcv.queue = s.rcv.queue
  closed : s'.rcv.closed = s.rcv.closed
  pread : s'.pread = s.pread
  readErr : s'.readErr = s.readErr
  done : s'.done = s.done
  fc : s'.fc = s.fc
  un : s'.unsupported = s.unsupported

theorem CKeeps.refl (s : CStream α) : CKeeps s s := ⟨rfl, rfl, rfl, rfl, rfl, rfl, rfl⟩

theorem CKeeps.trans {a b c : CStream α} (h1 : CKeeps a b) (h2 : CKeeps b c) : CKeeps a c :=
  ⟨h2.queue.trans h1.queue, h2.closed.trans h1.closed, h2.pread.trans h1.pread,
   h2.readErr.trans h1.readErr, h2.done.trans h1.done, h2.fc.trans h1.fc, h2.un.trans h1.un⟩

theorem CKeeps.inv {s s' : CStream α} (h : CKeeps s s') {fed del} (hi : CInv s fed del) : CInv s' fed del := by
  unfold CInv at *
  rw [h.queue, h.pread, h.readErr, h.done, h.closed]
  exact hi

structure CTr (s : CStream α) (r : CStream α × COut α) : Prop where
  inv : ∀ fed del, CInv s fed del → CInv r.1 fed (del ++ msgsOfDones r.2.dones)
  fc : r.1.fc = s.fc
  un : r.1.unsupported = s.unsupported
  closed : s.rcv.closed = true → r.1.rcv.closed = true

theorem CTr.of_keeps {s : CStream α} {r : CStream α × COut α} (h : CKeeps s r.1)
    (hm : msgsOfDones r.2.dones = []) : CTr s r :=
  ⟨fun _ _ hi => by rw [hm, List.append_nil]; exact h.inv hi, h.fc, h.un, fun hc => by rw [h.closed]; exact hc⟩

theorem CTr.refl (s : CStream α) : CTr s (s, {}) := CTr.of_keeps (CKeeps.refl s) rfl

theorem CTr.seq {a b c : CStream α} {o₁ o₂ : COut α} (h₁ : CTr a (b, o₁)) (h₂ : CTr b (c, o₂)) :
    CTr a (c, o₁.add o₂) :=
  ⟨fun fed del hi => by
      rw [show (o₁.add o₂).dones = o₁.dones ++ o₂.dones from rfl, msgsOfDones_append, ← List.append_assoc]
      exact h₂.inv _ _ (h₁.inv _ _ hi),
   h₂.fc.trans h₁.fc, h₂.un.trans h₁.un, fun hc => h₂.closed (h₁.closed hc)⟩

theorem CTr.pre {s s1 : CStream α} {r : CStream α × COut α} (h1 : CKeeps s s1) (h2 : CTr s1 r) : CTr s r :=
  ⟨fun _ _ hi => h2.inv _ _ (h1.inv hi), h2.fc.trans h1.fc, h2.un.trans h1.un,
   fun hc => h2.closed (by rw [h1.closed]; exact hc)⟩

theorem CTr.of_fail {s : CStream α} {r : CStream α × COut α} (hm : msgsOfDones r.2.dones = [])
    (hp : r.1.pread = none) (hb : r.1.readErr.isSome = true) (hd : r.1.done = s.done)
    (hc : r.1.rcv.closed = s.rcv.closed) (hfc : r.1.fc = s.fc) (hun : r.1.unsupported = s.unsupported) :
    CTr s r :=
  ⟨fun fed del hi => by
      rw [hm, List.append_nil]
      exact CInv.of_dead (by rw [hd, hc]; exact hi.1) hp hb hi.prefix,
   hfc, hun, fun h => by rw [hc]; exact h⟩

theorem CInv.pending {s : CStream α} {p : PRead α} (hp : s.pread = some p) {fed del} (hi : CInv s fed del) :
    InvC s.rcv.queue s.rcv.closed (some p) s.readErr.isSome fed del :=
  hp ▸ hi.2

theorem CInv.refuse {s : CStream α} {fed del} (hi : CInv s fed del) (hc : s.rcv.closed = true)
    (extra : List (DFrame α)) : CInv s (fed ++ extra) del := by
  refine CInv.mk' hi.1 rfl hc rfl rfl ?_
  have h2 := hi.2
  rw [hc] at h2
  exact h2.close extra

theorem cinv_cancel {s : CStream α} {fed del} (hi : CInv s fed del) (hc : s.rcv.closed = true) :
    CInv ({ s with rcv := if s.fc then s.rcv.cancel else s.rcv.close } : CStream α) fed del := by
  have h2 := hi.2
  rw [hc] at h2
  by_cases hfc : s.fc = true
  · simp only [hfc, if_true]
    exact CInv.mk' (fun _ => hc) rfl hc rfl rfl h2.cancel
  · simp only [hfc]
    exact CInv.mk' (fun _ => rfl) rfl rfl rfl rfl h2

theorem CTr.readPass {sid : Sid} {s s' : CStream α} {o : COut α} (h : ReadPass sid s s' o) : CTr s (s', o) := by
  cases h with
  | blocked hp hr hc =>
    refine ⟨fun fed del hi => ?_, rfl, rfl, id⟩
    show CInv _ fed (del ++ [])
    rw [List.append_nil]
    exact CInv.mk' hi.1 rfl rfl rfl rfl ((hi.pending hp).live (Acct.read_cont hr rfl))
  | endedMsg hp hr hc hl hd =>
    exact ⟨fun fed del hi => CInv.mk' hi.1 rfl rfl rfl rfl ((hi.pending hp).read_eof hl _ _), rfl, rfl, id⟩
  | ended hp hr hc hl => exact CTr.of_fail (msgsOfDones_toRes _ _ _) rfl rfl rfl rfl rfl rfl
  | second hp hr hl => exact CTr.of_fail (msgsOfDones_toRes _ _ _) rfl rfl rfl rfl rfl rfl
  | msg hp hr hl hss =>
    exact ⟨fun fed del hi => CInv.mk' hi.1 rfl rfl rfl rfl
      ((hi.pending hp).live fun a => (a.read_msg hr rfl hl).1), rfl, rfl, id⟩
  | look hp hr hl hss =>
    refine ⟨fun fed del hi => ?_, rfl, rfl, id⟩
    show CInv _ fed (del ++ [])
    rw [List.append_nil]
    exact CInv.mk' hi.1 rfl rfl rfl rfl ((hi.pending hp).live fun a => (a.read_msg hr rfl hl).2)
  | perr hp hr => exact CTr.of_fail (msgsOfDones_toRes _ _ _) rfl rfl rfl rfl rfl rfl

theorem CTr.tatom {sid : Sid} {s s' : CStream α} {o : COut α} (h : TAtom sid s s' o) : CTr s (s', o) := by
  cases h with
  | ctxEnds e hc =>
    refine CTr.of_keeps ⟨rfl, rfl, rfl, rfl, rfl, rfl, rfl⟩ ?_
    show msgsOfDones (_ ++ _) = []
    rw [msgsOfDones_append, msgsOfDones_header, List.append_nil]
    · cases s.psend <;> rfl
    · intro m; split; nofun; split <;> nofun
  | finPre err tr hd =>
    refine ⟨fun fed del hi => ?_, rfl, rfl, fun _ => rfl⟩
    show CInv _ fed (del ++ msgsOfDones (if s.pheader = true then [(sid, "header", (Res.md s.headers : Res α))] else []))
    rw [msgsOfDones_header sid s.pheader (Res.md s.headers) nofun, List.append_nil]
    exact CInv.mk' (fun _ => rfl) rfl rfl rfl rfl (hi.2.mono_closed fun _ => rfl)
  | cancelTail hd =>
    refine ⟨fun fed del hi => ?_, rfl, rfl, fun hc => ?_⟩
    · show CInv _ fed (del ++ [])
      rw [List.append_nil]
      exact cinv_cancel hi (hi.1 hd)
    · show (if s.fc = true then s.rcv.cancel else s.rcv.close).closed = true
      split
      · exact hc
      · rfl
  | read h => exact CTr.readPass h

theorem CTr.chain {sid : Sid} {s s' : CStream α} {o : COut α} (h : Chain (TAtom sid) s s' o) : CTr s (s', o) :=
  Chain.fold (R := fun s s' o => CTr s (s', o)) CTr.refl (fun h₁ h₂ => CTr.seq h₁ h₂) (fun a => CTr.tatom a) h

theorem cfinish_tr (sid : Sid) (s : CStream α) (err : Option SErr) (tr : MD) :
    CTr s ((s.finish sid err tr).1, (s.finish sid err tr).2.1) :=
  CTr.chain (finish_chain sid s err tr)

theorem ctxCancelled_tr (sid : Sid) (s : CStream α) (e : CtxErr) : CTr s (s.ctxCancelled sid e) :=
  CTr.chain (ctxCancelled_chain sid s e)

theorem read_tr (sid : Sid) (s : CStream α) : CTr s (CStream.afterRead sid (s.resumeRead sid 3)) :=
  CTr.chain (afterRead_chain id _ ((resumeRead_chain sid 3 s).mono .read))

theorem cpumpSend_tr (cfg : CCfg) (sid : Sid) (s : CStream α) (snd : Snd α) : CTr s (s.pumpSend cfg sid snd) := by
  have h := pumpSend_sent cfg sid s snd
  generalize s.pumpSend cfg sid snd = r at h ⊢
  obtain ⟨s', o⟩ := r
  cases h <;> exact CTr.of_keeps ⟨rfl, rfl, rfl, rfl, rfl, rfl, rfl⟩ rfl

abbrev CEvSpec (s : CStream α) (r : CStream α × COut α) (fd : List (DFrame α)) : Prop :=
  Spec CInv CStream.fc CStream.unsupported s r.1 (msgsOfDones r.2.dones) fd

theorem CTr.ev {s : CStream α} {r : CStream α × COut α} (h : CTr s r) : CEvSpec s r [] :=
  ⟨fun fed del hi => Or.inr (by rw [List.append_nil]; exact h.inv fed del hi), h.fc, fun hu => by rw [h.un]; exact hu⟩

theorem cdataFrame_spec (sid : Sid) (s : CStream α) (df : DFrame α) :
    CEvSpec s (ClientOps.dataFrame sid s df) [df] := by
  have hdrop : s.rcv.closed = true → CEvSpec s (s, {}) [df] := fun hc =>
    ⟨fun fed del hi => Or.inr (by
      show CInv s (fed ++ [df]) (del ++ [])
      rw [List.append_nil]
      exact hi.refuse hc [df]), rfl, id⟩
  have hfeed : ∀ r : RcvQ α, s.rcv.closed = false → r.queue = s.rcv.queue ++ [df] → r.closed = s.rcv.closed →
      CEvSpec s (CStream.afterRead sid (({ s with rcv := r } : CStream α).resumeRead sid 3)) [df] := by
    intro r hc hq hrc
    have h2 := read_tr sid ({ s with rcv := r } : CStream α)
    refine ⟨fun fed del hi => Or.inr (h2.inv _ _ ?_), h2.fc, fun hu => by rw [h2.un]; exact hu⟩
    have h3 := hi.2
    rw [hc] at h3
    exact CInv.mk' (fun hd => hrc.trans (hi.1 hd)) hq (hrc.trans hc) rfl rfl (h3.feed df)
  unfold ClientOps.dataFrame
  refine dataFrame_elim (motive := fun r => CEvSpec s r [df]) s.fc s.rcv df _ _ _ _ hdrop (fun _ hc => ?_)
    (fun hfc _ => ⟨fun fed del hi => Or.inl ⟨hfc, rfl⟩, rfl, fun _ => rfl⟩) hfeed
  -- the window is exceeded: `finishStream` wins (the RPC is not done, its receiver being open) and closes
  -- the receiver, which thereby refuses the frame
  have h2 := cfinish_tr sid s (some (.status (mkStatus codeResourceExhausted "flow control window exceeded"))) []
  refine ⟨fun fed del hi => Or.inr ?_, h2.fc, fun hu => by rw [h2.un]; exact hu⟩
  have hd : s.done = none := by
    cases h : s.done with
    | none => rfl
    | some e => have := hi.1 (by rw [h]; rfl); rw [hc] at this; cases this
  have h3 := h2.inv fed del hi
  exact h3.refuse (h3.1 (finish_done_isSome sid s _ _ (finish_won sid s _ _ hd))) [df]

def s2cData (f : S2C α) : List (DFrame α) :=
  match dataOfS2C f with
  | some d => [d]
  | none => []

theorem conFrame_spec (cfg : CCfg) (sid : Sid) (s : CStream α) (f : S2C α) :
    CEvSpec s (s.onFrame cfg sid f) (s2cData f) := by
  cases f with
  | settings w revs => exact (cfinish_tr sid s _ _).ev
  | headers md =>
    cases hg : s.gotHeaders with
    | true => rw [ClientOps.onFrame_headers_eq, hg, if_pos rfl]; exact (CTr.refl s).ev
    | false =>
      rw [ClientOps.onFrame_headers cfg sid s md hg]
      exact (CTr.of_keeps (s := s) (r := (({ s with gotHeaders := true, headers := md, pheader := false } : CStream α),
          { dones := if s.pheader = true then [(sid, "header", Res.md md)] else [] }))
        ⟨rfl, rfl, rfl, rfl, rfl, rfl, rfl⟩ (msgsOfDones_header sid s.pheader (Res.md md) nofun)).ev
  | msg size d => exact cdataFrame_spec sid s (.env size d)
  | more d => exact cdataFrame_spec sid s (.more d)
  | close st tr => exact (cfinish_tr sid s _ _).ev
  | windowUpdate n =>
    rw [ClientOps.onFrame_windowUpdate_eq]
    split
    · exact (CTr.refl s).ev
    · split
      · exact CTr.ev (CTr.of_keeps ⟨rfl, rfl, rfl, rfl, rfl, rfl, rfl⟩ rfl)
      · exact (CTr.pre (s := s) (s1 := ({ s with win := wrap32c (s.win + n) } : CStream α))
          ⟨rfl, rfl, rfl, rfl, rfl, rfl, rfl⟩ (cpumpSend_tr cfg sid _ _)).ev
  | unset => exact (cfinish_tr sid s _ _).ev

def ccallOK (s : CStream α) : CCall α → Bool
  | .recv => recvOK s.pread
  | _ => true

theorem conCall_tr (cfg : CCfg) (sid : Sid) (s : CStream α) (c : CCall α) (hk : ccallOK s c = true) :
    CTr s (s.onCall cfg sid c) := by
  cases c with
  | send m =>
    rw [ClientOps.onCall_send]
    split
    · exact CTr.of_keeps (CKeeps.refl s) rfl
    · exact CTr.pre (s1 := ({ s with numSent := s.numSent + 1 } : CStream α))
        ⟨rfl, rfl, rfl, rfl, rfl, rfl, rfl⟩ (cpumpSend_tr cfg sid _ _)
  | closeSend =>
    rw [ClientOps.onCall_closeSend]
    split
    · exact CTr.of_keeps (CKeeps.refl s) (msgsOfDones_toRes _ _ _)
    · split
      · exact CTr.of_keeps (CKeeps.refl s) rfl
      · exact CTr.of_keeps ⟨rfl, rfl, rfl, rfl, rfl, rfl, rfl⟩ rfl
  | recv =>
    rw [ClientOps.onCall_recv]
    split
    · exact CTr.of_keeps (CKeeps.refl s) (msgsOfDones_toRes _ _ _)
    · rename_i he
      have h2 := read_tr sid ({ s with pread := some { lookahead := none, rst := none } } : CStream α)
      refine ⟨fun fed del hi => h2.inv _ _ ?_, h2.fc, h2.un, h2.closed⟩
      have h3 := hi.2
      rw [he] at h3
      exact CInv.mk' hi.1 rfl rfl rfl (by rw [he]; rfl) (InvC.start h3 hk)
  | header =>
    rw [ClientOps.onCall_header]
    split
    · exact CTr.of_keeps (CKeeps.refl s) rfl
    · split
      · exact CTr.of_keeps (CKeeps.refl s) rfl
      · exact CTr.of_keeps ⟨rfl, rfl, rfl, rfl, rfl, rfl, rfl⟩ rfl
  | trailer => exact CTr.of_keeps (CKeeps.refl s) rfl
  | cancel => exact ctxCancelled_tr sid s .canceled

def cevData : CEv α → List (DFrame α)
  | .frame f => s2cData f
  | _ => []

def cevOK (s : CStream α) : CEv α → Bool
  | .call c => ccallOK s c
  | _ => true

theorem cstepEv_spec (cfg : CCfg) (sid : Sid) (s : CStream α) (e : CEv α) (hk : cevOK s e = true) :
    CEvSpec s (s.stepEv cfg sid e) (cevData e) := by
  cases e with
  | frame f => exact conFrame_spec cfg sid s f
  | call c => exact (conCall_tr cfg sid s c hk).ev
  | ctx e => exact (ctxCancelled_tr sid s e).ev

theorem cfedData_cons (e : CEv α) (es : List (CEv α)) :
    CEv.fedData (e :: es) = cevData e ++ CEv.fedData es := by
  cases e with
  | frame f => cases f <;> rfl
  | call c => rfl
  | ctx e => rfl

theorem cdeliveredMsgs_cons (o : COut α) (os : List (COut α)) :
    COut.deliveredMsgs (o :: os) = msgsOfDones o.dones ++ COut.deliveredMsgs os := by
  simp [COut.deliveredMsgs]

/-- **Legality of the application's reads** (grpc-go stream contract: one
    `RecvMsg` at a time): every `.call .recv` must come when no read is
    pending (`pread = none`).  Same style as `CStream.legalSends`. -/
def legalRecvsC (cfg : CCfg) (sid : Sid) : CStream α → List (CEv α) → Bool
  | _, [] => true
  | s, e :: es =>
    let isRecv := match e with | .call .recv => true | _ => false
    let ok := !isRecv || s.pread.isNone
    ok && legalRecvsC cfg sid (s.stepEv cfg sid e).1 es

theorem legalRecvsC_cons (cfg : CCfg) (sid : Sid) (s : CStream α) (e : CEv α) (es : List (CEv α))
    (h : legalRecvsC cfg sid s (e :: es) = true) :
    cevOK s e = true ∧ legalRecvsC cfg sid (s.stepEv cfg sid e).1 es = true := by
  simp only [legalRecvsC, Bool.and_eq_true] at h
  refine ⟨?_, h.2⟩
  cases e with
  | frame f => rfl
  | ctx e => rfl
  | call c =>
    cases c with
    | recv =>
      have h1 : s.pread.isNone = true := h.1
      show recvOK s.pread = true
      rw [Option.isNone_iff_eq_none.mp h1]
      rfl
    | _ => rfl

theorem crunEv_unsupported (cfg : CCfg) (sid : Sid) (evs : List (CEv α)) : ∀ (s : CStream α),
    legalRecvsC cfg sid s evs = true → s.unsupported = true →
    (CStream.runEv cfg sid s evs).1.unsupported = true :=
  Spec.run_un (msgs := fun o => msgsOfDones o.dones) (ClientOps.runEv_cons cfg sid) (legalRecvsC_cons cfg sid)
    (cstepEv_spec cfg sid) (fun _ => rfl) evs

theorem crunEv_inv (cfg : CCfg) (sid : Sid) (evs : List (CEv α)) : ∀ (s : CStream α) (fed : List (DFrame α))
    (del : List (List α)), CInv s fed del → legalRecvsC cfg sid s evs = true →
    (s.fc = true ∨ (CStream.runEv cfg sid s evs).1.unsupported = false) →
    CInv (CStream.runEv cfg sid s evs).1 (fed ++ CEv.fedData evs)
      (del ++ COut.deliveredMsgs (CStream.runEv cfg sid s evs).2) :=
  Spec.run_inv (ClientOps.runEv_cons cfg sid) (legalRecvsC_cons cfg sid) (cstepEv_spec cfg sid) (fun _ => rfl) rfl
    cfedData_cons rfl cdeliveredMsgs_cons evs

/-- a stream as `Cli.newStream` builds it -/
def CFresh (s0 : CStream α) : Prop :=
  s0.rcv.queue = [] ∧ s0.rcv.closed = false ∧ s0.rcv.cancelled = false ∧ s0.readErr = none ∧
  s0.pread = none ∧ s0.done = none ∧ s0.ctxDone = none

theorem CFresh.inv {s0 : CStream α} (h : CFresh s0) : CInv s0 [] [] := by
  obtain ⟨hq, hc, _, he, hp, hd, _⟩ := h
  unfold CInv
  rw [hq, hc, he, hp, hd]
  exact ⟨fun h => absurd h (by simp), Or.inr ⟨rfl, [], [], rfl, fun _ => rfl, rfl⟩⟩

/-- **C01, delivery half, client (flow control).** -/
theorem client_delivers_parsed_prefix (cfg : CCfg) (sid : Sid) (s0 : CStream α) (h0 : CFresh s0)
    (hfc : s0.fc = true) (evs : List (CEv α)) (hl : legalRecvsC cfg sid s0 evs = true) :
    (COut.deliveredMsgs (CStream.runEv cfg sid s0 evs).2) <+: (parse none (CEv.fedData evs)).1 := by
  have := (crunEv_inv cfg sid evs s0 [] [] h0.inv hl (Or.inl hfc)).prefix
  simpa using this

/-- **C01, delivery half, client, revision zero** (any `fc`): the same as long
    as the model has not given up (`unsupported = false` at the end). -/
theorem client_delivers_parsed_prefix_rev0 (cfg : CCfg) (sid : Sid) (s0 : CStream α) (h0 : CFresh s0)
    (evs : List (CEv α)) (hl : legalRecvsC cfg sid s0 evs = true)
    (hu : (CStream.runEv cfg sid s0 evs).1.unsupported = false) :
    (COut.deliveredMsgs (CStream.runEv cfg sid s0 evs).2) <+: (parse none (CEv.fedData evs)).1 := by
  have := (crunEv_inv cfg sid evs s0 [] [] h0.inv hl (Or.inr hu)).prefix
  simpa using this

theorem prefix_no_fabrication {β : Type} {a b : List β} (h : a <+: b) : (∀ m ∈ a, m ∈ b) ∧ a.length ≤ b.length :=
  ⟨fun _ hm => h.subset hm, h.length_le⟩

theorem server_no_fabrication (cfg : SCfg) (sid : Sid) (s0 : SStream α) (h0 : Fresh s0)
    (hfc : s0.fc = true) (evs : List (SEv α)) (hl : legalRecvsS cfg sid s0 evs = true) :
    (∀ m ∈ Out.deliveredMsgs (SStream.runEv cfg sid s0 evs).2, m ∈ (parse none (SEv.fedData evs)).1) ∧
    (Out.deliveredMsgs (SStream.runEv cfg sid s0 evs).2).length ≤ (parse none (SEv.fedData evs)).1.length :=
  prefix_no_fabrication (server_delivers_parsed_prefix cfg sid s0 h0 hfc evs hl)

theorem server_no_fabrication_rev0 (cfg : SCfg) (sid : Sid) (s0 : SStream α) (h0 : Fresh s0)
    (evs : List (SEv α)) (hl : legalRecvsS cfg sid s0 evs = true)
    (hu : (SStream.runEv cfg sid s0 evs).1.unsupported = false) :
    (∀ m ∈ Out.deliveredMsgs (SStream.runEv cfg sid s0 evs).2, m ∈ (parse none (SEv.fedData evs)).1) ∧
    (Out.deliveredMsgs (SStream.runEv cfg sid s0 evs).2).length ≤ (parse none (SEv.fedData evs)).1.length :=
  prefix_no_fabrication (server_delivers_parsed_prefix_rev0 cfg sid s0 h0 evs hl hu)

theorem client_no_fabrication (cfg : CCfg) (sid : Sid) (s0 : CStream α) (h0 : CFresh s0)
    (hfc : s0.fc = true) (evs : List (CEv α)) (hl : legalRecvsC cfg sid s0 evs = true) :
    (∀ m ∈ COut.deliveredMsgs (CStream.runEv cfg sid s0 evs).2, m ∈ (parse none (CEv.fedData evs)).1) ∧
    (COut.deliveredMsgs (CStream.runEv cfg sid s0 evs).2).length ≤ (parse none (CEv.fedData evs)).1.length :=
  prefix_no_fabrication (client_delivers_parsed_prefix cfg sid s0 h0 hfc evs hl)

theorem client_no_fabrication_rev0 (cfg : CCfg) (sid : Sid) (s0 : CStream α) (h0 : CFresh s0)
    (evs : List (CEv α)) (hl : legalRecvsC cfg sid s0 evs = true)
    (hu : (CStream.runEv cfg sid s0 evs).1.unsupported = false) :
    (∀ m ∈ COut.deliveredMsgs (CStream.runEv cfg sid s0 evs).2, m ∈ (parse none (CEv.fedData evs)).1) ∧
    (COut.deliveredMsgs (CStream.runEv cfg sid s0 evs).2).length ≤ (parse none (CEv.fedData evs)).1.length :=
  prefix_no_fabrication (client_delivers_parsed_prefix_rev0 cfg sid s0 h0 evs hl hu)

def sExBidi : SStream Nat :=
  { cs := true, ss := true, unary := false, fc := true, rcv := RcvQ.init 10, win := 10, hstatus := .running }

/-- a fresh unary server stream: `createStream` has started the decode read -/
def sExUnary : SStream Nat :=
  { cs := false, ss := false, unary := true, fc := true, rcv := RcvQ.init 10, win := 10, hstatus := .decoding,
    pread := some { lookahead := none, rst := none } }

def sExSS : SStream Nat :=
  { cs := false, ss := true, unary := false, fc := true, rcv := RcvQ.init 10, win := 10, hstatus := .running }

def cExBidi : CStream Nat := { cs := true, ss := true, fc := true, rcv := RcvQ.init 10, win := 10 }

def cExRev0 : CStream Nat := { cs := true, ss := true, fc := false, rcv := RcvQ.init 10, win := 10 }

example : Fresh sExBidi := ⟨rfl, rfl, rfl, rfl, rfl, rfl, Or.inl rfl⟩
example : Fresh sExUnary := ⟨rfl, rfl, rfl, rfl, rfl, rfl, Or.inr rfl⟩
example : Fresh sExSS := ⟨rfl, rfl, rfl, rfl, rfl, rfl, Or.inl rfl⟩
example : CFresh cExBidi := ⟨rfl, rfl, rfl, rfl, rfl, rfl, rfl⟩
example : CFresh cExRev0 := ⟨rfl, rfl, rfl, rfl, rfl, rfl, rfl⟩

-- a legal run that delivers two messages (one reassembled from two frames);
-- the third message is complete on the wire but not yet asked for
example :
    let evs : List (SEv Nat) :=
      [.call .recv, .frame (.msg 3 [1]), .frame (.more [2, 3]), .call (.send [5]), .call .recv,
       .frame (.msg 1 [9]), .frame (.msg 0 []), .frame .halfClose, .frame (.msg 1 [4])]
    legalRecvsS {} 1 sExBidi evs = true ∧
    Out.deliveredMsgs (SStream.runEv {} 1 sExBidi evs).2 = [[1, 2, 3], [9]] ∧
    (parse none (SEv.fedData evs)).1 = [[1, 2, 3], [9], [], [4]] := by
  decide +kernel

-- unary method: the decode read delivers the request at the half-close
example :
    let evs : List (SEv Nat) := [.frame (.msg 2 [7]), .frame (.more [8]), .frame .halfClose, .call (.reply [1])]
    legalRecvsS {} 1 sExUnary evs = true ∧
    Out.deliveredMsgs (SStream.runEv {} 1 sExUnary evs).2 = [[7, 8]] ∧
    (parse none (SEv.fedData evs)).1 = [[7, 8]] := by
  decide +kernel

-- client, flow control, and revision zero without giving up
example :
    let evs : List (CEv Nat) :=
      [.call .recv, .frame (.headers []), .frame (.msg 2 [1]), .frame (.more [2]), .call .recv, .frame (.msg 1 [3]),
       .frame (.close (mkStatus 0 "") []), .call .recv]
    legalRecvsC {} 1 cExBidi evs = true ∧
    COut.deliveredMsgs (CStream.runEv {} 1 cExBidi evs).2 = [[1, 2], [3]] ∧
    (parse none (CEv.fedData evs)).1 = [[1, 2], [3]] ∧
    legalRecvsC {} 1 cExRev0 evs = true ∧
    (CStream.runEv {} 1 cExRev0 evs).1.unsupported = false ∧
    COut.deliveredMsgs (CStream.runEv {} 1 cExRev0 evs).2 = [[1, 2], [3]] := by
  decide +kernel

-- revision zero on the server: a legal run that never gives up ...
example :
    let s : SStream Nat := { sExBidi with fc := false }
    let evs : List (SEv Nat) :=
      [.frame (.msg 1 [1]), .call .recv, .call .recv, .frame (.msg 2 [2]), .frame (.more [3]), .frame (.msg 1 [4])]
    legalRecvsS {} 1 s evs = true ∧ (SStream.runEv {} 1 s evs).1.unsupported = false ∧
    Out.deliveredMsgs (SStream.runEv {} 1 s evs).2 = [[1], [2, 3]] ∧
    (parse none (SEv.fedData evs)).1 = [[1], [2, 3], [4]] := by
  decide +kernel

-- ... and why `unsupported = false` is needed there: once the model has given up
-- (second frame while the slot is full) that frame is lost
example :
    let s : SStream Nat := { sExBidi with fc := false }
    let evs : List (SEv Nat) :=
      [.frame (.msg 1 [1]), .frame (.msg 1 [2]), .call .recv, .call .recv, .frame (.msg 1 [3])]
    legalRecvsS {} 1 s evs = true ∧ (SStream.runEv {} 1 s evs).1.unsupported = true ∧
    Out.deliveredMsgs (SStream.runEv {} 1 s evs).2 = [[1], [3]] ∧
    (parse none (SEv.fedData evs)).1 = [[1], [2], [3]] := by
  decide +kernel

-- COUNTEREXAMPLE without legality (server and client): a second `RecvMsg` while
-- the first is in the middle of a message forgets the partial message; `[9]`
-- is delivered although the fed frames contain no complete message at all
example :
    let evs : List (SEv Nat) := [.call .recv, .frame (.msg 2 [7]), .call .recv, .frame (.msg 1 [9])]
    legalRecvsS {} 1 sExBidi evs = false ∧
    Out.deliveredMsgs (SStream.runEv {} 1 sExBidi evs).2 = [[9]] ∧
    (parse none (SEv.fedData evs)).1 = [] := by
  decide +kernel

example :
    let evs : List (CEv Nat) := [.call .recv, .frame (.msg 2 [7]), .call .recv, .frame (.msg 1 [9])]
    legalRecvsC {} 1 cExBidi evs = false ∧
    COut.deliveredMsgs (CStream.runEv {} 1 cExBidi evs).2 = [[9]] ∧
    (parse none (CEv.fedData evs)).1 = [] := by
  decide +kernel

-- COUNTEREXAMPLE without legality: a second `RecvMsg` while the look-ahead holds
-- the first message forgets it; the second message is delivered instead
example :
    let evs : List (SEv Nat) :=
      [.call .recv, .frame (.msg 1 [7]), .call .recv, .frame (.msg 1 [9]), .frame .halfClose]
    legalRecvsS {} 1 sExSS evs = false ∧
    Out.deliveredMsgs (SStream.runEv {} 1 sExSS evs).2 = [[9]] ∧
    (parse none (SEv.fedData evs)).1 = [[7], [9]] := by
  decide +kernel

end Proofs.Delivery

#print axioms Proofs.Delivery.server_delivers_parsed_prefix
#print axioms Proofs.Delivery.server_delivers_parsed_prefix_rev0
#print axioms Proofs.Delivery.client_delivers_parsed_prefix
#print axioms Proofs.Delivery.client_delivers_parsed_prefix_rev0
#print axioms Proofs.Delivery.server_no_fabrication
#print axioms Proofs.Delivery.server_no_fabrication_rev0
#print axioms Proofs.Delivery.client_no_fabrication
#print axioms Proofs.Delivery.client_no_fabrication_rev0
#print axioms Proofs.Delivery.runEv_inv
#print axioms Proofs.Delivery.crunEv_inv
