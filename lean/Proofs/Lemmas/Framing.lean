import TunnelModel.Framing
/-! Lemmas about framing: the sender's frames always continue the reader's state.
  `parse_append`: reassembly is a fold; `Linked`: sender and reader agree on the bytes gone; `pumpFuel_parse`: a
  windowed burst completes `m` or keeps `Linked`; `sendAllFuel_parse`: the unwindowed loop completes `m`. -/
namespace Proofs.Framing
open TunnelModel.Framing
variable {α : Type}

theorem parse_append (st : RState α) (fs gs : List (DFrame α)) :
    parse st (fs ++ gs) =
      match parse st fs with
      | (ms, .ok st') => let (ms', r) := parse st' gs; (ms ++ ms', r)
      | (ms, .error e) => (ms, .error e) := by
  induction fs generalizing st with
  | nil => rfl
  | cons f fs ih =>
    simp only [List.cons_append, parse]
    cases parseStep st f with
    | cont st' => exact ih st'
    | msg m =>
      simp only [ih]
      rcases parse none fs with ⟨ms, _ | _⟩ <;> rfl
    | err e => rfl

theorem parse_append_ok {st st' : RState α} {fs : List (DFrame α)} {ms : List (List α)}
    (h : parse st fs = (ms, .ok st')) (gs : List (DFrame α)) :
    parse st (fs ++ gs) = (ms ++ (parse st' gs).1, (parse st' gs).2) := by
  rw [parse_append, h]

theorem parseStep_env (n : Nat) (d : List α) :
    parseStep none (.env n d) =
      if d.length > n then .err .moreThanDeclared else if d.length = n then .msg d else .cont (some (n, d)) := rfl

theorem parseStep_more (n : Nat) (b d : List α) :
    parseStep (some (n, b)) (.more d) =
      if (b ++ d).length > n then .err .moreThanDeclared
      else if (b ++ d).length = n then .msg (b ++ d) else .cont (some (n, b ++ d)) := rfl

theorem parseStep_eq_msg_iff {st : RState α} {f : DFrame α} {m : List α} :
    parseStep st f = .msg m ↔
      (st = none ∧ f = .env m.length m) ∨ (∃ b d, st = some (m.length, b) ∧ f = .more d ∧ b ++ d = m) := by
  constructor
  · intro h
    match st, f, h with
    | none, .env n d, h =>
      rw [parseStep_env] at h
      by_cases h1 : d.length > n
      · rw [if_pos h1] at h; cases h
      · by_cases h2 : d.length = n
        · rw [if_neg h1, if_pos h2] at h; cases h; exact Or.inl ⟨rfl, h2 ▸ rfl⟩
        · rw [if_neg h1, if_neg h2] at h; cases h
    | some (n, b), .more d, h =>
      rw [parseStep_more] at h
      by_cases h1 : (b ++ d).length > n
      · rw [if_pos h1] at h; cases h
      · by_cases h2 : (b ++ d).length = n
        · rw [if_neg h1, if_pos h2] at h; cases h; exact Or.inr ⟨b, d, h2 ▸ rfl, rfl, rfl⟩
        · rw [if_neg h1, if_neg h2] at h; cases h
  · rintro (⟨rfl, rfl⟩ | ⟨b, d, rfl, rfl, rfl⟩)
    · rw [parseStep_env, if_neg (Nat.lt_irrefl _), if_pos rfl]
    · rw [parseStep_more, if_neg (Nat.lt_irrefl _), if_pos rfl]

theorem parseStep_eq_cont_iff {st st' : RState α} {f : DFrame α} :
    parseStep st f = .cont st' ↔
      (∃ n d, st = none ∧ f = .env n d ∧ d.length < n ∧ st' = some (n, d)) ∨
      (∃ n b d, st = some (n, b) ∧ f = .more d ∧ (b ++ d).length < n ∧ st' = some (n, b ++ d)) := by
  constructor
  · intro h
    match st, f, h with
    | none, .env n d, h =>
      rw [parseStep_env] at h
      by_cases h1 : d.length > n
      · rw [if_pos h1] at h; cases h
      · by_cases h2 : d.length = n
        · rw [if_neg h1, if_pos h2] at h; cases h
        · rw [if_neg h1, if_neg h2] at h; cases h; exact Or.inl ⟨n, d, rfl, rfl, Nat.lt_of_le_of_ne (Nat.le_of_not_gt h1) h2, rfl⟩
    | some (n, b), .more d, h =>
      rw [parseStep_more] at h
      by_cases h1 : (b ++ d).length > n
      · rw [if_pos h1] at h; cases h
      · by_cases h2 : (b ++ d).length = n
        · rw [if_neg h1, if_pos h2] at h; cases h
        · rw [if_neg h1, if_neg h2] at h; cases h; exact Or.inr ⟨n, b, d, rfl, rfl, Nat.lt_of_le_of_ne (Nat.le_of_not_gt h1) h2, rfl⟩
  · rintro (⟨n, d, rfl, rfl, h, rfl⟩ | ⟨n, b, d, rfl, rfl, h, rfl⟩)
    · rw [parseStep_env, if_neg (Nat.lt_asymm h), if_neg (Nat.ne_of_lt h)]
    · rw [parseStep_more, if_neg (Nat.lt_asymm h), if_neg (Nat.ne_of_lt h)]

/-- sender `s` (sending `m`) and reader `st` fit together: the reader holds exactly the
    bytes already emitted, the sender the rest -/
def Linked (m : List α) (s : Snd α) (st : RState α) : Prop :=
  s.total = m.length ∧
  ((s.first = true ∧ s.rem = m ∧ st = none) ∨
   (s.first = false ∧ s.rem ≠ [] ∧ ∃ pre, pre ++ s.rem = m ∧ st = some (m.length, pre)))

theorem linked_start (m : List α) : Linked m (Snd.start m) none := ⟨rfl, Or.inl ⟨rfl, rfl, rfl⟩⟩


theorem emitChunk_eq (k : Nat) (s : Snd α) :
    emitChunk k s =
      (if s.first then .env s.total (s.rem.take k) else .more (s.rem.take k),
       if k = s.rem.length then none else some ⟨s.rem.drop k, s.total, false⟩) := by
  unfold emitChunk
  by_cases h : k = s.rem.length
  · simp only [if_pos h]
  · simp only [if_neg h]

/-- `k` is the chunk size, in whatever form suits the caller -/
theorem pumpFuel_succ (cm fuel win : Nat) (s : Snd α) (hw : win ≠ 0) (k : Nat) (hk : chunkSz cm win s.rem.length = k) :
    pumpFuel cm (fuel + 1) win s =
      if k = s.rem.length then ([(emitChunk k s).1], win - k, none)
      else ((emitChunk k s).1 :: (pumpFuel cm fuel (win - k) ⟨s.rem.drop k, s.total, false⟩).1,
            (pumpFuel cm fuel (win - k) ⟨s.rem.drop k, s.total, false⟩).2) := by
  rw [pumpFuel, if_neg hw]
  dsimp only
  rw [hk]
  by_cases h : k = s.rem.length
  · rw [if_pos h, emitChunk_eq, if_pos h]
  · rw [if_neg h, emitChunk_eq, if_neg h]

theorem sendAllFuel_succ (cm fuel : Nat) (s : Snd α) :
    sendAllFuel cm (fuel + 1) s =
      if min cm s.rem.length = s.rem.length then [(emitChunk (min cm s.rem.length) s).1]
      else (emitChunk (min cm s.rem.length) s).1 ::
        sendAllFuel cm fuel ⟨s.rem.drop (min cm s.rem.length), s.total, false⟩ := by
  rw [sendAllFuel]
  by_cases h : min cm s.rem.length = s.rem.length
  · rw [if_pos h, emitChunk_eq, if_pos h]
  · rw [if_neg h, emitChunk_eq, if_neg h]

theorem emitChunk_linked_last (m : List α) (s : Snd α) (st : RState α) (hl : Linked m s st) :
    parseStep st (emitChunk s.rem.length s).1 = .msg m := by
  obtain ⟨htot, h⟩ := hl
  rw [emitChunk_eq, List.take_length]
  rcases h with ⟨hf, hrem, rfl⟩ | ⟨hf, _, pre, hpre, rfl⟩
  · rw [hf, if_pos rfl, htot, hrem]; exact parseStep_eq_msg_iff.mpr (Or.inl ⟨rfl, rfl⟩)
  · rw [hf]; exact parseStep_eq_msg_iff.mpr (Or.inr ⟨pre, s.rem, rfl, rfl, hpre⟩)

theorem emitChunk_linked_more (m : List α) (s : Snd α) (st : RState α) (k : Nat) (hl : Linked m s st)
    (hk : k < s.rem.length) :
    ∃ st', parseStep st (emitChunk k s).1 = .cont st' ∧ Linked m ⟨s.rem.drop k, s.total, false⟩ st' := by
  obtain ⟨htot, h⟩ := hl
  have hd : s.rem.drop k ≠ [] := fun h0 => by
    have := congrArg List.length h0
    rw [List.length_drop] at this
    exact absurd this (by simp only [List.length_nil]; omega)
  rw [emitChunk_eq]
  rcases h with ⟨hf, hrem, rfl⟩ | ⟨hf, _, pre, hpre, rfl⟩
  · refine ⟨some (m.length, s.rem.take k), parseStep_eq_cont_iff.mpr (Or.inl ⟨_, _, rfl, ?_, ?_, rfl⟩),
      htot, Or.inr ⟨rfl, hd, s.rem.take k, (List.take_append_drop k s.rem).trans hrem, rfl⟩⟩
    · rw [hf, if_pos rfl, htot]
    · rw [List.length_take, ← hrem]; omega
  · refine ⟨some (m.length, pre ++ s.rem.take k), parseStep_eq_cont_iff.mpr (Or.inr ⟨_, _, _, rfl, ?_, ?_, rfl⟩),
      htot, Or.inr ⟨rfl, hd, pre ++ s.rem.take k, ?_, rfl⟩⟩
    · rw [hf]; rfl
    · rw [← hpre]; simp only [List.length_append, List.length_take]; omega
    · exact (List.append_assoc ..).trans ((congrArg (pre ++ ·) (List.take_append_drop k s.rem)).trans hpre)

theorem parse_cons (st : RState α) (f : DFrame α) (fs : List (DFrame α)) :
    parse st (f :: fs) =
      match parseStep st f with
      | .cont st' => parse st' fs
      | .msg m => ((m :: (parse none fs).1), (parse none fs).2)
      | .err e => ([], .error e) := rfl

theorem chunkSz_le_rem (cm win r : Nat) : chunkSz cm win r ≤ r := Nat.le_trans (Nat.min_le_left _ _) (Nat.min_le_right _ _)

theorem chunkSz_of_lt {cm win r : Nat} (h : r < win) : chunkSz cm win r = min cm r := by
  unfold chunkSz
  rw [Nat.min_eq_right (Nat.le_of_lt h), Nat.min_comm]

theorem pumpFuel_parse (cm : Nat) (m : List α) :
    ∀ (fuel win : Nat) (s : Snd α) (st : RState α), Linked m s st →
      match pumpFuel cm fuel win s with
      | (fs, _, none) => parse st fs = ([m], .ok none)
      | (fs, _, some s') => ∃ st', parse st fs = ([], .ok st') ∧ Linked m s' st' := by
  intro fuel
  induction fuel with
  | zero => intro win s st hl; exact ⟨st, rfl, hl⟩
  | succ fuel ih =>
    intro win s st hl
    by_cases hw : win = 0
    · unfold pumpFuel; rw [if_pos hw]; exact ⟨st, rfl, hl⟩
    · rw [pumpFuel_succ cm fuel win s hw _ rfl]
      by_cases hlast : chunkSz cm win s.rem.length = s.rem.length
      · rw [if_pos hlast, hlast]
        show parse st [_] = _
        rw [parse_cons, emitChunk_linked_last m s st hl]; rfl
      · rw [if_neg hlast]
        obtain ⟨st', hp, hl'⟩ := emitChunk_linked_more m s st _ hl
          (Nat.lt_of_le_of_ne (chunkSz_le_rem ..) hlast)
        have := ih (win - chunkSz cm win s.rem.length) _ st' hl'
        generalize pumpFuel cm fuel (win - chunkSz cm win s.rem.length) _ = r at this ⊢
        rcases r with ⟨fs, w, _ | s''⟩
        · show parse st (_ :: fs) = _
          rw [parse_cons, hp]; exact this
        · show ∃ st', parse st (_ :: fs) = _ ∧ _
          rw [parse_cons, hp]; exact this

/-- the revision-zero sender is the flow-controlled one under a window that never runs out -/
theorem sendAllFuel_eq_pumpFuel (cm : Nat) : ∀ (fuel : Nat) (s : Snd α),
    sendAllFuel cm fuel s = (pumpFuel cm fuel (s.rem.length + 1) s).1 := by
  intro fuel
  induction fuel with
  | zero => intro s; rfl
  | succ fuel ih =>
    intro s
    rw [sendAllFuel_succ, pumpFuel_succ cm fuel _ s (Nat.succ_ne_zero _) _ (chunkSz_of_lt (Nat.lt_succ_self _))]
    by_cases hlast : min cm s.rem.length = s.rem.length
    · rw [if_pos hlast, if_pos hlast]
    · rw [if_neg hlast, if_neg hlast, ih]
      have : s.rem.length + 1 - min cm s.rem.length = (s.rem.drop (min cm s.rem.length)).length + 1 := by
        rw [List.length_drop]; omega
      rw [this]

theorem pumpFuel_completes (cm : Nat) (hcm : 0 < cm) : ∀ (fuel win : Nat) (s : Snd α),
    s.rem.length < fuel → s.rem.length < win → (pumpFuel cm fuel win s).2.2 = none := by
  intro fuel
  induction fuel with
  | zero => intro win s h; omega
  | succ fuel ih =>
    intro win s hf hw
    rw [pumpFuel_succ cm fuel win s (Nat.ne_of_gt (Nat.zero_lt_of_lt hw)) _ (chunkSz_of_lt hw)]
    by_cases hlast : min cm s.rem.length = s.rem.length
    · rw [if_pos hlast]
    · rw [if_neg hlast]
      exact ih _ _ (by simp only [List.length_drop]; omega) (by simp only [List.length_drop]; omega)

theorem sendAllFuel_parse (cm : Nat) (hcm : 0 < cm) (m : List α) (fuel : Nat) (s : Snd α) (st : RState α)
    (hl : Linked m s st) (hf : s.rem.length < fuel) : parse st (sendAllFuel cm fuel s) = ([m], .ok none) := by
  have h := pumpFuel_parse cm m fuel (s.rem.length + 1) s st hl
  have hc := pumpFuel_completes cm hcm fuel (s.rem.length + 1) s hf (Nat.lt_succ_self _)
  rw [sendAllFuel_eq_pumpFuel]
  generalize pumpFuel cm fuel (s.rem.length + 1) s = r at h hc ⊢
  rcases r with ⟨fs, w, r⟩
  cases hc
  exact h

end Proofs.Framing
