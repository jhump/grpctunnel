import TunnelModel.Lifecycle
/-!
  The reverse-tunnel registry (`TunnelModel.Lifecycle.Registry`, two levels of
  `TunnelModel.RoundRobin.Pool` = `reverseChannels` of handler.go) and the reverse
  server's state machine (`RServer`), for C12 and C10.

  One pool: `chans.length` picks from ANY cursor return a rotation of the list, hence every
  registered tunnel exactly once.  The registry: `RInv r os` says that `r` represents the open set
  `os`; it is preserved by every operation, so it holds after every legal run, and it determines
  what the API observes.  Legal = no tunnel id is opened twice; `illegal_run_not_exact` shows that
  this is needed: `removeFirst t` removes the first entry with tunnel id `t`, which is
  `filter (·.1 ≠ t)` only when tunnel ids are unique.  `RServer`: the state only moves forward
  `active → closing → closed`, so `Serve` stays refused and `isClosing` stays true.
-/
namespace Proofs.Registry
open TunnelModel.RoundRobin TunnelModel.Lifecycle

/-- the position the next pick will use -/
def nextPos (p : Pool) : Nat := if p.idx + 1 ≥ p.chans.length then 0 else p.idx + 1

theorem nextPos_lt (p : Pool) (hn : 0 < p.chans.length) : nextPos p < p.chans.length := by
  unfold nextPos; split <;> omega

theorem nextPos_setIdx (p : Pool) (q : Nat) (h : q + 1 < p.chans.length) :
    nextPos { p with idx := q } = q + 1 :=
  if_neg (Nat.not_le_of_lt h)

theorem nextPos_setIdx_wrap (p : Pool) (q : Nat) (h : q + 1 ≥ p.chans.length) :
    nextPos { p with idx := q } = 0 :=
  if_pos h

theorem pick_empty (p : Pool) (h : p.chans = []) : p.pick = (p, none) := by
  simp [Pool.pick, h]

theorem pick_nonempty (p : Pool) (hn : 0 < p.chans.length) :
    p.pick = ({ p with idx := nextPos p },
      some (p.chans[nextPos p]'(nextPos_lt p hn)).1) := by
  have h0 : ¬ p.chans.length = 0 := by omega
  simp only [Pool.pick, h0, if_false]
  show ({ p with idx := nextPos p }, (p.chans[nextPos p]?).map (·.1)) = _
  rw [List.getElem?_eq_getElem (nextPos_lt p hn)]; rfl

theorem pick_fst (p : Pool) : ∃ i, p.pick.1 = { p with idx := i } := by
  unfold Pool.pick; split
  · exact ⟨p.idx, rfl⟩
  · exact ⟨_, rfl⟩

theorem picks_zero (p : Pool) : p.picks 0 = (p, []) := rfl

theorem picks_succ (p : Pool) (n : Nat) :
    p.picks (n + 1) = ((p.pick.1.picks n).1, p.pick.2 :: (p.pick.1.picks n).2) := rfl

theorem picks_fst (p : Pool) (k : Nat) : ∃ i, (p.picks k).1 = { p with idx := i } := by
  induction k generalizing p with
  | zero => exact ⟨p.idx, rfl⟩
  | succ k ih =>
    obtain ⟨i, hi⟩ := pick_fst p
    rw [picks_succ, hi]
    exact ih _

theorem picks_length (p : Pool) (k : Nat) : (p.picks k).2.length = k := by
  induction k generalizing p with
  | zero => rfl
  | succ k ih => rw [picks_succ, List.length_cons, ih]

theorem picks_add (p : Pool) (a b : Nat) :
    p.picks (a + b) = (((p.picks a).1.picks b).1, (p.picks a).2 ++ ((p.picks a).1.picks b).2) := by
  induction a generalizing p with
  | zero => rw [Nat.zero_add]; rfl
  | succ a ih => rw [Nat.add_right_comm, picks_succ, ih, picks_succ]; rfl

theorem picks_empty (p : Pool) (h : p.chans = []) (k : Nat) :
    p.picks k = (p, List.replicate k none) := by
  induction k with
  | zero => rfl
  | succ k ih => rw [picks_succ, pick_empty p h, ih]; rfl

/-- `k + 1` picks that do not run off the end return the next `k + 1` entries of the
    list and leave the cursor on the last of them -/
theorem picks_nowrap (k : Nat) : ∀ (p : Pool), nextPos p + (k + 1) ≤ p.chans.length →
    p.picks (k + 1) = ({ p with idx := nextPos p + k },
      ((p.chans.drop (nextPos p)).take (k + 1)).map (fun e => some e.1)) := by
  induction k with
  | zero =>
    intro p h
    rw [picks_succ, pick_nonempty p (by omega), List.drop_eq_getElem_cons (by omega)]; rfl
  | succ k ih =>
    intro p h
    have hq : nextPos { p with idx := nextPos p } = nextPos p + 1 :=
      nextPos_setIdx p _ (by omega)
    have ih := ih { p with idx := nextPos p }
    rw [hq] at ih
    rw [picks_succ, pick_nonempty p (by omega), ih (by show _ ≤ p.chans.length; omega),
      List.drop_eq_getElem_cons (show nextPos p < p.chans.length by omega), List.take_succ_cons,
      Nat.add_right_comm]
    rfl

theorem picks_nowrap_snd (k : Nat) (p : Pool) (h : nextPos p + k ≤ p.chans.length) :
    (p.picks k).2 = ((p.chans.drop (nextPos p)).take k).map (fun e => some e.1) := by
  cases k with
  | zero => rfl
  | succ k => rw [picks_nowrap k p h]

/-- `n` picks starting anywhere return the rotation of the list that starts at
    the next position -/
theorem picks_full (p : Pool) :
    (p.picks p.chans.length).2 =
      (p.chans.drop (nextPos p) ++ p.chans.take (nextPos p)).map (fun e => some e.1) := by
  rcases Nat.eq_zero_or_pos p.chans.length with h0 | hn
  · rw [List.eq_nil_of_length_eq_zero h0, List.drop_nil, List.take_nil]; rfl
  have hq := nextPos_lt p hn
  -- the entries from the next position to the end, which leaves the cursor on the last one,
  obtain ⟨m, hm⟩ : ∃ m, p.chans.length = m + 1 + nextPos p :=
    ⟨p.chans.length - nextPos p - 1, by omega⟩
  have h1 := picks_nowrap m p (by omega)
  rw [List.take_of_length_le (by rw [List.length_drop]; omega)] at h1
  -- then, from position 0, those before it
  have h0 : nextPos { p with idx := nextPos p + m } = 0 := nextPos_setIdx_wrap p _ (by omega)
  have h2 := picks_nowrap_snd (nextPos p) { p with idx := nextPos p + m }
  rw [h0, List.drop_zero] at h2
  conv => lhs; rw [hm, picks_add, h1]
  rw [List.map_append]
  exact congrArg _ (h2 (by show _ ≤ p.chans.length; omega))

theorem round_robin_perm (p : Pool) :
    ((p.picks p.chans.length).2).Perm (p.chans.map (fun e => some e.1)) := by
  rw [picks_full p]
  exact (List.perm_append_comm.trans (.of_eq (List.take_append_drop ..))).map _

theorem pick_none_iff (p : Pool) : p.pick.2 = none ↔ p.chans = [] := by
  constructor
  · intro h
    apply Decidable.byContradiction
    intro hne
    rw [pick_nonempty p (List.length_pos_iff.mpr hne)] at h
    cases h
  · intro h; rw [pick_empty p h]

theorem pick_some_mem (p : Pool) (t : Nat) (h : p.pick.2 = some t) :
    ∃ e ∈ p.chans, e.1 = t := by
  have hne : p.chans ≠ [] := fun hc => by rw [pick_empty p hc] at h; cases h
  have hn := List.length_pos_iff.mpr hne
  rw [pick_nonempty p hn] at h
  exact ⟨_, List.getElem_mem (nextPos_lt p hn), Option.some.inj h⟩

/-- the open tunnels with key `k`, in opening order -/
abbrev keyed (os : OpenSet) (k : Nat) : OpenSet := os.filter (fun e => decide (e.2 = k))

/-- the specification of `close` -/
abbrev closed (os : OpenSet) (t : Nat) : OpenSet := os.filter (fun e => decide (e.1 ≠ t))

theorem mem_keyed {os : OpenSet} {k : Nat} {e : Nat × Nat} :
    e ∈ keyed os k ↔ e ∈ os ∧ e.2 = k := by
  rw [List.mem_filter, decide_eq_true_eq]

theorem keyed_eq_nil_iff {os : OpenSet} {k : Nat} : keyed os k = [] ↔ ∀ e ∈ os, e.2 ≠ k := by
  simp only [List.filter_eq_nil_iff, decide_eq_true_eq]

theorem keyed_snoc_self (os : OpenSet) (t k : Nat) :
    keyed (os ++ [(t, k)]) k = keyed os k ++ [(t, k)] := by
  rw [keyed, List.filter_append, List.filter_cons_of_pos (by exact decide_eq_true rfl)]; rfl

theorem keyed_snoc_ne (os : OpenSet) (t : Nat) {k k' : Nat} (h : k' ≠ k) :
    keyed (os ++ [(t, k)]) k' = keyed os k' := by
  rw [keyed, List.filter_append, List.filter_cons_of_neg (by simpa using Ne.symm h)]
  exact List.append_nil _

theorem keyed_closed_comm (os : OpenSet) (t k : Nat) :
    closed (keyed os k) t = keyed (closed os t) k := by
  simp only [keyed, closed, List.filter_filter]
  exact List.filter_congr fun e _ => Bool.and_comm ..

theorem closed_eq_self {os : OpenSet} {t : Nat} (h : ∀ e ∈ os, e.1 ≠ t) : closed os t = os :=
  List.filter_eq_self.mpr fun e he => decide_eq_true (h e he)

theorem nodup_filter {os : OpenSet} (h : (os.map (·.1)).Nodup) (f : Nat × Nat → Bool) :
    ((os.filter f).map (·.1)).Nodup :=
  h.sublist (List.filter_sublist.map _)

theorem nodup_fst_unique {l : List (Nat × Nat)} (h : (l.map (·.1)).Nodup) {a b c : Nat}
    (hb : (a, b) ∈ l) (hc : (a, c) ∈ l) : b = c := by
  induction l with
  | nil => cases hb
  | cons x l ih =>
    obtain ⟨hx, hl⟩ := List.nodup_cons.mp h
    rcases List.mem_cons.mp hb with rfl | hb <;> rcases List.mem_cons.mp hc with hc | hc
    · exact (Prod.mk.inj hc).2.symm
    · exact absurd (List.mem_map.mpr ⟨_, hc, rfl⟩) hx
    · exact absurd (List.mem_map.mpr ⟨_, hb, hc ▸ rfl⟩) hx
    · exact ih hl hb hc

/-- `removeFirst t` fails iff no entry has tunnel id `t`; otherwise it returns the key of
    one, and when tunnel ids are unique what is left is what `close` specifies -/
theorem removeFirst_spec (t : Nat) (l : List (Nat × Nat)) :
    match removeFirst t l with
    | none => ∀ e ∈ l, e.1 ≠ t
    | some (k, rest) => (t, k) ∈ l ∧ ((l.map (·.1)).Nodup → rest = closed l t) := by
  fun_induction removeFirst t l with
  | case1 => exact fun e he => nomatch he
  | case2 k rest =>
    refine ⟨List.mem_cons_self, fun hnd => ?_⟩
    rw [closed, List.filter_cons_of_neg (by simp)]
    exact (closed_eq_self fun e he heq =>
      (List.nodup_cons.mp hnd).1 (List.mem_map.mpr ⟨e, he, heq⟩)).symm
  | case3 t' k rest ht hr ih =>
    rw [hr] at ih
    exact List.forall_mem_cons.mpr ⟨ht, ih⟩
  | case4 t' k rest ht k' rest' hr ih =>
    rw [hr] at ih
    refine ⟨List.mem_cons_of_mem _ ih.1, fun hnd => ?_⟩
    rw [closed, List.filter_cons_of_pos (by simpa using ht)]
    exact congrArg _ (ih.2 (List.nodup_cons.mp hnd).2)

def PoolOK (p : Pool) (l : List (Nat × Nat)) : Prop :=
  p.chans = l ∧ (p.latchClosed = true ↔ l ≠ [])

theorem PoolOK.empty : PoolOK Pool.empty [] := ⟨rfl, by simp [Pool.empty]⟩

theorem PoolOK.add {p : Pool} {l : List (Nat × Nat)} (h : PoolOK p l) (t k : Nat) :
    PoolOK (p.add t k) (l ++ [(t, k)]) := by
  obtain ⟨rfl, hl⟩ := h
  refine ⟨rfl, iff_of_true ?_ (List.append_ne_nil_of_right_ne_nil _ (List.cons_ne_nil _ _))⟩
  show (if (p.chans ++ [(t, k)]).length = 1 then true else p.latchClosed) = true
  split
  · rfl
  · rename_i hlen
    exact hl.mpr fun hnil => hlen (by rw [hnil]; rfl)

theorem remove_of_none {p : Pool} {t : Nat} (h : removeFirst t p.chans = none) :
    p.remove t = (p, none) := by
  simp only [Pool.remove, h]

theorem remove_of_some {p : Pool} {t : Nat} {x : Nat × List (Nat × Nat)}
    (h : removeFirst t p.chans = some x) :
    p.remove t = ({ p with chans := x.2,
                           latchClosed := if x.2.length = 0 then false else p.latchClosed },
                  some x.1) := by
  simp only [Pool.remove, h]

theorem PoolOK.remove {p : Pool} {l : List (Nat × Nat)} (h : PoolOK p l)
    (hnd : (l.map (·.1)).Nodup) (t : Nat) : PoolOK (p.remove t).1 (closed l t) := by
  obtain ⟨rfl, hl⟩ := h
  have hs := removeFirst_spec t p.chans
  cases hr : removeFirst t p.chans with
  | none =>
    rw [hr] at hs
    rw [remove_of_none hr, closed_eq_self hs]; exact ⟨rfl, hl⟩
  | some x =>
    rw [hr] at hs
    rw [remove_of_some hr, ← hs.2 hnd]
    refine ⟨rfl, ?_⟩
    show (if x.2.length = 0 then false else p.latchClosed) = true ↔ _
    rw [hl.mpr (List.ne_nil_of_mem hs.1)]
    cases x.2 <;> simp

theorem PoolOK.picks {p : Pool} {l : List (Nat × Nat)} (h : PoolOK p l) (n : Nat) :
    PoolOK (p.picks n).1 l := by
  obtain ⟨i, hi⟩ := picks_fst p n
  rw [hi]; exact h

theorem PoolOK.pick {p : Pool} {l : List (Nat × Nat)} (h : PoolOK p l) : PoolOK p.pick.1 l :=
  h.picks 1

theorem PoolOK.ready_iff {p : Pool} {l : List (Nat × Nat)} (h : PoolOK p l) :
    p.ready = true ↔ l ≠ [] := by
  rw [← h.1, Pool.ready, decide_eq_true_eq]; exact List.length_pos_iff

theorem PoolOK.waitBlocks_iff {p : Pool} {l : List (Nat × Nat)} (h : PoolOK p l) :
    (!p.latchClosed) = true ↔ l = [] := by
  rw [Bool.not_eq_true', ← Bool.not_eq_true, h.2]; exact Decidable.not_not

theorem PoolOK.pick_none_iff {p : Pool} {l : List (Nat × Nat)} (h : PoolOK p l) :
    p.pick.2 = none ↔ l = [] :=
  h.1 ▸ Registry.pick_none_iff p

theorem PoolOK.pick_some_mem {p : Pool} {l : List (Nat × Nat)} (h : PoolOK p l) {t : Nat}
    (ht : p.pick.2 = some t) : ∃ e ∈ l, e.1 = t :=
  h.1 ▸ Registry.pick_some_mem p t ht

theorem lookup_cons_nat {β : Type} (k' : Nat) (a : Nat × β) (as : List (Nat × β)) :
    (a :: as).lookup k' = if k' = a.1 then some a.2 else as.lookup k' := by
  rw [List.lookup_cons]
  by_cases h : k' = a.1
  · rw [if_pos h, beq_iff_eq.mpr h]
  · rw [if_neg h, beq_eq_false_iff_ne.mpr h]

theorem lookup_setPool (k k' : Nat) (p : Pool) (l : List (Nat × Pool)) :
    (setPool k p l).lookup k' = if k' = k then some p else l.lookup k' := by
  induction l with
  | nil => exact lookup_cons_nat k' (k, p) []
  | cons a l ih =>
    show (if a.1 = k then (k, p) :: l else a :: setPool k p l).lookup k' = _
    rw [lookup_cons_nat k' a l]
    by_cases h : a.1 = k
    · rw [if_pos h, lookup_cons_nat, h]
      by_cases h' : k' = k <;> simp only [h', if_true, if_false]
    · rw [if_neg h, lookup_cons_nat, ih]
      by_cases h' : k' = k
      · rw [if_pos h', if_pos h', if_neg (fun e => h (e.symm.trans h'))]
      · rw [if_neg h', if_neg h']

/-- `r` represents exactly the open set `os` (open tunnels with their keys, in
    opening order) -/
structure RInv (r : Registry) (os : OpenSet) : Prop where
  global : PoolOK r.global os
  /-- a key without a pool has no open tunnel -/
  keyNone : ∀ k, r.poolOf k = none → ∀ e ∈ os, e.2 ≠ k
  /-- a key's pool is exactly the open tunnels with that key, latch closed iff non-empty -/
  keySome : ∀ k p, r.poolOf k = some p → PoolOK p (keyed os k)
  nodup : (os.map (·.1)).Nodup

/-- the two clauses about keys in one: every key's pool, or the empty pool if it has none,
    represents `keyed os k` -/
theorem RInv.getD_ok {r : Registry} {os : OpenSet} (h : RInv r os) (k : Nat) :
    PoolOK ((r.poolOf k).getD Pool.empty) (keyed os k) := by
  cases hk : r.poolOf k with
  | none => rw [keyed_eq_nil_iff.mpr (h.keyNone k hk)]; exact PoolOK.empty
  | some p => exact h.keySome k p hk

theorem RInv.of_getD {r : Registry} {os : OpenSet} (hg : PoolOK r.global os)
    (hk : ∀ k, PoolOK ((r.poolOf k).getD Pool.empty) (keyed os k))
    (hnd : (os.map (·.1)).Nodup) : RInv r os where
  global := hg
  keyNone := fun k hn => keyed_eq_nil_iff.mp (by have := (hk k).1; rw [hn] at this; exact this.symm)
  keySome := fun k p hs => by have := hk k; rw [hs] at this; exact this
  nodup := hnd

/-- the shape of the registry after `open`, `close` and `pickKey`: a global pool, and the
    pool of one key replaced -/
theorem RInv.of_setPool {r : Registry} {os : OpenSet} {g p : Pool} {k : Nat}
    (hg : PoolOK g os) (hp : PoolOK p (keyed os k))
    (hr : ∀ k', k' ≠ k → PoolOK ((r.poolOf k').getD Pool.empty) (keyed os k'))
    (hnd : (os.map (·.1)).Nodup) : RInv { global := g, byKey := setPool k p r.byKey } os := by
  refine .of_getD hg (fun k' => ?_) hnd
  show PoolOK (((setPool k p r.byKey).lookup k').getD Pool.empty) _
  rw [lookup_setPool]
  split
  · rename_i hk; rw [hk]; exact hp
  · rename_i hk; exact hr k' hk

theorem RInv.init : RInv {} [] :=
  .of_getD PoolOK.empty (fun _ => PoolOK.empty) List.nodup_nil

theorem RInv.open {r : Registry} {os : OpenSet} (h : RInv r os) (t k : Nat)
    (hfresh : t ∉ os.map (·.1)) : RInv (r.open t k) (os ++ [(t, k)]) := by
  refine .of_setPool (h.global.add t k) ?_ (fun k' hk => ?_) ?_
  · rw [keyed_snoc_self]; exact (h.getD_ok k).add t k
  · rw [keyed_snoc_ne os t hk]; exact h.getD_ok k'
  · rw [List.map_append, List.nodup_append]
    refine ⟨h.nodup, List.pairwise_singleton _ _, fun a ha b hb hab => hfresh ?_⟩
    have hb : b = t := List.mem_singleton.mp hb
    exact hb ▸ hab ▸ ha

theorem close_of_some {r : Registry} {t : Nat} {x : Nat × List (Nat × Nat)}
    (h : removeFirst t r.global.chans = some x) :
    r.close t = match r.poolOf x.1 with
      | none => { r with global := (r.global.remove t).1 }
      | some p => { global := (r.global.remove t).1,
                    byKey := setPool x.1 (p.remove t).1 r.byKey } := by
  simp only [Registry.close, remove_of_some h]
  cases r.poolOf x.1 <;> rfl

/-- any tunnel id, open or not -/
theorem RInv.close {r : Registry} {os : OpenSet} (h : RInv r os) (t : Nat) :
    RInv (r.close t) (closed os t) := by
  have hs := removeFirst_spec t r.global.chans
  cases hr : removeFirst t r.global.chans with
  | none =>
    rw [hr, h.global.1] at hs
    rw [Registry.close, remove_of_none hr, closed_eq_self hs]; exact h
  | some x =>
    rw [hr, h.global.1] at hs
    rw [close_of_some hr]
    cases hk : r.poolOf x.1 with
    | none => exact absurd rfl (h.keyNone _ hk _ hs.1)
    | some p =>
      refine .of_setPool (h.global.remove h.nodup t) ?_ (fun k' hkk => ?_) (nodup_filter h.nodup _)
      · rw [← keyed_closed_comm]
        exact (h.keySome _ p hk).remove (nodup_filter h.nodup _) t
      · -- tunnel `t` has key `x.1`, so no tunnel with another key goes
        rw [← keyed_closed_comm, closed_eq_self]
        · exact h.getD_ok k'
        · intro e he heq
          obtain ⟨he1, he2⟩ := mem_keyed.mp he
          have : (t, e.2) ∈ os := heq ▸ he1
          exact hkk (he2.symm.trans (nodup_fst_unique h.nodup this hs.1))

theorem pickKey_of_none {r : Registry} {k : Nat} (h : r.poolOf k = none) :
    r.pickKey k = (r, none) := by
  simp only [Registry.pickKey, h]

theorem pickKey_of_some {r : Registry} {k : Nat} {p : Pool} (h : r.poolOf k = some p) :
    r.pickKey k = ({ r with byKey := setPool k p.pick.1 r.byKey }, p.pick.2) := by
  simp only [Registry.pickKey, h]

theorem RInv.pickAll {r : Registry} {os : OpenSet} (h : RInv r os) : RInv r.pickAll.1 os :=
  ⟨h.global.pick, h.keyNone, h.keySome, h.nodup⟩

theorem RInv.pickKey {r : Registry} {os : OpenSet} (h : RInv r os) (k : Nat) :
    RInv (r.pickKey k).1 os := by
  cases hk : r.poolOf k with
  | none => rw [pickKey_of_none hk]; exact h
  | some p =>
    rw [pickKey_of_some hk]
    exact .of_setPool h.global (h.keySome k p hk).pick (fun k' _ => h.getD_ok k') h.nodup

/-! What the API observes.  The per-key operations act on the key's pool, and on a missing
    pool as on the empty one. -/

theorem pickKey_snd (r : Registry) (k : Nat) :
    (r.pickKey k).2 = ((r.poolOf k).getD Pool.empty).pick.2 := by
  unfold Registry.pickKey; cases r.poolOf k <;> rfl

theorem readyKey_eq (r : Registry) (k : Nat) :
    r.readyKey k = ((r.poolOf k).getD Pool.empty).ready := by
  unfold Registry.readyKey; cases r.poolOf k <;> rfl

theorem waitBlocksKey_eq (r : Registry) (k : Nat) :
    r.waitBlocksKey k = !((r.poolOf k).getD Pool.empty).latchClosed := by
  unfold Registry.waitBlocksKey; cases r.poolOf k <;> rfl

/-- `AllReverseTunnels` is exactly the open set, in opening order -/
theorem RInv.all_eq {r : Registry} {os : OpenSet} (h : RInv r os) : r.all = os.map (·.1) := by
  show r.global.chans.map (·.1) = _
  rw [h.global.1]

/-- `AsChannel` routes only to an open tunnel -/
theorem RInv.pickAll_sound {r : Registry} {os : OpenSet} (h : RInv r os) {t : Nat}
    (ht : r.pickAll.2 = some t) : t ∈ os.map (·.1) := by
  obtain ⟨e, he, het⟩ := h.global.pick_some_mem ht
  exact List.mem_map.mpr ⟨e, he, het⟩

/-- `AsChannel` fails iff no tunnel is open -/
theorem RInv.pickAll_none_iff {r : Registry} {os : OpenSet} (h : RInv r os) :
    r.pickAll.2 = none ↔ os = [] :=
  h.global.pick_none_iff

/-- `KeyAsChannel k` routes only to an open tunnel whose key is `k` -/
theorem RInv.pickKey_sound {r : Registry} {os : OpenSet} (h : RInv r os) {k t : Nat}
    (ht : (r.pickKey k).2 = some t) : (t, k) ∈ os := by
  rw [pickKey_snd] at ht
  obtain ⟨e, he, rfl⟩ := (h.getD_ok k).pick_some_mem ht
  obtain ⟨he1, rfl⟩ := mem_keyed.mp he
  exact he1

/-- `KeyAsChannel k` fails iff no tunnel with key `k` is open -/
theorem RInv.pickKey_none_iff {r : Registry} {os : OpenSet} (h : RInv r os) (k : Nat) :
    (r.pickKey k).2 = none ↔ os.filter (·.2 = k) = [] := by
  rw [pickKey_snd]; exact (h.getD_ok k).pick_none_iff

theorem RInv.readyAll_iff {r : Registry} {os : OpenSet} (h : RInv r os) :
    r.readyAll = true ↔ os ≠ [] :=
  h.global.ready_iff

theorem RInv.readyKey_iff {r : Registry} {os : OpenSet} (h : RInv r os) (k : Nat) :
    r.readyKey k = true ↔ os.filter (·.2 = k) ≠ [] := by
  rw [readyKey_eq]; exact (h.getD_ok k).ready_iff

theorem RInv.waitBlocksAll_iff {r : Registry} {os : OpenSet} (h : RInv r os) :
    r.waitBlocksAll = true ↔ os = [] :=
  h.global.waitBlocks_iff

theorem RInv.waitBlocksKey_iff {r : Registry} {os : OpenSet} (h : RInv r os) (k : Nat) :
    r.waitBlocksKey k = true ↔ os.filter (·.2 = k) = [] := by
  rw [waitBlocksKey_eq]; exact (h.getD_ok k).waitBlocks_iff

inductive ROp where
  | open (t k : Nat)
  | close (t : Nat)
  | pickAll
  | pickKey (k : Nat)
  deriving Repr

def stepReg (r : Registry) : ROp → Registry
  | .open t k => r.open t k
  | .close t => r.close t
  | .pickAll => r.pickAll.1
  | .pickKey k => (r.pickKey k).1

def stepSpec (os : OpenSet) : ROp → OpenSet
  | .open t k => os ++ [(t, k)]
  | .close t => os.filter (·.1 ≠ t)
  | .pickAll => os
  | .pickKey _ => os

def openedIds : List ROp → List Nat
  | [] => []
  | .open t _ :: ops => t :: openedIds ops
  | .close _ :: ops => openedIds ops
  | .pickAll :: ops => openedIds ops
  | .pickKey _ :: ops => openedIds ops

/-- a run is legal when every `open t k` uses a `t` that was never opened before
    in the run (tunnel ids are never reused) -/
def legal (ops : List ROp) : Prop := (openedIds ops).Nodup

instance (ops : List ROp) : Decidable (legal ops) :=
  inferInstanceAs (Decidable (openedIds ops).Nodup)

def runReg (ops : List ROp) : Registry := ops.foldl stepReg {}
def runSpec (ops : List ROp) : OpenSet := ops.foldl stepSpec []

/-- the run invariant: besides `RInv`, the open tunnel ids and those still to be opened are
    pairwise different -/
theorem run_inv (ops : List ROp) : ∀ (r : Registry) (os : OpenSet),
    RInv r os → (os.map (·.1) ++ openedIds ops).Nodup →
    RInv (ops.foldl stepReg r) (ops.foldl stepSpec os) := by
  induction ops with
  | nil => intro r os h _; exact h
  | cons op ops ih =>
    intro r os h hnd
    cases op with
    | «open» t k =>
      have hfresh : t ∉ os.map (·.1) := fun ht =>
        (List.nodup_append.mp hnd).2.2 t ht t List.mem_cons_self rfl
      refine ih _ _ (h.open t k hfresh) ?_
      show ((os ++ [(t, k)]).map (·.1) ++ openedIds ops).Nodup
      rw [List.map_append, List.append_assoc]; exact hnd
    | close t =>
      exact ih _ _ (h.close t) (hnd.sublist ((List.filter_sublist.map _).append_right _))
    | pickAll => exact ih _ _ h.pickAll hnd
    | pickKey k => exact ih _ _ (h.pickKey k) hnd

/-- **C12 (exactness).** After every legal run from the empty registry, the
    registry represents exactly the set of currently open tunnels. -/
theorem C12_exact (ops : List ROp) (hl : legal ops) : RInv (runReg ops) (runSpec ops) :=
  run_inv ops {} [] RInv.init hl

theorem C12_all (ops : List ROp) (hl : legal ops) :
    (runReg ops).all = (runSpec ops).map (·.1) := (C12_exact ops hl).all_eq

theorem C12_pickAll_routed (ops : List ROp) (hl : legal ops) (t : Nat)
    (h : (runReg ops).pickAll.2 = some t) : t ∈ (runSpec ops).map (·.1) :=
  (C12_exact ops hl).pickAll_sound h

theorem C12_pickKey_routed (ops : List ROp) (hl : legal ops) (k t : Nat)
    (h : ((runReg ops).pickKey k).2 = some t) : (t, k) ∈ runSpec ops :=
  (C12_exact ops hl).pickKey_sound h

/-- `n` consecutive `KeyAsChannel k` calls -/
def picksKey (r : Registry) (k : Nat) : Nat → Registry × List (Option Nat)
  | 0 => (r, [])
  | n + 1 =>
    let (r', x) := r.pickKey k
    let (r'', xs) := picksKey r' k n
    (r'', x :: xs)

/-- `n` consecutive `AsChannel` calls -/
def picksAll (r : Registry) : Nat → Registry × List (Option Nat)
  | 0 => (r, [])
  | n + 1 =>
    let (r', x) := r.pickAll
    let (r'', xs) := picksAll r' n
    (r'', x :: xs)

theorem picksKey_eq (k n : Nat) : ∀ (r : Registry) (p : Pool), r.poolOf k = some p →
    (picksKey r k n).2 = (p.picks n).2 := by
  induction n with
  | zero => intro r p h; rfl
  | succ n ih =>
    intro r p h
    have hp : ({ r with byKey := setPool k p.pick.1 r.byKey } : Registry).poolOf k
        = some p.pick.1 := (lookup_setPool ..).trans (if_pos rfl)
    show (r.pickKey k).2 :: (picksKey (r.pickKey k).1 k n).2 = _
    rw [picks_succ, pickKey_of_some h]
    exact congrArg _ (ih _ _ hp)

theorem picksAll_eq (n : Nat) : ∀ (r : Registry), (picksAll r n).2 = (r.global.picks n).2 := by
  induction n with
  | zero => intro r; rfl
  -- both sides unfold to `r.global.pick.2 :: …`
  | succ n ih => intro r; exact congrArg _ (ih r.pickAll.1)

theorem RInv.picksKey {r : Registry} {os : OpenSet} (h : RInv r os) (k n : Nat) :
    RInv (picksKey r k n).1 os := by
  induction n generalizing r with
  | zero => exact h
  | succ n ih => exact ih (h.pickKey k)

theorem RInv.picksAll {r : Registry} {os : OpenSet} (h : RInv r os) (n : Nat) :
    RInv (picksAll r n).1 os := by
  induction n generalizing r with
  | zero => exact h
  | succ n ih => exact ih h.pickAll

/-- **C12 (round robin, per key).** With `n` open tunnels of key `k`, `n`
    consecutive `KeyAsChannel k` calls use each of them exactly once (whatever
    the cursor is). -/
theorem round_robin_key {r : Registry} {os : OpenSet} (h : RInv r os) (k : Nat) :
    ((picksKey r k (os.filter (·.2 = k)).length).2).Perm
      ((os.filter (·.2 = k)).map (fun e => some e.1)) := by
  cases hk : r.poolOf k with
  | none =>
    rw [show os.filter (·.2 = k) = [] from keyed_eq_nil_iff.mpr (h.keyNone k hk)]
    exact .nil
  | some p =>
    have hc : p.chans = os.filter (·.2 = k) := (h.keySome k p hk).1
    rw [picksKey_eq k _ r p hk, ← hc]
    exact round_robin_perm p

/-- **C12 (round robin, global).** With `n` open tunnels, `n` consecutive
    `AsChannel` calls use each of them exactly once. -/
theorem round_robin_all {r : Registry} {os : OpenSet} (h : RInv r os) :
    ((picksAll r os.length).2).Perm (os.map (fun e => some e.1)) := by
  rw [picksAll_eq, ← h.global.1]
  exact round_robin_perm r.global

/-- id `1` opened twice, under keys `0` and `1`, and closed once -/
def illegalRun : List ROp := [.open 1 0, .open 1 1, .close 1]

/-- The legality hypothesis of `C12_exact` is necessary.  If a tunnel id is
    reused while still open (here id `1` under keys `0` and `1`), one `close`
    removes only the first registration from the global pool (`removeFirst`),
    so the id stays registered although the specification has removed it. -/
theorem illegal_run_not_exact :
    ¬ legal illegalRun ∧ (runReg illegalRun).all = [1] ∧ runSpec illegalRun = []
      ∧ ((runReg illegalRun).pickKey 1).2 = some 1 := by
  decide +kernel

def _root_.TunnelModel.Lifecycle.RState.rank : RState → Nat
  | .active => 0
  | .closing => 1
  | .closed => 2

theorem serve_refused (s : RServer) (t : Nat) (h : s.state ≠ .active) :
    s.serve t = (s, false) := by
  simp [RServer.serve, h]

theorem serve_refused_result (s : RServer) (t : Nat) (h : s.state ≠ .active) :
    (s.serve t).2 = false ∧ (s.serve t).1 = s := by
  rw [serve_refused s t h]; exact ⟨rfl, rfl⟩

theorem serve_accepted (s : RServer) (t : Nat) (h : s.state = .active) :
    s.serve t = ({ s with serving := s.serving ++ [t] }, true) := by
  simp [RServer.serve, h]

theorem serve_true_iff (s : RServer) (t : Nat) : (s.serve t).2 = true ↔ s.state = .active := by
  by_cases h : s.state = .active
  · rw [serve_accepted s t h]; exact iff_of_true rfl h
  · rw [serve_refused s t h]; exact iff_of_false Bool.false_ne_true h

theorem serve_state (s : RServer) (t : Nat) : (s.serve t).1.state = s.state := by
  by_cases h : s.state = .active
  · rw [serve_accepted s t h]
  · rw [serve_refused s t h]

theorem served_state (s : RServer) (t : Nat) : (s.served t).state = s.state := rfl
theorem stop_state (s : RServer) : s.stop.state = .closed := rfl

theorem gracefulStop_of_active (s : RServer) (h : s.state = .active) :
    s.gracefulStop = { s with state := .closing } := by
  simp [RServer.gracefulStop, h]

theorem gracefulStop_of_not_active (s : RServer) (h : s.state ≠ .active) :
    s.gracefulStop = s := by
  simp [RServer.gracefulStop, h]

inductive SOp where
  | serve (t : Nat)
  | served (t : Nat)
  | stop
  | gracefulStop
  deriving Repr

def stepSrv (s : RServer) : SOp → RServer
  | .serve t => (s.serve t).1
  | .served t => s.served t
  | .stop => s.stop
  | .gracefulStop => s.gracefulStop

theorem rank_step (s : RServer) (op : SOp) : s.state.rank ≤ (stepSrv s op).state.rank := by
  cases op with
  | serve t => exact Nat.le_of_eq (congrArg _ (serve_state s t).symm)
  | served t => exact Nat.le_refl _
  | stop => show _ ≤ 2; cases s.state <;> decide
  | gracefulStop =>
    show _ ≤ s.gracefulStop.state.rank
    by_cases h : s.state = .active
    · rw [h]; exact Nat.zero_le _
    · rw [gracefulStop_of_not_active s h]; exact Nat.le_refl _

/-- **C10.** The state only moves forward (`active → closing → closed`) along
    any sequence of operations. -/
theorem C10_rank_mono (ops : List SOp) (s : RServer) :
    s.state.rank ≤ (ops.foldl stepSrv s).state.rank := by
  induction ops generalizing s with
  | nil => exact Nat.le_refl _
  | cons op ops ih => exact Nat.le_trans (rank_step s op) (ih (stepSrv s op))

theorem not_active_run (ops : List SOp) (s : RServer) (h : s.state ≠ .active) :
    (ops.foldl stepSrv s).state ≠ .active := by
  intro ha
  have := C10_rank_mono ops s
  rw [ha] at this
  revert h this
  cases s.state <;> decide

/-- once shutdown began, it stays begun: `Serve` is refused forever -/
theorem C10_serve_refused_forever (ops : List SOp) (s : RServer) (h : s.state ≠ .active)
    (t : Nat) : ((ops.foldl stepSrv s).serve t).2 = false
      ∧ ((ops.foldl stepSrv s).serve t).1 = ops.foldl stepSrv s :=
  serve_refused_result _ t (not_active_run ops s h)

theorem gracefulStop_after_stop (s : RServer) : s.stop.gracefulStop = s.stop := rfl

theorem gracefulStop_idem (s : RServer) : s.gracefulStop.gracefulStop = s.gracefulStop := by
  by_cases h : s.state = .active
  · rw [gracefulStop_of_active s h]; rfl
  · rw [gracefulStop_of_not_active s h, gracefulStop_of_not_active s h]

theorem stop_after_gracefulStop (s : RServer) : s.gracefulStop.stop = s.stop := by
  by_cases h : s.state = .active
  · rw [gracefulStop_of_active s h]; rfl
  · rw [gracefulStop_of_not_active s h]

theorem isClosing_iff (s : RServer) : s.isClosing = true ↔ s.state ≠ .active := by
  simp [RServer.isClosing]

theorem isClosing_stop (s : RServer) : s.stop.isClosing = true := rfl

theorem isClosing_gracefulStop (s : RServer) : s.gracefulStop.isClosing = true := by
  by_cases h : s.state = .active
  · rw [gracefulStop_of_active s h]; rfl
  · rw [gracefulStop_of_not_active s h]; exact (isClosing_iff s).mpr h

theorem C10_isClosing_sticky (ops : List SOp) (s : RServer) (h : s.isClosing = true) :
    (ops.foldl stepSrv s).isClosing = true :=
  (isClosing_iff _).mpr (not_active_run ops s ((isClosing_iff s).mp h))

section Axioms
#print axioms round_robin_perm
#print axioms picks_full
#print axioms RInv.init
#print axioms RInv.open
#print axioms RInv.close
#print axioms RInv.pickAll
#print axioms RInv.pickKey
#print axioms RInv.all_eq
#print axioms RInv.pickAll_sound
#print axioms RInv.pickKey_sound
#print axioms RInv.pickAll_none_iff
#print axioms RInv.pickKey_none_iff
#print axioms RInv.readyAll_iff
#print axioms RInv.readyKey_iff
#print axioms RInv.waitBlocksAll_iff
#print axioms RInv.waitBlocksKey_iff
#print axioms C12_exact
#print axioms round_robin_key
#print axioms round_robin_all
#print axioms illegal_run_not_exact
#print axioms serve_refused_result
#print axioms C10_rank_mono
#print axioms C10_serve_refused_forever
#print axioms C10_isClosing_sticky
#print axioms gracefulStop_after_stop
#print axioms isClosing_gracefulStop
end Axioms

end Proofs.Registry
