import TunnelModel.FlowStep
import Proofs.Lemmas.Run
/-! Invariants of the L-atomic flow-control model, preserved by every action;
    termination measure; absence of stuck states. -/
namespace Proofs.FlowStep
open TunnelModel.FlowStep

@[simp] theorem reserve_idle : SPc.reserve .idle = 0 := rfl
@[simp] theorem reserve_loaded (w) : SPc.reserve (.loaded w) = 0 := rfl
@[simp] theorem reserve_parked : SPc.reserve .parked = 0 := rfl
@[simp] theorem reserve_reserved (k) : SPc.reserve (.reserved k) = k := rfl
@[simp] theorem reserve_failed : SPc.reserve .failed = 0 := rfl
@[simp] theorem pc_idle : RPc.pendingCredit .idle = 0 := rfl
@[simp] theorem pc_waiting : RPc.pendingCredit .waiting = 0 := rfl
@[simp] theorem pc_woken : RPc.pendingCredit .woken = 0 := rfl
@[simp] theorem pc_credit (k) : RPc.pendingCredit (.credit k) = k := rfl

/-- One flat conjunction: the form the statements of C05 / C06 are written against.  The proofs use
    the five groups `Ledger`, `Wake`, `Reader`, `Chunks`, `Sender` below (`inv_iff`), each of which is
    preserved on its own and reads only the fields it mentions. -/
def Inv (W cm : Nat) (s : St) : Prop :=
  (s.win + s.spc.reserve + s.dataWire.sum + s.queue.sum + s.rpc.pendingCredit + s.creditWire.sum = W) ∧
  (s.rwin + s.queue.sum = W) ∧
  (s.overrun = false) ∧
  ((s.spc = .parked ∨ s.spc = .loaded 0) → 0 < s.win → (s.token = true ∨ s.upc = .added 0)) ∧
  (s.rpc = .waiting → s.queue = []) ∧
  (s.rpc = .woken → s.queue ≠ []) ∧
  (∀ k ∈ s.dataWire, k ≤ cm) ∧
  (∀ k ∈ s.queue, k ≤ cm) ∧
  (∀ k, s.spc = .reserved k → ∃ rem, s.cur = some rem ∧ k ≤ rem ∧ k ≤ cm ∧ (k = rem ∨ 0 < k)) ∧
  ((∃ w, s.spc = .loaded w) ∨ s.spc = .parked → s.cur.isSome = true) ∧
  (s.sent + s.win + s.spc.reserve = W + s.credited) ∧
  (s.sent = s.dataWire.sum + s.queue.sum + s.dequeued) ∧
  (s.granted + s.rpc.pendingCredit = s.dequeued) ∧
  (s.credited + s.creditWire.sum = s.granted) ∧
  (s.spc = .failed → s.cancelled = true)

def enabled (cm : Nat) (s : St) (a : Act) : Bool := (step cm s a).isSome

theorem sum_pos_ne_nil {l : List Nat} (h : 0 < l.sum) : l ≠ [] := by
  intro e; subst e; simp at h

variable {W cm : Nat} {s s' : St} {a : Act}

theorem popOrWait_nil (h : s.queue = []) : popOrWait s = { s with rpc := .waiting } := by
  simp only [popOrWait, h]

/-- the state after `dequeue` has taken the chunk `k` off the queue `k :: q` -/
abbrev popped (s : St) (k : Nat) (q : List Nat) : St :=
  { s with queue := q, rwin := s.rwin + k, dequeued := s.dequeued + k, rpc := if k > 0 then .credit k else .idle }

theorem popOrWait_cons {k : Nat} {q : List Nat} (h : s.queue = k :: q) : popOrWait s = popped s k q := by
  simp only [popOrWait, h]

/-- `step` as a relation: one constructor per branch of `step` (and of `popOrWait`) that returns a
    state, with the guard of the branch as hypotheses on the fields of `s` -/
inductive Step (cm : Nat) (s : St) : Act → St → Prop
  | sLoadCont {r : Nat} : s.spc = .idle → s.cur = some r → Step cm s .sLoad { s with spc := .loaded s.win }
  | sLoadNext {m : Nat} {rest : List Nat} : s.spc = .idle → s.cur = none → s.todo = m :: rest →
      Step cm s .sLoad { s with cur := some m, todo := rest, spc := .loaded s.win }
  | sPark : s.spc = .loaded 0 → Step cm s .sPark { s with spc := .parked }
  | sWake : s.spc = .parked → s.token = true → Step cm s .sWake { s with token := false, spc := .idle }
  | sFail : s.spc = .parked → s.cancelled = true → Step cm s .sFail { s with spc := .failed }
  | sCasOk {w rem k : Nat} : s.spc = .loaded w → s.cur = some rem → w ≠ 0 → s.win = w →
      k = min (min w rem) cm → Step cm s .sCas { s with win := w - k, spc := .reserved k }
  | sCasFail {w rem : Nat} : s.spc = .loaded w → s.cur = some rem → w ≠ 0 → s.win ≠ w →
      Step cm s .sCas { s with spc := .idle }
  | sEmit {k rem : Nat} : s.spc = .reserved k → s.cur = some rem →
      Step cm s .sEmit { s with dataWire := s.dataWire ++ [k], sent := s.sent + k, spc := .idle,
                                cur := if k = rem then none else some (rem - k) }
  | uAdd {n : Nat} {rest : List Nat} : s.upc = .idle → s.creditWire = n :: rest →
      Step cm s .uAdd { s with win := s.win + n, credited := s.credited + n, upc := .added s.win,
                               creditWire := rest }
  | uSignal {prev : Nat} : s.upc = .added prev →
      Step cm s .uSignal { s with token := if prev = 0 then true else s.token, upc := .idle }
  | deliverOver {k : Nat} {rest : List Nat} : s.dataWire = k :: rest → k > s.rwin →
      Step cm s .deliver { s with dataWire := rest, overrun := true }
  | deliverOk {k : Nat} {rest : List Nat} : s.dataWire = k :: rest → ¬ k > s.rwin →
      Step cm s .deliver { s with dataWire := rest, rwin := s.rwin - k, queue := s.queue ++ [k],
                                  rpc := if s.queue = [] ∧ s.rpc = .waiting then .woken else s.rpc }
  | rStartPop {k : Nat} {q : List Nat} : s.rpc = .idle → s.queue = k :: q → Step cm s .rStart (popped s k q)
  | rStartWait : s.rpc = .idle → s.queue = [] → Step cm s .rStart { s with rpc := .waiting }
  | rResumePop {k : Nat} {q : List Nat} : s.rpc = .woken → s.queue = k :: q → Step cm s .rResume (popped s k q)
  | rResumeWait : s.rpc = .woken → s.queue = [] → Step cm s .rResume { s with rpc := .waiting }
  | rCredit {k : Nat} : s.rpc = .credit k →
      Step cm s .rCredit { s with creditWire := s.creditWire ++ [k], granted := s.granted + k, rpc := .idle }
  | cancel : s.cancelled = false → Step cm s .cancel { s with cancelled := true }

/-- what `accept` does to the reader's program counter is invisible to anything that does not tell
    `woken` from `waiting` -/
theorem woken_congr {β : Type} (f : RPc → β) (hf : f .woken = f .waiting) (s : St) :
    f (if s.queue = [] ∧ s.rpc = .waiting then .woken else s.rpc) = f s.rpc := by
  split
  · rename_i h; rw [h.2, hf]
  · rfl

theorem step_spec (hs : step cm s a = some s') : Step cm s a s' := by
  cases a <;> simp only [step] at hs
  case sCas =>
    split at hs
    · split at hs
      · cases hs
      · split at hs <;> cases hs
        · exact .sCasOk ‹_› ‹_› ‹_› ‹_› rfl
        · exact .sCasFail ‹_› ‹_› ‹_› ‹_›
    · cases hs
  case rStart | rResume =>
    split at hs <;> cases hs
    cases hq : s.queue with
    | nil => rw [popOrWait_nil hq]; constructor <;> assumption
    | cons k q => rw [popOrWait_cons hq]; constructor <;> assumption
  case cancel => split at hs <;> cases hs; exact .cancel ((Bool.not_eq_true _).mp ‹_›)
  case sLoad | sWake | sFail | deliver =>
    split at hs
    · split at hs <;> cases hs <;> constructor <;> assumption
    · cases hs
  all_goals split at hs <;> cases hs; constructor <;> assumption

theorem Step.step_eq (h : Step cm s a s') : step cm s a = some s' := by
  cases h <;> simp only [step, popOrWait, *, if_true, if_false, Bool.false_eq_true]

/-- the counters: receive window, sender's window and the ghost history.  Conservation of credit
    (the first conjunct of `Inv`) follows from these, and with it that `accept` never overruns. -/
structure Ledger (W : Nat) (s : St) : Prop where
  overrun : s.overrun = false
  rwin : s.rwin + s.queue.sum = W
  sent : s.sent + s.win + s.spc.reserve = W + s.credited
  wire : s.sent = s.dataWire.sum + s.queue.sum + s.dequeued
  granted : s.granted + s.rpc.pendingCredit = s.dequeued
  credited : s.credited + s.creditWire.sum = s.granted

/-- no lost wake-up on the sending side -/
def Wake (s : St) : Prop :=
  (s.spc = .parked ∨ s.spc = .loaded 0) → 0 < s.win → (s.token = true ∨ s.upc = .added 0)

structure Reader (s : St) : Prop where
  waiting : s.rpc = .waiting → s.queue = []
  woken : s.rpc = .woken → s.queue ≠ []

structure Chunks (cm : Nat) (s : St) : Prop where
  wire : ∀ k ∈ s.dataWire, k ≤ cm
  queue : ∀ k ∈ s.queue, k ≤ cm

structure Sender (cm : Nat) (s : St) : Prop where
  reserved : ∀ k, s.spc = .reserved k → ∃ rem, s.cur = some rem ∧ k ≤ rem ∧ k ≤ cm ∧ (k = rem ∨ 0 < k)
  busy : (∃ w, s.spc = .loaded w) ∨ s.spc = .parked → s.cur.isSome = true
  failed : s.spc = .failed → s.cancelled = true

theorem Ledger.conservation (h : Ledger W s) :
    s.win + s.spc.reserve + s.dataWire.sum + s.queue.sum + s.rpc.pendingCredit + s.creditWire.sum = W := by
  obtain ⟨_, _, h11, h12, h13, h14⟩ := h
  rw [h12, ← h13, ← h14] at h11
  simp +arith only at h11 ⊢
  exact h11

theorem inv_iff :
    Inv W cm s ↔ Ledger W s ∧ Wake s ∧ Reader s ∧ Chunks cm s ∧ Sender cm s :=
  ⟨fun ⟨_, h2, h3, h4, h5, h6, h7, h8, h9, h10, h11, h12, h13, h14, h15⟩ =>
    ⟨⟨h3, h2, h11, h12, h13, h14⟩, h4, ⟨h5, h6⟩, ⟨h7, h8⟩, ⟨h9, h10, h15⟩⟩,
   fun ⟨hl, h4, hr, hc, hs⟩ =>
    ⟨hl.conservation, hl.rwin, hl.overrun, h4, hr.waiting, hr.woken, hc.wire, hc.queue, hs.reserved, hs.busy,
      hl.sent, hl.wire, hl.granted, hl.credited, hs.failed⟩⟩

theorem Inv.ledger (h : Inv W cm s) : Ledger W s := (inv_iff.mp h).1
theorem Inv.sender (h : Inv W cm s) : Sender cm s := (inv_iff.mp h).2.2.2.2

/-- by the ledger the head of the data wire fits the receive window: `accept` never overruns -/
theorem Ledger.head_fits (h : Ledger W s) {k : Nat} {rest : List Nat}
    (hd : s.dataWire = k :: rest) : k ≤ s.rwin := by
  have hc := h.conservation
  have h2 := h.rwin
  rw [hd, List.sum_cons] at hc
  omega

/-- what `dequeue` leaves in the reader's program counter: nothing for an empty chunk, a credit otherwise -/
theorem popped_rpc_elim {k : Nat} {P : RPc → Prop} (h0 : k = 0 → P .idle) (h1 : 0 < k → P (.credit k)) :
    P (if k > 0 then .credit k else .idle) := by
  split
  · exact h1 ‹_›
  · exact h0 (Nat.eq_zero_of_not_pos ‹_›)

theorem pendingCredit_popped (k : Nat) : RPc.pendingCredit (if k > 0 then .credit k else .idle) = k :=
  popped_rpc_elim (P := fun r => r.pendingCredit = k) Eq.symm fun _ => rfl

theorem Ledger.popped (h : Ledger W s) (hr : s.rpc.pendingCredit = 0) {k : Nat} {q : List Nat}
    (hq : s.queue = k :: q) : Ledger W (popped s k q) := by
  have h1 := h.rwin
  have h2 := h.wire
  have h3 := h.granted
  rw [hq, List.sum_cons] at h1 h2
  rw [hr] at h3
  exact { h with
    rwin := by simp +arith only at h1 ⊢; exact h1
    wire := by simp +arith only [h2]
    granted := by show s.granted + RPc.pendingCredit _ = s.dequeued + k; rw [pendingCredit_popped, ← h3]; rfl }

theorem Ledger.step (h : Ledger W s) (hs : Step cm s a s') : Ledger W s' := by
  cases hs with
  | sLoadCont hp | sLoadNext hp | sPark hp | sWake hp | sFail hp | sCasFail hp =>
    exact { h with sent := (hp ▸ h.sent :) }
  | @sCasOk w _ k hp _ _ hw hk =>
    have hkw : k ≤ w := hk ▸ Nat.le_trans (Nat.min_le_left ..) (Nat.min_le_left ..)
    have := h.sent
    rw [hp, hw] at this
    exact { h with sent := by show s.sent + (w - k) + k = _; rw [Nat.add_assoc, Nat.sub_add_cancel hkw]; exact this }
  | sEmit hp =>
    exact { h with
      sent := by simpa +arith only [hp, reserve_reserved, reserve_idle] using h.sent
      wire := by simp +arith only [h.wire, List.sum_append, List.sum_cons, List.sum_nil] }
  | uAdd _ hc =>
    exact { h with
      sent := by simpa +arith only using h.sent
      credited := by simpa +arith only [hc, List.sum_cons] using h.credited }
  | deliverOver hd hk => exact absurd (h.head_fits hd) (Nat.not_le_of_gt hk)
  | deliverOk hd hk =>
    have := h.rwin
    rw [← Nat.sub_add_cancel (Nat.le_of_not_gt hk)] at this
    exact { h with
      rwin := by simpa +arith only [List.sum_append, List.sum_cons, List.sum_nil] using this
      wire := by simp +arith only [h.wire, hd, List.sum_append, List.sum_cons, List.sum_nil]
      granted := (woken_congr RPc.pendingCredit rfl s).symm ▸ h.granted }
  | rStartPop hr hq | rResumePop hr hq => exact h.popped (by rw [hr]; rfl) hq
  | rStartWait hr | rResumeWait hr => exact { h with granted := (hr ▸ h.granted :) }
  | rCredit hr =>
    exact { h with
      granted := by simpa +arith only [hr, pc_credit, pc_idle] using h.granted
      credited := by simp +arith only [← h.credited, List.sum_append, List.sum_cons, List.sum_nil] }
  | uSignal | cancel => exact { h with }

theorem Wake.win_zero (h : Wake s) (hp : s.spc = .parked) (ht : s.token = false) (hu : s.upc = .idle) :
    s.win = 0 := by
  by_cases hw : 0 < s.win
  · rcases h (Or.inl hp) hw with h1 | h1
    · rw [ht] at h1; cases h1
    · rw [hu] at h1; cases h1
  · exact Nat.eq_zero_of_not_pos hw

theorem Wake.step (h : Wake s) (hs : Step cm s a s') : Wake s' := by
  cases hs with
  | sLoadCont | sLoadNext =>
    -- the window just loaded is positive: this is not `loaded 0`
    exact fun hp (hw : 0 < s.win) => hp.elim nofun fun hp => by
      injection hp with e; exact absurd (e ▸ hw) (Nat.lt_irrefl 0)
  | sPark hp => exact fun _ hw => h (Or.inr hp) hw
  | sWake | sFail | sCasOk | sCasFail | sEmit =>
    -- neither parked nor about to park: no wake-up to lose
    exact fun hp _ => hp.elim nofun nofun
  | uAdd hu =>
    intro hp hw
    by_cases h0 : s.win = 0
    · exact Or.inr (by rw [h0])
    · rcases h hp (Nat.pos_of_ne_zero h0) with ht | hu'
      · exact Or.inl ht
      · rw [hu] at hu'; cases hu'
  | uSignal hu =>
    intro hp hw
    rcases h hp hw with ht | hu'
    · exact Or.inl (by simp only [ht, ite_self])
    · rw [hu] at hu'; injection hu' with e
      exact Or.inl (by simp only [e, if_true])
  | _ => exact h

theorem Reader.step (h : Reader s) (hs : Step cm s a s') : Reader s' := by
  cases hs with
  | @deliverOk k _ _ _ =>
    refine ⟨fun hw => ?_, fun _ => List.append_ne_nil_of_right_ne_nil _ (List.cons_ne_nil k [])⟩
    by_cases c : s.queue = [] ∧ s.rpc = .waiting
    · rw [if_pos c] at hw; cases hw
    · rw [if_neg c] at hw; exact absurd ⟨h.waiting hw, hw⟩ c
  | rStartPop | rResumePop =>
    exact ⟨fun hw => absurd hw (popped_rpc_elim (P := (· ≠ .waiting)) (fun _ => nofun) fun _ => nofun),
      fun hw => absurd hw (popped_rpc_elim (P := (· ≠ .woken)) (fun _ => nofun) fun _ => nofun)⟩
  | rStartWait _ hq | rResumeWait _ hq => exact ⟨fun _ => hq, nofun⟩
  | rCredit => exact ⟨nofun, nofun⟩
  | _ => exact { h with }

theorem Chunks.step (h : Chunks cm s)
    (hres : ∀ k, s.spc = .reserved k → k ≤ cm) (hs : Step cm s a s') : Chunks cm s' := by
  cases hs with
  | sEmit hp =>
    refine { h with wire := fun k hk => ?_ }
    rcases List.mem_append.mp hk with hk | hk
    · exact h.wire k hk
    · rw [List.mem_singleton.mp hk]; exact hres _ hp
  | deliverOver hd => exact { h with wire := fun k hk => h.wire k (hd ▸ List.mem_cons_of_mem _ hk) }
  | deliverOk hd =>
    refine ⟨fun k hk => h.wire k (hd ▸ List.mem_cons_of_mem _ hk), fun k hk => ?_⟩
    rcases List.mem_append.mp hk with hk | hk
    · exact h.queue k hk
    · rw [List.mem_singleton.mp hk]; exact h.wire _ (hd ▸ List.mem_cons_self)
  | rStartPop _ hq | rResumePop _ hq =>
    exact { h with queue := fun k hk => h.queue k (hq ▸ List.mem_cons_of_mem _ hk) }
  | _ => exact { h with }

theorem Sender.chunk (h : Sender cm s) {k rem : Nat} (hp : s.spc = .reserved k) (hc : s.cur = some rem) :
    k ≤ rem ∧ k ≤ cm ∧ (k = rem ∨ 0 < k) := by
  obtain ⟨rem', hc', hk⟩ := h.reserved k hp
  rw [hc] at hc'; cases hc'; exact hk

theorem Sender.step (hcm : 0 < cm) (h : Sender cm s) (hs : Step cm s a s') :
    Sender cm s' := by
  cases hs with
  | sLoadCont _ hc => exact ⟨nofun, fun _ => by rw [hc]; rfl, nofun⟩
  | sLoadNext => exact ⟨nofun, fun _ => rfl, nofun⟩
  | sPark hp => exact ⟨nofun, fun _ => h.busy (Or.inl ⟨0, hp⟩), nofun⟩
  | sWake | sCasFail | sEmit =>
    exact ⟨nofun, fun hb => (by rcases hb with ⟨w, hb⟩ | hb <;> cases hb), nofun⟩
  | sFail hp hc => exact ⟨nofun, fun _ => h.busy (Or.inr hp), fun _ => hc⟩
  | @sCasOk w rem k hp hc hw0 hw hk =>
    refine ⟨fun k' e => ?_, fun hb => (by rcases hb with ⟨w, hb⟩ | hb <;> cases hb), nofun⟩
    injection e with e
    rw [← e, hk]
    -- an empty chunk is cut only from an empty message: the loaded window and `cm` are positive
    exact ⟨rem, hc, Nat.le_trans (Nat.min_le_left ..) (Nat.min_le_right ..), Nat.min_le_right ..,
      (Nat.eq_zero_or_pos rem).imp (fun h => by rw [h, Nat.min_zero, Nat.zero_min])
        (fun h => Nat.lt_min.mpr ⟨Nat.lt_min.mpr ⟨Nat.pos_of_ne_zero hw0, h⟩, hcm⟩)⟩
  | cancel => exact { h with failed := fun _ => rfl }
  | _ => exact { h with }

theorem inv_step (hcm : 0 < cm) (h : Inv W cm s)
    (hs : step cm s a = some s') : Inv W cm s' := by
  have hst := step_spec hs
  obtain ⟨hl, hw, hr, hc, hsd⟩ := inv_iff.mp h
  exact inv_iff.mpr ⟨hl.step hst, hw.step hst, hr.step hst,
    hc.step (fun k hk => (hsd.reserved k hk).elim fun _ h => h.2.2.1) hst, hsd.step hcm hst⟩

theorem inv_init (W cm : Nat) (msgs : List Nat) : Inv W cm (init W msgs) := by
  unfold Inv init; simp

theorem isRun (cm : Nat) : Proofs.Run.IsRun (step cm) (run cm) :=
  ⟨fun _ => rfl, fun s a as => by rw [run]; cases step cm s a <;> rfl⟩

theorem inv_run (hcm : 0 < cm) (as : List Act) (h : Inv W cm s)
    (hr : run cm s as = some s') : Inv W cm s' :=
  (isRun cm).preserves (fun h hs => inv_step hcm h hs) h hr

/-- bytes are neither lost nor invented on the sending side -/
theorem Step.sent_remaining (hs : Step cm s a s') (hsd : Sender cm s) :
    s'.sent + s'.remaining = s.sent + s.remaining := by
  cases hs with
  | sLoadNext _ hc ht =>
    simp +arith only [St.remaining, hc, ht, Option.getD_some, Option.getD_none, List.sum_cons]
  | @sEmit k rem hp hc =>
    have hk := (hsd.chunk hp hc).1
    have : k + (if k = rem then none else some (rem - k)).getD 0 = rem := by
      split
      · assumption
      · exact Nat.add_sub_of_le hk
    show s.sent + k + ((if k = rem then none else some (rem - k)).getD 0 + s.todo.sum) = _ + (s.cur.getD 0 + _)
    generalize (if k = rem then none else some (rem - k)).getD 0 = x at this ⊢
    rw [hc, Option.getD_some, ← this]
    simp +arith only
  | _ => rfl

/-- bytes and messages the sender has not yet handed over, a message in progress counted once more -/
def work (cur : Option Nat) (todo : List Nat) : Nat := cur.getD 0 + todo.sum + todo.length + cur.isSome.toNat

theorem work_none (t : List Nat) : work none t = t.sum + t.length := by
  simp only [work, Option.getD_none, Option.isSome_none, Bool.toNat_false, Nat.zero_add, Nat.add_zero]

theorem work_some (r : Nat) (t : List Nat) : work (some r) t = r + t.sum + t.length + 1 := rfl

theorem work_next (m : Nat) (rest : List Nat) : work (some m) rest = work none (m :: rest) := by
  simp +arith only [work_none, work_some, List.sum_cons, List.length_cons]

/-- handing a chunk to `sendFunc` is progress: a chunk is empty only if it is a whole (empty) message -/
theorem work_emit {k rem : Nat} (t : List Nat) (hk : k ≤ rem) (h0 : k = rem ∨ 0 < k) :
    work (if k = rem then none else some (rem - k)) t + 1 ≤ work (some rem) t := by
  split
  · rw [work_none, work_some]; omega
  · rw [work_some, work_some]; omega

/-- The sender's own steps go down the chain stale load (`w ≠ win`: its CAS will fail) 4 > idle 3 >
    fresh load 2 > parked = reserved 1 > failed 0.  Stale is relative to the CURRENT window, hence the
    parameter: an `uAdd` can raise this by 2. -/
def spcVal (win : Nat) : SPc → Nat
  | .idle => 3
  | .loaded w => if w = win then 2 else 4
  | .parked => 1
  | .reserved _ => 1
  | .failed => 0

def upcVal : UPc → Nat
  | .idle => 0
  | .added _ => 4

def rpcVal : RPc → Nat
  | .idle => 1
  | .waiting => 0
  | .woken => 0
  | .credit _ => 9

@[simp] theorem spcVal_idle (w) : spcVal w .idle = 3 := rfl
@[simp] theorem spcVal_parked (w) : spcVal w .parked = 1 := rfl
@[simp] theorem spcVal_reserved (w k) : spcVal w (.reserved k) = 1 := rfl
@[simp] theorem spcVal_failed (w) : spcVal w .failed = 0 := rfl
@[simp] theorem spcVal_loaded (w v) : spcVal w (.loaded v) = if v = w then 2 else 4 := rfl
@[simp] theorem upcVal_idle : upcVal .idle = 0 := rfl
@[simp] theorem upcVal_added (p) : upcVal (.added p) = 4 := rfl
@[simp] theorem rpcVal_idle : rpcVal .idle = 1 := rfl
@[simp] theorem rpcVal_waiting : rpcVal .waiting = 0 := rfl
@[simp] theorem rpcVal_woken : rpcVal .woken = 0 := rfl
@[simp] theorem rpcVal_credit (k) : rpcVal (.credit k) = 9 := rfl

/-- the sending endpoint's share of the termination measure -/
def senderCost (s : St) : Nat :=
  14 * work s.cur s.todo + 3 * s.token.toNat + upcVal s.upc + (!s.cancelled).toNat + spcVal s.win s.spc

/-- the share of what is in flight, queued or owed -/
def pipeCost (s : St) : Nat :=
  11 * s.dataWire.length + 10 * s.queue.length + rpcVal s.rpc + 7 * s.creditWire.length

/-- Every action strictly decreases this.  A unit of work moves sender → data wire → queue → credit
    owed → credit wire → window → token, and loses weight at each hop: `sEmit` needs 14 > 11 + 2 (a frame
    more on the wire, `reserved` 1 → `idle` 3); `deliver` 11 > 10; a pop 10 > 9 (the reader may come from
    `woken` = 0); `rCredit` 9 > 7 + 1; `uAdd` 7 > 4 + 2 (it can make a fresh load stale); `uSignal` 4 > 3
    (it may set the token); `sWake` 3 + 1 > 3; `rStart` on an empty queue 1 > 0. -/
def measure (s : St) : Nat := pipeCost s + senderCost s

theorem spcVal_le (w w' : Nat) (p : SPc) : spcVal w' p ≤ spcVal w p + 2 := by
  cases p with
  | loaded v => simp only [spcVal_loaded]; split <;> split <;> decide
  | _ => exact Nat.le_add_right _ 2

theorem measure_spc_lt {p : SPc} {w : Nat} (h : spcVal w p < spcVal s.win s.spc) :
    measure { s with win := w, spc := p } < measure s :=
  Nat.add_lt_add_left (Nat.add_lt_add_left h _) _

/-- taking a chunk off the queue: the queue loses 10, the reader's weight goes up by at most 9 -/
theorem pipeCost_popped {k : Nat} {q : List Nat} (hq : s.queue = k :: q) (hr : rpcVal s.rpc ≤ 1) :
    pipeCost (popped s k q) < pipeCost s := by
  have : rpcVal (popped s k q).rpc ≤ 9 :=
    popped_rpc_elim (P := (rpcVal · ≤ 9)) (fun _ => Nat.le_add_left 1 8) fun _ => Nat.le_refl 9
  simp only [pipeCost, hq, List.length_cons] at this ⊢
  omega

theorem Step.measure_lt (hs : Step cm s a s') (hsd : Sender cm s) (hr : Reader s) :
    measure s' < measure s := by
  cases hs with
  | sLoadCont hp => exact measure_spc_lt (by rw [hp, spcVal_loaded, if_pos rfl]; exact Nat.lt_succ_self 2)
  | sPark hp => exact measure_spc_lt (by rw [hp, spcVal_loaded]; split; exact Nat.lt_succ_self 1; exact (by decide : 1 < 4))
  | sFail hp => exact measure_spc_lt (by rw [hp]; exact Nat.lt_succ_self 0)
  | sCasOk hp _ _ hw => exact measure_spc_lt (by rw [hp, hw, spcVal_loaded, if_pos rfl]; exact Nat.lt_succ_self 1)
  | sCasFail hp _ _ hw => exact measure_spc_lt (by rw [hp, spcVal_loaded, if_neg (Ne.symm hw)]; exact Nat.lt_succ_self 3)
  | @sEmit k rem hp hc =>
    have hk := hsd.chunk hp hc
    have := work_emit s.todo hk.1 hk.2.2
    simp only [measure, senderCost, pipeCost, hp, hc, spcVal_idle, spcVal_reserved, List.length_append,
      List.length_cons, List.length_nil]
    omega
  | @uAdd n _ hu hc =>
    have := spcVal_le s.win (s.win + n) s.spc
    simp only [measure, senderCost, pipeCost, hu, hc, upcVal_idle, upcVal_added, List.length_cons]
    omega
  | @uSignal prev hu =>
    refine Nat.add_lt_add_left ?_ _
    have := Bool.toNat_le (if prev = 0 then true else s.token)
    simp only [senderCost, hu, upcVal_idle, upcVal_added]
    omega
  | deliverOk hd =>
    simp +arith only [measure, senderCost, pipeCost, hd, woken_congr rpcVal rfl, List.length_cons, List.length_append,
      List.length_nil]
  | rStartPop hi hq => exact Nat.add_lt_add_right (pipeCost_popped hq (by rw [hi]; exact Nat.le_refl 1)) _
  | rResumePop hw hq => exact Nat.add_lt_add_right (pipeCost_popped hq (by rw [hw]; exact Nat.zero_le 1)) _
  | rResumeWait hw hq => exact absurd hq (hr.woken hw)
  | sLoadNext hp hc ht | sWake hp ht | deliverOver hd | rStartWait hr | rCredit hr | cancel hc =>
    -- one or two summands change by constants
    simp +arith only [measure, senderCost, pipeCost, *, work_next, spcVal_idle, spcVal_loaded, spcVal_parked, if_true,
      rpcVal_idle, rpcVal_waiting, rpcVal_credit, Bool.not_false, Bool.not_true, Bool.toNat_true, Bool.toNat_false,
      List.length_append, List.length_cons, List.length_nil]

theorem measure_init (W : Nat) (msgs : List Nat) : measure (init W msgs) = 14 * (msgs.sum + msgs.length) + 5 := by
  show 11 * 0 + 10 * 0 + 1 + 7 * 0 + (14 * work none msgs + 3 * 0 + 0 + 1 + 3) = _
  rw [work_none]; omega

theorem run_length_le (hcm : 0 < cm) (as : List Act) (h : Inv W cm s)
    (hr : run cm s as = some s') : as.length + measure s' ≤ measure s :=
  (isRun cm).length_le (fun h hs => inv_step hcm h hs) (fun h hs => (step_spec hs).measure_lt h.sender (inv_iff.mp h).2.2.1) h hr

theorem Step.enabled (h : Step cm s a s') : enabled cm s a = true := by
  rw [Proofs.FlowStep.enabled, h.step_eq]; rfl

theorem final_iff : s.final = true ↔ s.cur = none ∧ s.todo = [] ∧ s.spc = .idle ∧ s.dataWire = [] ∧
    s.queue = [] ∧ s.creditWire = [] ∧ s.upc = .idle ∧ (s.rpc = .idle ∨ s.rpc = .waiting) := by
  simp only [St.final, Bool.and_eq_true, Bool.or_eq_true, Option.isNone_iff_eq_none, List.isEmpty_iff, beq_iff_eq,
    and_assoc]

/-- When nothing but `rStart` and `cancel` can move, each other action has a false guard (no
    invariant is needed for that): the pipeline is drained, up to what waits for the reader. -/
theorem quiescent_spec (hq : ∀ a, a ≠ Act.rStart → a ≠ Act.cancel → enabled cm s a = false) :
    s.dataWire = [] ∧ s.creditWire = [] ∧ s.upc = .idle ∧ s.rpc.pendingCredit = 0 ∧
    (s.spc = .parked → s.token = false) ∧ ∀ k, s.spc = .reserved k → s.cur = none := by
  have no {a : Act} {s' : St} {p : Prop} (hs : Step cm s a s') (h1 : a ≠ .rStart) (h2 : a ≠ .cancel) : p := by
    have := hs.enabled; rw [hq a h1 h2] at this; cases this
  have hu : s.upc = .idle := by
    cases hu : s.upc with
    | idle => rfl
    | added p => exact no (.uSignal hu) nofun nofun
  refine ⟨?_, ?_, hu, ?_, fun hp => ?_, fun k hp => ?_⟩
  · cases hd : s.dataWire with
    | nil => rfl
    | cons k r =>
      -- `accept` is always enabled: the receive loop never waits
      by_cases hk : k > s.rwin
      · exact no (.deliverOver hd hk) nofun nofun
      · exact no (.deliverOk hd hk) nofun nofun
  · cases hc : s.creditWire with
    | nil => rfl
    | cons n r => exact no (.uAdd hu hc) nofun nofun
  · cases hr : s.rpc with
    | credit k => exact no (.rCredit hr) nofun nofun
    | _ => rfl
  · cases ht : s.token with
    | false => rfl
    | true => exact no (.sWake hp ht) nofun nofun
  · cases hc : s.cur with
    | none => rfl
    | some rem => exact no (.sEmit hp hc) nofun nofun

theorem no_stuck (hW : 0 < W) (h : Inv W cm s)
    (hc : s.cancelled = false) (hf : s.final = false) :
    ∃ a, a ≠ Act.cancel ∧ enabled cm s a = true := by
  apply Classical.byContradiction
  intro hno
  have no {a : Act} {s' : St} {p : Prop} (hs : Step cm s a s') (ha : a ≠ .cancel) : p :=
    absurd ⟨a, ha, hs.enabled⟩ hno
  obtain ⟨hl, hwake, hr, _, hsd⟩ := inv_iff.mp h
  obtain ⟨hd, hcw, hu, hpc, htok, hcur⟩ := quiescent_spec (cm := cm) (s := s) fun a _ ha => by
    cases he : enabled cm s a with
    | false => rfl
    | true => exact absurd ⟨a, ha, he⟩ hno
  -- the reader is neither about to look at the queue nor owes a credit: it waits, on an empty queue
  have hrp : s.rpc = .waiting := by
    cases hrp : s.rpc with
    | waiting => rfl
    | credit k => exact no (.rCredit hrp) nofun
    | idle =>
      cases hq : s.queue with
      | nil => exact no (.rStartWait hrp hq) nofun
      | cons k q => exact no (.rStartPop hrp hq) nofun
    | woken =>
      cases hq : s.queue with
      | nil => exact no (.rResumeWait hrp hq) nofun
      | cons k q => exact no (.rResumePop hrp hq) nofun
  have hq := hr.waiting hrp
  cases hs : s.spc with
  | idle =>
    cases hcu : s.cur with
    | some r => exact no (.sLoadCont hs hcu) nofun
    | none =>
      cases htd : s.todo with
      | cons m rest => exact no (.sLoadNext hs hcu htd) nofun
      | nil => rw [final_iff.mpr ⟨hcu, htd, hs, hd, hq, hcw, hu, Or.inr hrp⟩] at hf; cases hf
  | loaded w =>
    cases hcu : s.cur with
    | none => have := hsd.busy (Or.inl ⟨w, hs⟩); rw [hcu] at this; cases this
    | some r =>
      by_cases hw : w = 0
      · exact no (.sPark (hw ▸ hs)) nofun
      · by_cases hwin : s.win = w
        · exact no (.sCasOk hs hcu hw hwin rfl) nofun
        · exact no (.sCasFail hs hcu hw hwin) nofun
  | parked =>
    -- no token and no signal pending: by `Wake` the window is exhausted, yet by conservation the
    -- `W > 0` bytes of credit are nowhere else
    have hcons := hl.conservation
    rw [hs, hwake.win_zero hs (htok hs) hu, hd, hq, hpc, hcw] at hcons
    exact absurd hcons (Nat.ne_of_lt hW)
  | reserved k =>
    obtain ⟨rem, hrem, _⟩ := hsd.reserved k hs
    rw [hcur k hs] at hrem; cases hrem
  | failed => rw [hsd.failed hs] at hc; cases hc

theorem cancelled_step (hs : step cm s a = some s') (ha : a ≠ .cancel) :
    s'.cancelled = s.cancelled := by
  cases step_spec hs with
  | cancel => exact absurd rfl ha
  | _ => rfl

end Proofs.FlowStep
