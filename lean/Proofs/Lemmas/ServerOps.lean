import TunnelModel.LFrame.Trace
/-!
  The server model (`TunnelModel.LFrame.Server`) seen through lemmas, so that the proofs about the server
  endpoint need not unfold its functions again: equations for the straight-line stream operations, case
  rules (`_elim`) for the branching ones, and `Step`.

  `Step pumps cfg sid s s' o` is the least relation that contains the elementary state changes of a stream
  object (with what each emits and, for most, the guard under which the model performs it) and is closed
  under doing nothing and under sequencing.  Every compound operation, every event (`stepEv`) and every run
  (`runEv`) is a `Step`, so a relation between the state before, the state after and the output holds of all
  of them once it holds of the elementary changes: `induction` on `Step`.  At the endpoint, `step_mem` says
  where the stream objects after `Srv.step` come from; `allS_step` / `allS_run` lift a property kept by
  `stepEv` and true of every `Fresh` object.
-/
namespace Proofs.ServerOps
open TunnelModel TunnelModel.LFrame TunnelModel.Framing

variable {α : Type}

theorem Out.add_empty (o : Out α) : o.add {} = o := by
  simp only [Out.add, List.append_nil]

theorem Out.empty_add (o : Out α) : ({} : Out α).add o = o := rfl

theorem Out.add_assoc (a b c : Out α) : (a.add b).add c = a.add (b.add c) := by
  simp only [Out.add, List.append_assoc]

theorem Out.frames_add_dones (fs : List (Sid × S2C α)) (ds : List (Sid × String × Res α)) :
    ({ frames := fs } : Out α).add { dones := ds } = { frames := fs, dones := ds } := by
  simp only [Out.add, List.append_nil, List.nil_append]

theorem halfClose_eq (s : SStream α) (e : SErr) :
    s.halfClose e = { s with halfClosed := some (s.halfClosed.getD e),
                             rcv := { s.rcv with closed := s.halfClosed.isNone || s.rcv.closed } } := by
  unfold SStream.halfClose
  cases h : s.halfClosed with
  | none => rfl
  | some x =>
    cases s
    cases h
    rfl

theorem halfClose_of_none {s : SStream α} (e : SErr) (h : s.halfClosed = none) :
    s.halfClose e = { s with halfClosed := some e, rcv := s.rcv.close } := by
  unfold SStream.halfClose
  rw [h]; rfl

theorem halfClose_of_some {s : SStream α} (e : SErr) (h : s.halfClosed.isSome = true) : s.halfClose e = s := by
  unfold SStream.halfClose
  rw [if_pos h]

/-- the header and trailer fields are cleared by the call that emits them, i.e. the first one -/
theorem finishCore_fst (sid : Sid) (s : SStream α) (err : Option SErr) :
    (s.finishCore sid err).1 =
      { s with inTable := false, closed := true,
               halfClosed := some (s.halfClosed.getD (err.getD .eof)),
               rcv := { s.rcv with closed := s.halfClosed.isNone || s.rcv.closed },
               sentHeaders := !s.closed || s.sentHeaders,
               headers := if s.closed then s.headers else [],
               trailers := if s.closed then s.trailers else [] } := by
  unfold SStream.finishCore
  dsimp only
  rw [halfClose_eq]
  cases hc : s.closed with
  | false => rfl
  | true =>
    cases s
    cases hc
    rfl

theorem finishCore_snd (sid : Sid) (s : SStream α) (err : Option SErr) :
    (s.finishCore sid err).2 =
      if s.closed then {}
      else { frames := (if s.sentHeaders then [] else [(sid, .headers s.headers)]) ++
                       [(sid, .close (SErr.wireStatus err) s.trailers)] } := by
  unfold SStream.finishCore
  dsimp only
  rw [halfClose_eq]
  cases s.closed <;> rfl

/-- second stage of `cancelCtx`: a send blocked on the window returns; if it is the unary reply, the handler
    returns the context error -/
def ccSend (sid : Sid) (s1 : SStream α) (e : CtxErr) : SStream α × Out α :=
  match s1.psend with
  | some _ =>
    let s2 := { s1 with psend := none }
    if s1.finishAfterSend then
      ({ s2 with finishAfterSend := false, hstatus := .returned } : SStream α).finishCore sid (some (.ctx e))
    else (s2, { dones := [(sid, "send", .ctx e)] })
  | none => (s1, {})

/-- third stage of `cancelCtx`: a blocked read returns; if it is the decode callback of a unary method, the
    handler returns the context error -/
def ccRead (sid : Sid) (s2 : SStream α) (e : CtxErr) : SStream α × Out α :=
  match s2.pread with
  | some _ =>
    let s3 := { s2 with pread := none, readErr := some (.ctx e) }
    if s2.hstatus == .decoding then
      let (s4, o4) := ({ s3 with hstatus := .returned } : SStream α).finishCore sid (some (.ctx e))
      (s4, ({ dones := [(sid, "decode", .ctx e)] } : Out α).add o4)
    else (s3, { dones := [(sid, "recv", .ctx e)] })
  | none => (s2, {})

theorem ccSend_elim {motive : SStream α × Out α → Prop} (sid : Sid) (s : SStream α) (e : CtxErr)
    (idle : s.psend = none → motive (s, {}))
    (reply : ∀ snd, s.psend = some snd → s.finishAfterSend = true →
      motive (({ s with psend := none, finishAfterSend := false, hstatus := .returned } : SStream α).finishCore sid
        (some (.ctx e))))
    (send : ∀ snd, s.psend = some snd → s.finishAfterSend = false →
      motive ({ s with psend := none }, { dones := [(sid, "send", .ctx e)] })) :
    motive (ccSend sid s e) := by
  unfold ccSend
  split
  · rename_i snd h
    by_cases hf : s.finishAfterSend = true
    · rw [if_pos hf]; exact reply snd h hf
    · rw [if_neg hf]; exact send snd h (Bool.not_eq_true _ ▸ hf)
  · rename_i h; exact idle h

theorem ccRead_elim {motive : SStream α × Out α → Prop} (sid : Sid) (s : SStream α) (e : CtxErr)
    (idle : s.pread = none → motive (s, {}))
    (decode : ∀ p, s.pread = some p → s.hstatus = .decoding →
      motive ((({ s with pread := none, readErr := some (.ctx e), hstatus := .returned } : SStream α).finishCore sid
          (some (.ctx e))).1,
        ({ dones := [(sid, "decode", .ctx e)] } : Out α).add
          (({ s with pread := none, readErr := some (.ctx e), hstatus := .returned } : SStream α).finishCore sid
            (some (.ctx e))).2))
    (recv : ∀ p, s.pread = some p → s.hstatus ≠ .decoding →
      motive ({ s with pread := none, readErr := some (.ctx e) }, { dones := [(sid, "recv", .ctx e)] })) :
    motive (ccRead sid s e) := by
  unfold ccRead
  split
  · rename_i p h
    by_cases hd : s.hstatus = .decoding
    · rw [if_pos (beq_iff_eq.mpr hd)]; exact decode p h hd
    · rw [if_neg (by rw [beq_iff_eq]; exact hd)]; exact recv p h hd
  · rename_i h; exact idle h

/-- first stage of `cancelCtx`: the context is marked as ended and the watcher cancels the receiver -/
def ctxMark (s : SStream α) (e : CtxErr) : SStream α :=
  { s with ctxDone := some e, rcv := if s.fc then s.rcv.cancel else s.rcv.close }

def ctxEvent (sid : Sid) (e : CtxErr) : Out α :=
  { events := [s!"ctxdone {sid} {if e == .canceled then "canceled" else "deadline"}"] }

theorem cancelCtx_of_done {s : SStream α} (sid : Sid) (e : CtxErr) (h : s.ctxDone.isSome = true) :
    s.cancelCtx sid e = (s, {}) := by
  unfold SStream.cancelCtx
  rw [if_pos h]

theorem cancelCtx_of_open {s : SStream α} (sid : Sid) (e : CtxErr) (h : s.ctxDone = none) :
    s.cancelCtx sid e =
      ((ccRead sid (ccSend sid (ctxMark s e) e).1 e).1,
       ((ctxEvent sid e).add (ccSend sid (ctxMark s e) e).2).add (ccRead sid (ccSend sid (ctxMark s e) e).1 e).2) := by
  unfold SStream.cancelCtx
  rw [if_neg (by rw [h]; exact Bool.false_ne_true)]
  rfl

theorem cancelCtx_elim {motive : SStream α × Out α → Prop} (sid : Sid) (s : SStream α) (e : CtxErr)
    (done : s.ctxDone.isSome = true → motive (s, {}))
    (fire : s.ctxDone = none → motive
      ((ccRead sid (ccSend sid (ctxMark s e) e).1 e).1,
       ((ctxEvent sid e).add (ccSend sid (ctxMark s e) e).2).add (ccRead sid (ccSend sid (ctxMark s e) e).1 e).2)) :
    motive (s.cancelCtx sid e) := by
  cases h : s.ctxDone with
  | some c =>
    have hd : s.ctxDone.isSome = true := by rw [h]; rfl
    rw [cancelCtx_of_done sid e hd]; exact done hd
  | none => rw [cancelCtx_of_open sid e h]; exact fire h

theorem cancelCtx_fst (sid : Sid) (s : SStream α) (e : CtxErr) :
    (s.cancelCtx sid e).1 =
      if s.ctxDone.isSome then s
      else (ccRead sid (ccSend sid
        ({ s with ctxDone := some e, rcv := if s.fc then s.rcv.cancel else s.rcv.close } : SStream α) e).1 e).1 := by
  unfold SStream.cancelCtx
  split
  · rfl
  · rfl

theorem cancelCtx_snd (sid : Sid) (s : SStream α) (e : CtxErr) :
    (s.cancelCtx sid e).2 =
      if s.ctxDone.isSome then {}
      else ((ctxEvent sid e).add (ccSend sid (ctxMark s e) e).2).add
        (ccRead sid (ccSend sid (ctxMark s e) e).1 e).2 := by
  unfold SStream.cancelCtx
  split
  · rfl
  · rfl

/-- the error `finishStream` puts on the wire when it is called from the receive loop (`byLoop`) while the
    handler is blocked in the decode callback or in the unary reply: the two race, see `SStream.finish` -/
def finishErr (s : SStream α) (err : Option SErr) (byLoop : Bool) : Option SErr :=
  match byLoop && s.ctxDone.isNone &&
      ((s.hstatus == .decoding && s.pread.isSome) || (s.finishAfterSend && s.psend.isSome)), err with
  | true, some (.status st) => if st.code == codeUnknown then err else some (.status { st with alt := [codeUnknown] })
  | _, _ => err

theorem finishErr_handler (s : SStream α) (err : Option SErr) : finishErr s err false = err := rfl

/-- the end of the stream context runs second, but its output comes first -/
theorem finish_eq (sid : Sid) (s : SStream α) (err : Option SErr) (byLoop : Bool) :
    s.finish sid err byLoop =
      (((s.finishCore sid (finishErr s err byLoop)).1.cancelCtx sid .canceled).1,
       ((s.finishCore sid (finishErr s err byLoop)).1.cancelCtx sid .canceled).2.add
         (s.finishCore sid (finishErr s err byLoop)).2) := rfl

/-- the error the unary reply path hands to `finishStream`: the outcome of the reply's send -/
def sendErr (o : Out α) : Option SErr :=
  match o.dones.find? (fun d => d.2.1 == "send") with
  | some (_, _, .ctx e) => some (.ctx e)
  | some (_, _, .status c) => some (.status (mkStatus c ""))
  | _ => none

/-- the output of a unary reply without the completion of its own send -/
def dropSend (o : Out α) : Out α := { o with dones := o.dones.filter (fun d => d.2.1 != "send") }

theorem afterSend_eq (sid : Sid) (s : SStream α) (o : Out α) :
    s.afterSend sid o =
      if s.finishAfterSend && s.psend.isNone then
        ((({ s with finishAfterSend := false, hstatus := .returned } : SStream α).finish sid (sendErr o)).1,
         (dropSend o).add
           (({ s with finishAfterSend := false, hstatus := .returned } : SStream α).finish sid (sendErr o)).2)
      else (s, o) := rfl

/-- the error with which the handler of a unary method returns when the decode callback failed with `r` -/
def decodeErr (s : SStream α) : Res α → SErr
  | .eof => .eof
  | .ctx e => .ctx e
  | .status c => s.readErr.getD (.status (mkStatus c ""))
  | _ => s.readErr.getD (.plain "?")

theorem afterDecode_eq (sid : Sid) (s : SStream α) (o : Out α) :
    s.afterDecode sid o =
      if s.hstatus == .decoding && s.pread.isNone then
        match o.dones.find? (fun d => d.2.1 == "decode") with
        | some (_, _, .msg _) => ({ s with hstatus := .running }, o)
        | some (_, _, r) =>
          ((({ s with hstatus := .returned } : SStream α).finish sid (some (decodeErr s r))).1,
           o.add (({ s with hstatus := .returned } : SStream α).finish sid (some (decodeErr s r))).2)
        | none => (s, o)
      else (s, o) := by
  unfold SStream.afterDecode
  rfl

theorem afterDecode_idle {s : SStream α} (sid : Sid) (o : Out α)
    (h : (s.hstatus == .decoding && s.pread.isNone) = false) : s.afterDecode sid o = (s, o) := by
  unfold SStream.afterDecode
  rw [if_neg (by rw [h]; exact Bool.false_ne_true)]

/-- the name under which a read completes: the decode callback of a unary method, or `RecvMsg` -/
def opName (s : SStream α) : String := if s.hstatus == .decoding then "decode" else "recv"

/-- the error of a read whose `dequeue` returned `!ok`: the context error first, then the recorded
    half-close error -/
def deqErr (s : SStream α) : SErr :=
  match s.ctxDone, s.halfClosed with
  | some c, _ => .ctx c
  | none, some h => h
  | none, none => .ctx .canceled

/-- a pending read completes with the error `e`; errors with `okFlag = false` also finish the stream -/
def failWith (sid : Sid) (cf : List (Sid × S2C α)) (s : SStream α) (e : SErr) (okFlag : Bool) :
    SStream α × Out α :=
  if okFlag then
    ({ s with pread := none, readErr := some e }, { frames := cf, dones := [(sid, opName s, e.toRes)] })
  else
    ((({ s with pread := none, readErr := some e } : SStream α).finish sid (some e)).1,
     ({ frames := cf, dones := [(sid, opName s, e.toRes)] } : Out α).add
       (({ s with pread := none, readErr := some e } : SStream α).finish sid (some e)).2)

def drained (s : SStream α) (rwin : Nat) (q : List (DFrame α)) : SStream α :=
  { s with rcv := { s.rcv with rwin := if s.fc then rwin else s.rcv.rwin, queue := q } }

/-- one pass of `readMsgLocked` for the pending read `p`; `next` is the eager second pass -/
def readPass (sid : Sid) (mn : String) (next : SStream α → SStream α × Out α) (s : SStream α) (p : PRead α) :
    SStream α × Out α :=
  let (rwin, q, credits, out) := readLoop s.rcv.rwin s.rcv.queue p.rst
  let cf := s.creditFrames sid credits
  let s1 : SStream α := { s with rcv := { s.rcv with rwin := if s.fc then rwin else s.rcv.rwin, queue := q } }
  match out with
  | some (.cont st') =>
    if s1.rcv.closed || s1.rcv.cancelled then
      match p.lookahead, deqErr s1 with
      | some m, .eof =>
        ({ s1 with pread := none, readErr := some .eof }, { frames := cf, dones := [(sid, opName s, .msg m)] })
      | _, _ => failWith sid cf s1 (deqErr s1) true
    else ({ s1 with pread := some { p with rst := st' } }, { frames := cf })
  | some (.msg m) =>
    match p.lookahead with
    | some _ =>
      failWith sid cf s1
        (.status (mkStatus codeInvalidArgument "Already received request for non-client-stream method")) false
    | none =>
      if s1.cs then ({ s1 with pread := none }, { frames := cf, dones := [(sid, opName s, .msg m)] })
      else
        let (s3, o3) := next { s1 with pread := some { lookahead := some m, rst := none } }
        (s3, ({ frames := cf } : Out α).add o3)
  | some (.err e) => failWith sid cf s1 (perrStatus mn e) false
  | none => (s1, { frames := cf })

section Pass
variable {sid : Sid} {mn : String} {next : SStream α → SStream α × Out α} {s : SStream α} {p : PRead α} {w : Nat}
  {q : List (DFrame α)} {cr : List Nat}

theorem readPass_on_cont {st' : RState α} (hr : readLoop s.rcv.rwin s.rcv.queue p.rst = (w, q, cr, some (.cont st'))) :
    readPass sid mn next s p =
      if s.rcv.closed || s.rcv.cancelled then
        match p.lookahead, deqErr s with
        | some m, .eof =>
          ({ drained s w q with pread := none, readErr := some .eof },
           { frames := s.creditFrames sid cr, dones := [(sid, opName s, .msg m)] })
        | _, _ => failWith sid (s.creditFrames sid cr) (drained s w q) (deqErr s) true
      else ({ drained s w q with pread := some { p with rst := st' } }, { frames := s.creditFrames sid cr }) := by
  unfold readPass
  rw [hr]
  rfl

theorem readPass_on_msg {m : List α} (hr : readLoop s.rcv.rwin s.rcv.queue p.rst = (w, q, cr, some (.msg m))) :
    readPass sid mn next s p =
      match p.lookahead with
      | some _ =>
        failWith sid (s.creditFrames sid cr) (drained s w q)
          (.status (mkStatus codeInvalidArgument "Already received request for non-client-stream method")) false
      | none =>
        if s.cs then
          ({ drained s w q with pread := none }, { frames := s.creditFrames sid cr, dones := [(sid, opName s, .msg m)] })
        else
          ((next { drained s w q with pread := some { lookahead := some m, rst := none } }).1,
           ({ frames := s.creditFrames sid cr } : Out α).add
             (next { drained s w q with pread := some { lookahead := some m, rst := none } }).2) := by
  unfold readPass
  rw [hr]
  rfl

theorem readPass_blocked {st' : RState α} (hr : readLoop s.rcv.rwin s.rcv.queue p.rst = (w, q, cr, some (.cont st')))
    (hc : (s.rcv.closed || s.rcv.cancelled) = false) :
    readPass sid mn next s p =
      ({ drained s w q with pread := some { p with rst := st' } }, { frames := s.creditFrames sid cr }) := by
  rw [readPass_on_cont hr, hc]; rfl

theorem readPass_ended_msg {st' : RState α} {m : List α}
    (hr : readLoop s.rcv.rwin s.rcv.queue p.rst = (w, q, cr, some (.cont st')))
    (hc : (s.rcv.closed || s.rcv.cancelled) = true) (hl : p.lookahead = some m) (hd : deqErr s = .eof) :
    readPass sid mn next s p =
      ({ drained s w q with pread := none, readErr := some .eof },
       { frames := s.creditFrames sid cr, dones := [(sid, opName s, .msg m)] }) := by
  rw [readPass_on_cont hr, hc, hl, hd]; rfl

theorem readPass_ended {st' : RState α}
    (hr : readLoop s.rcv.rwin s.rcv.queue p.rst = (w, q, cr, some (.cont st')))
    (hc : (s.rcv.closed || s.rcv.cancelled) = true) (hl : p.lookahead = none ∨ deqErr s ≠ .eof) :
    readPass sid mn next s p = failWith sid (s.creditFrames sid cr) (drained s w q) (deqErr s) true := by
  rw [readPass_on_cont hr, if_pos hc]
  split
  · rename_i m h1 h2
    rcases hl with hl | hl
    · rw [hl] at h1; cases h1
    · exact absurd h2 hl
  · rfl

theorem readPass_second {m m2 : List α} (hr : readLoop s.rcv.rwin s.rcv.queue p.rst = (w, q, cr, some (.msg m2)))
    (hl : p.lookahead = some m) :
    readPass sid mn next s p = failWith sid (s.creditFrames sid cr) (drained s w q)
      (.status (mkStatus codeInvalidArgument "Already received request for non-client-stream method")) false := by
  rw [readPass_on_msg hr, hl]

theorem readPass_msg {m : List α} (hr : readLoop s.rcv.rwin s.rcv.queue p.rst = (w, q, cr, some (.msg m)))
    (hl : p.lookahead = none) (hcs : s.cs = true) :
    readPass sid mn next s p =
      ({ drained s w q with pread := none }, { frames := s.creditFrames sid cr, dones := [(sid, opName s, .msg m)] }) := by
  rw [readPass_on_msg hr, hl, hcs]; rfl

theorem readPass_look {m : List α} (hr : readLoop s.rcv.rwin s.rcv.queue p.rst = (w, q, cr, some (.msg m)))
    (hl : p.lookahead = none) (hcs : s.cs = false) :
    readPass sid mn next s p =
      ((next { drained s w q with pread := some { lookahead := some m, rst := none } }).1,
       ({ frames := s.creditFrames sid cr } : Out α).add
         (next { drained s w q with pread := some { lookahead := some m, rst := none } }).2) := by
  rw [readPass_on_msg hr, hl, hcs]; rfl

theorem readPass_perr {e : PErr} (hr : readLoop s.rcv.rwin s.rcv.queue p.rst = (w, q, cr, some (.err e))) :
    readPass sid mn next s p = failWith sid (s.creditFrames sid cr) (drained s w q) (perrStatus mn e) false := by
  unfold readPass
  rw [hr]
  rfl

/-- `readLoop` always yields an outcome (`Proofs.ReadLoop.readLoop_spec`); the model is total anyway -/
theorem readPass_stuck (hr : readLoop s.rcv.rwin s.rcv.queue p.rst = (w, q, cr, none)) :
    readPass sid mn next s p = (drained s w q, { frames := s.creditFrames sid cr }) := by
  unfold readPass
  rw [hr]
  rfl

end Pass

theorem resumeRead_zero (sid : Sid) (mn : String) (s : SStream α) : SStream.resumeRead sid mn 0 s = (s, {}) := rfl

theorem resumeRead_none {s : SStream α} (sid : Sid) (mn : String) (fuel : Nat) (h : s.pread = none) :
    SStream.resumeRead sid mn fuel s = (s, {}) := by
  cases fuel with
  | zero => rfl
  | succ n => rw [SStream.resumeRead, h]

theorem resumeRead_succ {s : SStream α} {p : PRead α} (sid : Sid) (mn : String) (fuel : Nat)
    (h : s.pread = some p) :
    SStream.resumeRead sid mn (fuel + 1) s = readPass sid mn (SStream.resumeRead sid mn fuel) s p := by
  rw [SStream.resumeRead]
  split
  · rename_i h'; rw [h] at h'; cases h'
  · rename_i p' h'
    rw [h] at h'; cases h'
    rfl

theorem readAndSettle_eq (sid : Sid) (s : SStream α) :
    s.readAndSettle sid = (s.resumeRead sid "" 3).1.afterDecode sid (s.resumeRead sid "" 3).2 := rfl

theorem startRecv_eq (sid : Sid) (s : SStream α) :
    s.startRecv sid =
      match s.readErr with
      | some e => s.afterDecode sid { dones := [(sid, opName s, e.toRes)] }
      | none =>
        match s.ctxDone with
        | some c =>
          ({ s with readErr := some (.ctx c) } : SStream α).afterDecode sid { dones := [(sid, opName s, .ctx c)] }
        | none => ({ s with pread := some { lookahead := none, rst := none } } : SStream α).readAndSettle sid :=
  rfl

/-- a data frame (`msg` or `more`, read as the `DFrame` it carries) arrives: `acceptClientFrame` -/
def dataFrame (sid : Sid) (s : SStream α) (df : DFrame α) : SStream α × Out α :=
  if s.fc then
    match s.rcv.accept df with
    | (_, .dropped) => (s, {})
    | (_, .windowExceeded) => s.finish sid (some errFlowControl) true
    | (r, .ok) => ({ s with rcv := r } : SStream α).readAndSettle sid
  else
    if s.rcv.closed then (s, {})
    else if !s.rcv.queue.isEmpty then ({ s with unsupported := true }, {})
    else ({ s with rcv := { s.rcv with queue := [df] } } : SStream α).readAndSettle sid

theorem onFrame_msg (cfg : SCfg) (sid : Sid) (s : SStream α) (size : Nat) (d : List α) :
    s.onFrame cfg sid (.msg size d) = dataFrame sid s (.env size d) := rfl

theorem onFrame_more (cfg : SCfg) (sid : Sid) (s : SStream α) (d : List α) :
    s.onFrame cfg sid (.more d) = dataFrame sid s (.more d) := rfl

theorem onFrame_halfClose (cfg : SCfg) (sid : Sid) (s : SStream α) :
    s.onFrame cfg sid .halfClose =
      if s.halfClosed.isSome then (s, {}) else (s.halfClose .eof).readAndSettle sid := rfl

theorem onFrame_cancel (cfg : SCfg) (sid : Sid) (s : SStream α) :
    s.onFrame cfg sid .cancel = s.finish sid (some (.ctx .canceled)) true := rfl

theorem onFrame_unset (cfg : SCfg) (sid : Sid) (s : SStream α) :
    s.onFrame cfg sid .unset = s.finish sid (some (.plain "protocol error: unrecognized frame type")) true := rfl

theorem onFrame_newStream (cfg : SCfg) (sid : Sid) (s : SStream α) (m : List Nat) (md : MD) (rev : Int) (win : Nat) :
    s.onFrame cfg sid (.newStream m md rev win) = (s, {}) := rfl

theorem onFrame_windowUpdate (cfg : SCfg) (sid : Sid) (s : SStream α) (n : Nat) :
    s.onFrame cfg sid (.windowUpdate n) =
      if !s.fc || n = 0 then (s, {})
      else
        match s.psend with
        | none => ({ s with win := wrap32 (s.win + n) }, {})
        | some snd =>
          ((({ s with win := wrap32 (s.win + n) } : SStream α).pumpSend cfg sid snd).1.afterSend sid
            (({ s with win := wrap32 (s.win + n) } : SStream α).pumpSend cfg sid snd).2) := rfl

/-- the header stage shared by `SendMsg` and the unary reply: unsent headers go out first -/
def hdrStage (sid : Sid) (s : SStream α) : SStream α × List (Sid × S2C α) :=
  if s.sentHeaders then (s, []) else ({ s with sentHeaders := true, headers := [] }, [(sid, .headers s.headers)])

theorem onCall_recv (cfg : SCfg) (sid : Sid) (s : SStream α) : s.onCall cfg sid .recv = s.startRecv sid := rfl

theorem onCall_send (cfg : SCfg) (sid : Sid) (s : SStream α) (m : List α) :
    s.onCall cfg sid (.send m) =
      if !(hdrStage sid s).1.ss && (hdrStage sid s).1.numSent == 1 then
        ((hdrStage sid s).1, { frames := (hdrStage sid s).2, dones := [(sid, "send", .status codeInternal)] })
      else
        ((({ (hdrStage sid s).1 with numSent := (hdrStage sid s).1.numSent + 1 } : SStream α).pumpSend cfg sid
            (Snd.start m)).1,
         ({ frames := (hdrStage sid s).2 } : Out α).add
           (({ (hdrStage sid s).1 with numSent := (hdrStage sid s).1.numSent + 1 } : SStream α).pumpSend cfg sid
             (Snd.start m)).2) := by
  unfold SStream.onCall hdrStage
  rfl

theorem onCall_reply (cfg : SCfg) (sid : Sid) (s : SStream α) (m : List α) :
    s.onCall cfg sid (.reply m) =
      (({ (hdrStage sid s).1 with numSent := (hdrStage sid s).1.numSent + 1, finishAfterSend := true } :
          SStream α).pumpSend cfg sid (Snd.start m)).1.afterSend sid
        (({ frames := (hdrStage sid s).2 } : Out α).add
          (({ (hdrStage sid s).1 with numSent := (hdrStage sid s).1.numSent + 1, finishAfterSend := true } :
            SStream α).pumpSend cfg sid (Snd.start m)).2) := by
  unfold SStream.onCall hdrStage
  rfl

theorem onCall_setHeader (cfg : SCfg) (sid : Sid) (s : SStream α) (md : MD) :
    s.onCall cfg sid (.setHeader md) =
      if s.sentHeaders then (s, { dones := [(sid, "sethdr", .other "already sent headers")] })
      else ({ s with headers := MD.join s.headers md }, { dones := [(sid, "sethdr", .ok)] }) := rfl

theorem onCall_sendHeader (cfg : SCfg) (sid : Sid) (s : SStream α) (md : MD) :
    s.onCall cfg sid (.sendHeader md) =
      if s.sentHeaders then (s, { dones := [(sid, "sendhdr", .other "already sent headers")] })
      else ({ s with headers := [], sentHeaders := true },
            { frames := [(sid, .headers (MD.join s.headers md))], dones := [(sid, "sendhdr", .ok)] }) := rfl

theorem onCall_setTrailer (cfg : SCfg) (sid : Sid) (s : SStream α) (md : MD) :
    s.onCall cfg sid (.setTrailer md) =
      if s.closed then (s, { dones := [(sid, "settlr", .ok)] })
      else ({ s with trailers := MD.join s.trailers md }, { dones := [(sid, "settlr", .ok)] }) := rfl

theorem onCall_ret (cfg : SCfg) (sid : Sid) (s : SStream α) (st : Status) :
    s.onCall cfg sid (.ret st) =
      ((({ s with hstatus := .returned } : SStream α).finish sid (if st.code = 0 then none else some (.status st))).1,
       (({ s with hstatus := .returned } : SStream α).finish sid
          (if st.code = 0 then none else some (.status st))).2.add { events := [s!"returned {sid}"] }) := rfl

/-- what the sending loop does with the send `snd`: frames emitted, window left, what is still unsent -/
def pumpOut (cfg : SCfg) (s : SStream α) (snd : Snd α) : List (DFrame α) × Nat × Option (Snd α) :=
  if s.fc then pump cfg.chunkMax s.win snd
  else (sendAllFuel cfg.chunkMax (snd.rem.length + 1) snd, s.win, none)

/-- the events that run the sending loop -/
def framePumps : C2S α → Bool
  | .windowUpdate _ => true
  | _ => false

def callPumps : HCall α → Bool
  | .send _ => true
  | .reply _ => true
  | _ => false

def evPumps : SEv α → Bool
  | .frame f => framePumps f
  | .call c => callPumps c
  | .ctx _ => false

theorem pumpSend_fst (cfg : SCfg) (sid : Sid) (s : SStream α) (snd : Snd α) :
    (s.pumpSend cfg sid snd).1 =
      { s with win := (pumpOut cfg s snd).2.1,
               psend := if s.ctxDone.isSome then none else (pumpOut cfg s snd).2.2 } := by
  unfold SStream.pumpSend pumpOut
  by_cases hfc : s.fc = true
  · rw [if_pos hfc, if_pos hfc]
    generalize pump cfg.chunkMax s.win snd = r
    obtain ⟨fs, w, rest⟩ := r
    cases rest with
    | none => cases s.ctxDone <;> rfl
    | some snd' => cases s.ctxDone <;> rfl
  · rw [if_neg hfc, if_neg hfc]
    cases s.ctxDone <;> rfl

/-- The sending loop (`sentAll`, `sendAborted`, `sendPending`) may run only if `pumps = true`: relations that
    fail at a burst of data frames are proved of `Step false`, which covers every event but those of
    `evPumps`.
    Each constructor other than `refl` and `seq` is one piece of straight-line code of the model, with the
    guard under which the model runs it; `readFailed` (any error), `readPending` (any new read state),
    `window` (also the increment 0) and `event` (any text) allow more than the model does, which only
    strengthens what an induction proves.  `finish`, `retFinish`, `cancelCtx` and `halfClose` are taken whole;
    use `finish_eq`, `cancelCtx_of_open`, `finishCore_fst`, `finishCore_snd`, `halfClose_eq` on them. -/
inductive Step (pumps : Bool) (cfg : SCfg) (sid : Sid) : SStream α → SStream α → Out α → Prop
  | refl (s : SStream α) : Step pumps cfg sid s s {}
  | seq {a b c : SStream α} {o₁ o₂ : Out α} (h₁ : Step pumps cfg sid a b o₁) (h₂ : Step pumps cfg sid b c o₂) :
      Step pumps cfg sid a c (o₁.add o₂)
  | halfClose (s : SStream α) (e : SErr) : Step pumps cfg sid s (s.halfClose e) {}
  | finish (s : SStream α) (err : Option SErr) (byLoop : Bool) :
      Step pumps cfg sid s (s.finish sid err byLoop).1 (s.finish sid err byLoop).2
  /-- the handler returns and calls `finishStream`; `keep = false` on the unary reply path, which also
      lowers `finishAfterSend` -/
  | retFinish (s : SStream α) (keep : Bool) (err : Option SErr) :
      Step pumps cfg sid s
        (({ s with finishAfterSend := keep && s.finishAfterSend, hstatus := .returned } : SStream α).finish sid err).1
        (({ s with finishAfterSend := keep && s.finishAfterSend, hstatus := .returned } : SStream α).finish sid err).2
  | cancelCtx (s : SStream α) (e : CtxErr) : Step pumps cfg sid s (s.cancelCtx sid e).1 (s.cancelCtx sid e).2
  /-- the sending loop got the whole message out; `hg` (here and in the next two): the send is the pending
      one resumed by a window update, or a new one, whose header stage is done -/
  | sentAll (s : SStream α) (snd : Snd α) (fs : List (DFrame α)) (w : Nat) (hp : pumpOut cfg s snd = (fs, w, none))
      (hg : s.psend = some snd ∨ s.sentHeaders = true) (hpump : pumps = true) :
      Step pumps cfg sid s { s with win := w, psend := none }
        { frames := fs.map (fun f => (sid, dframeToS2C f)), dones := [(sid, "send", .ok)] }
  /-- the window is exhausted and the context has ended: the send fails -/
  | sendAborted (s : SStream α) (snd snd' : Snd α) (fs : List (DFrame α)) (w : Nat) (e : CtxErr)
      (hp : pumpOut cfg s snd = (fs, w, some snd')) (hc : s.ctxDone = some e)
      (hg : s.psend = some snd ∨ s.sentHeaders = true) (hpump : pumps = true) :
      Step pumps cfg sid s { s with win := w, psend := none }
        { frames := fs.map (fun f => (sid, dframeToS2C f)), dones := [(sid, "send", .ctx e)] }
  /-- the window is exhausted: the send stays pending -/
  | sendPending (s : SStream α) (snd snd' : Snd α) (fs : List (DFrame α)) (w : Nat)
      (hp : pumpOut cfg s snd = (fs, w, some snd')) (hc : s.ctxDone = none)
      (hg : s.psend = some snd ∨ s.sentHeaders = true) (hpump : pumps = true) :
      Step pumps cfg sid s { s with win := w, psend := some snd' } { frames := fs.map (fun f => (sid, dframeToS2C f)) }
  /-- the completion of the unary reply's own send is not reported -/
  | dropSend {a s : SStream α} {o : Out α} (hf : s.finishAfterSend = true) (hp : s.psend = none)
      (h : Step pumps cfg sid a s o) : Step pumps cfg sid a s (dropSend o)
  /-- the read loop takes frames from the queue and returns their credits -/
  | drained (s : SStream α) (p : PRead α) (rwin : Nat) (q : List (DFrame α)) (credits : List Nat)
      (out : Option (PStep α)) (hp : s.pread = some p)
      (hr : readLoop s.rcv.rwin s.rcv.queue p.rst = (rwin, q, credits, out)) :
      Step pumps cfg sid s (drained s rwin q) { frames := s.creditFrames sid credits }
  /-- a complete message on a method with a streaming request: no look-ahead read follows -/
  | delivered (s : SStream α) (p : PRead α) (m : List α) (hp : s.pread = some p) (hcs : s.cs = true) :
      Step pumps cfg sid s { s with pread := none } { dones := [(sid, opName s, .msg m)] }
  /-- the look-ahead read found the end of the request stream: the message held back is delivered -/
  | deliveredEof (s : SStream α) (p : PRead α) (m : List α) (hp : s.pread = some p) (hl : p.lookahead = some m) :
      Step pumps cfg sid s { s with pread := none, readErr := some .eof } { dones := [(sid, opName s, .msg m)] }
  | readFailed (s : SStream α) (p : PRead α) (e : SErr) (hp : s.pread = some p) :
      Step pumps cfg sid s { s with pread := none, readErr := some e } { dones := [(sid, opName s, e.toRes)] }
  | readPending (s : SStream α) (p p' : PRead α) (hp : s.pread = some p) :
      Step pumps cfg sid s { s with pread := some p' } {}
  /-- the decode callback of a unary method returned a message: the handler function is entered -/
  | decoded (s : SStream α) (hd : s.hstatus = .decoding) (hp : s.pread = none) :
      Step pumps cfg sid s { s with hstatus := .running } {}
  | recvSticky (s : SStream α) (e : SErr) (hr : s.readErr = some e) :
      Step pumps cfg sid s s { dones := [(sid, opName s, e.toRes)] }
  | recvCtx (s : SStream α) (c : CtxErr) (hr : s.readErr = none) (hc : s.ctxDone = some c) :
      Step pumps cfg sid s { s with readErr := some (.ctx c) } { dones := [(sid, opName s, .ctx c)] }
  | readStarted (s : SStream α) (hr : s.readErr = none) (hc : s.ctxDone = none) :
      Step pumps cfg sid s { s with pread := some { lookahead := none, rst := none } } {}
  | window (s : SStream α) (n : Nat) (hfc : s.fc = true) : Step pumps cfg sid s { s with win := wrap32 (s.win + n) } {}
  | accepted (s : SStream α) (df : DFrame α) (r : RcvQ α) (hfc : s.fc = true) (ha : s.rcv.accept df = (r, .ok)) :
      Step pumps cfg sid s { s with rcv := r } {}
  /-- no flow control and the previous frame not yet read: the receive loop would block here -/
  | wedged (s : SStream α) (hfc : s.fc = false) : Step pumps cfg sid s { s with unsupported := true } {}
  | queued (s : SStream α) (df : DFrame α) (hfc : s.fc = false) (hc : s.rcv.closed = false)
      (hq : s.rcv.queue.isEmpty = true) : Step pumps cfg sid s { s with rcv := { s.rcv with queue := [df] } } {}
  | hdr (s : SStream α) (h : s.sentHeaders = false) :
      Step pumps cfg sid s { s with sentHeaders := true, headers := [] } { frames := [(sid, .headers s.headers)] }
  /-- a second response message on a method without response streaming -/
  | sendRefused (s : SStream α) (h : (!s.ss && s.numSent == 1) = true) :
      Step pumps cfg sid s s { dones := [(sid, "send", .status codeInternal)] }
  /-- a send begins (the sending loop follows); the unary reply (`reply = true`) also arms `finishAfterSend` -/
  | counted (s : SStream α) (reply : Bool) (hpump : pumps = true) :
      Step pumps cfg sid s { s with numSent := s.numSent + 1, finishAfterSend := reply || s.finishAfterSend } {}
  | mdRefused (s : SStream α) (op : String) (h : s.sentHeaders = true) :
      Step pumps cfg sid s s { dones := [(sid, op, .other "already sent headers")] }
  | setHeader (s : SStream α) (md : MD) (h : s.sentHeaders = false) :
      Step pumps cfg sid s { s with headers := MD.join s.headers md } { dones := [(sid, "sethdr", .ok)] }
  | sendHeader (s : SStream α) (md : MD) (h : s.sentHeaders = false) :
      Step pumps cfg sid s { s with headers := [], sentHeaders := true }
        { frames := [(sid, .headers (MD.join s.headers md))], dones := [(sid, "sendhdr", .ok)] }
  | trailerDropped (s : SStream α) (h : s.closed = true) : Step pumps cfg sid s s { dones := [(sid, "settlr", .ok)] }
  | setTrailer (s : SStream α) (md : MD) (h : s.closed = false) :
      Step pumps cfg sid s { s with trailers := MD.join s.trailers md } { dones := [(sid, "settlr", .ok)] }
  | event (s : SStream α) (ev : List String) : Step pumps cfg sid s s { events := ev }

namespace Step
variable {pumps : Bool} {cfg : SCfg} {sid : Sid}

theorem seq_empty {a b c : SStream α} {o : Out α} (h₁ : Step pumps cfg sid a b o) (h₂ : Step pumps cfg sid b c {}) :
    Step pumps cfg sid a c o := by
  rw [← Out.add_empty o]; exact .seq h₁ h₂

theorem empty_seq {a b c : SStream α} {o : Out α} (h₁ : Step pumps cfg sid a b {}) (h₂ : Step pumps cfg sid b c o) :
    Step pumps cfg sid a c o := .seq h₁ h₂

theorem seq_fd {a b c : SStream α} {fs : List (Sid × S2C α)} {ds : List (Sid × String × Res α)}
    (h₁ : Step pumps cfg sid a b { frames := fs }) (h₂ : Step pumps cfg sid b c { dones := ds }) :
    Step pumps cfg sid a c { frames := fs, dones := ds } := by
  rw [← Out.frames_add_dones]; exact .seq h₁ h₂

theorem pumpSend (s : SStream α) (snd : Snd α) (hg : s.psend = some snd ∨ s.sentHeaders = true)
    (hpump : pumps = true) :
    Step pumps cfg sid s (s.pumpSend cfg sid snd).1 (s.pumpSend cfg sid snd).2 := by
  unfold SStream.pumpSend
  by_cases hfc : s.fc = true
  · rw [if_pos hfc]
    generalize hr : pump cfg.chunkMax s.win snd = r
    obtain ⟨fs, w, rest⟩ := r
    have hp : pumpOut cfg s snd = (fs, w, rest) := by unfold pumpOut; rw [if_pos hfc, hr]
    cases rest with
    | none => exact .sentAll s snd fs w hp hg hpump
    | some snd' =>
      dsimp only
      split
      · rename_i e hc
        exact .sendAborted s snd snd' fs w e hp hc hg hpump
      · rename_i hc
        exact .sendPending s snd snd' fs w hp hc hg hpump
  · rw [if_neg hfc]
    exact .sentAll s snd _ s.win (by unfold pumpOut; rw [if_neg hfc]) hg hpump

/-- `afterSend` does nothing, or it is the handler's return on the unary reply path -/
theorem afterSend_tail (s : SStream α) (o : Out α) :
    s.afterSend sid o = (s, o) ∨
    (s.finishAfterSend = true ∧ s.psend = none ∧
      ∃ o', Step pumps cfg sid s (s.afterSend sid o).1 o' ∧ (s.afterSend sid o).2 = (ServerOps.dropSend o).add o') := by
  unfold SStream.afterSend
  by_cases hg : (s.finishAfterSend && s.psend.isNone) = true
  · rw [if_pos hg]
    rw [Bool.and_eq_true] at hg
    exact Or.inr ⟨hg.1, Option.isNone_iff_eq_none.mp hg.2, _, .retFinish s false (sendErr o), rfl⟩
  · rw [if_neg hg]; exact Or.inl rfl

theorem afterSend {a s : SStream α} {o : Out α} (h : Step pumps cfg sid a s o) :
    Step pumps cfg sid a (s.afterSend sid o).1 (s.afterSend sid o).2 := by
  rcases afterSend_tail (pumps := pumps) (cfg := cfg) (sid := sid) s o with e | ⟨hf, hp, o', h', e⟩
  · rw [e]; exact h
  · rw [e]; exact .seq (.dropSend hf hp h) h'

theorem failWith {a s : SStream α} {p : PRead α} {cf : List (Sid × S2C α)} (e : SErr) (okFlag : Bool)
    (hp : s.pread = some p) (h : Step pumps cfg sid a s { frames := cf }) :
    Step pumps cfg sid a (failWith sid cf s e okFlag).1 (failWith sid cf s e okFlag).2 := by
  unfold ServerOps.failWith
  split
  · exact seq_fd h (.readFailed s p e hp)
  · exact .seq (seq_fd h (.readFailed s p e hp)) (.finish { s with pread := none, readErr := some e } (some e) false)

theorem resumeRead (mn : String) (fuel : Nat) : ∀ s : SStream α,
    Step pumps cfg sid s (s.resumeRead sid mn fuel).1 (s.resumeRead sid mn fuel).2 := by
  induction fuel with
  | zero => exact fun s => .refl s
  | succ fuel ih =>
    intro s
    cases hp : s.pread with
    | none => rw [resumeRead_none sid mn _ hp]; exact .refl s
    | some p =>
      rw [resumeRead_succ sid mn fuel hp]
      generalize hr : readLoop s.rcv.rwin s.rcv.queue p.rst = r
      obtain ⟨rwin, q, credits, out⟩ := r
      have h1 := Step.drained (pumps := pumps) (cfg := cfg) (sid := sid) s p rwin q credits out hp hr
      have hp1 : (ServerOps.drained s rwin q).pread = some p := hp
      cases out with
      | none => rw [readPass_stuck hr]; exact h1
      | some out =>
        cases out with
        | cont st' =>
          rw [readPass_on_cont hr]
          split
          · split
            · rename_i m hl _
              exact seq_fd h1 (.deliveredEof _ p m hp1 hl)
            · exact failWith _ _ hp1 h1
          · exact seq_empty h1 (.readPending _ p _ hp1)
        | msg m =>
          rw [readPass_on_msg hr]
          split
          · exact failWith _ _ hp1 h1
          · split
            · rename_i hcs
              exact seq_fd h1 (.delivered _ p _ hp1 hcs)
            · exact .seq (seq_empty h1 (.readPending _ p _ hp1)) (ih _)
        | err e => rw [readPass_perr hr]; exact failWith _ _ hp1 h1

theorem afterDecode_tail (s : SStream α) (o : Out α) :
    ∃ o', Step pumps cfg sid s (s.afterDecode sid o).1 o' ∧ (s.afterDecode sid o).2 = o.add o' := by
  unfold SStream.afterDecode
  by_cases hg : (s.hstatus == .decoding && s.pread.isNone) = true
  · rw [if_pos hg]
    rw [Bool.and_eq_true, beq_iff_eq] at hg
    split
    · exact ⟨_, .decoded s hg.1 (Option.isNone_iff_eq_none.mp hg.2), (Out.add_empty o).symm⟩
    · exact ⟨_, .retFinish s true _, rfl⟩
    · exact ⟨_, .refl s, (Out.add_empty o).symm⟩
  · rw [if_neg hg]; exact ⟨_, .refl s, (Out.add_empty o).symm⟩

theorem afterDecode {a s : SStream α} {o : Out α} (h : Step pumps cfg sid a s o) :
    Step pumps cfg sid a (s.afterDecode sid o).1 (s.afterDecode sid o).2 := by
  obtain ⟨o', h', e⟩ := afterDecode_tail (pumps := pumps) (cfg := cfg) s o
  rw [e]; exact .seq h h'

theorem readAndSettle (s : SStream α) : Step pumps cfg sid s (s.readAndSettle sid).1 (s.readAndSettle sid).2 :=
  afterDecode (resumeRead "" 3 s)

theorem startRecv (s : SStream α) : Step pumps cfg sid s (s.startRecv sid).1 (s.startRecv sid).2 := by
  rw [startRecv_eq]
  split
  · rename_i e hr
    exact afterDecode (.recvSticky s e hr)
  · rename_i hr
    split
    · rename_i c hc
      exact afterDecode (.recvCtx s c hr hc)
    · rename_i hc
      exact empty_seq (.readStarted s hr hc) (readAndSettle _)

theorem dataFrame (s : SStream α) (df : DFrame α) :
    Step pumps cfg sid s (dataFrame sid s df).1 (dataFrame sid s df).2 := by
  unfold ServerOps.dataFrame
  by_cases hfc : s.fc = true
  · rw [if_pos hfc]
    split
    · exact .refl s
    · exact .finish s _ true
    · rename_i r ha
      exact empty_seq (.accepted s df r hfc ha) (readAndSettle _)
  · rw [if_neg hfc]
    rw [Bool.not_eq_true] at hfc
    split
    · exact .refl s
    · rename_i hc
      rw [Bool.not_eq_true] at hc
      split
      · exact .wedged s hfc
      · rename_i hq
        rw [Bool.not_eq_true, Bool.not_eq_false'] at hq
        exact empty_seq (.queued s df hfc hc hq) (readAndSettle _)

theorem onFrame (s : SStream α) (f : C2S α) (hp : framePumps f = true → pumps = true) :
    Step pumps cfg sid s (s.onFrame cfg sid f).1 (s.onFrame cfg sid f).2 := by
  cases f with
  | newStream m md rev win => exact .refl s
  | msg size d => exact dataFrame s (.env size d)
  | more d => exact dataFrame s (.more d)
  | halfClose =>
    rw [onFrame_halfClose]
    split
    · exact .refl s
    · exact empty_seq (.halfClose s .eof) (readAndSettle _)
  | cancel => exact .finish s _ true
  | unset => exact .finish s _ true
  | windowUpdate n =>
    rw [onFrame_windowUpdate]
    split
    · exact .refl s
    · rename_i hg
      have hfc : s.fc = true := by
        cases h : s.fc with
        | true => rfl
        | false => rw [h] at hg; exact absurd rfl hg
      split
      · exact .window s n hfc
      · rename_i snd hs
        exact afterSend (empty_seq (.window s n hfc) (pumpSend _ _ (Or.inl hs) (hp rfl)))

theorem hdrStage (s : SStream α) :
    Step pumps cfg sid s (hdrStage sid s).1 { frames := (hdrStage sid s).2 } := by
  unfold ServerOps.hdrStage
  by_cases h : s.sentHeaders = true
  · rw [if_pos h]; exact .refl s
  · rw [if_neg h]; exact .hdr s (Bool.not_eq_true _ ▸ h)

theorem hdrStage_sentHeaders (s : SStream α) : (ServerOps.hdrStage sid s).1.sentHeaders = true := by
  unfold ServerOps.hdrStage
  by_cases h : s.sentHeaders = true
  · rw [if_pos h]; exact h
  · rw [if_neg h]

theorem onCall (s : SStream α) (c : HCall α) (hp : callPumps c = true → pumps = true) :
    Step pumps cfg sid s (s.onCall cfg sid c).1 (s.onCall cfg sid c).2 := by
  cases c with
  | recv => exact startRecv s
  | send m =>
    rw [onCall_send]
    split
    · rename_i hg
      exact seq_fd (hdrStage s) (.sendRefused _ hg)
    · exact .seq (seq_empty (hdrStage s) (.counted _ false (hp rfl))) (pumpSend _ _ (Or.inr (hdrStage_sentHeaders s)) (hp rfl))
  | setHeader md =>
    rw [onCall_setHeader]
    split
    · rename_i h; exact .mdRefused s _ h
    · rename_i h; exact .setHeader s md (Bool.not_eq_true _ ▸ h)
  | sendHeader md =>
    rw [onCall_sendHeader]
    split
    · rename_i h; exact .mdRefused s _ h
    · rename_i h; exact .sendHeader s md (Bool.not_eq_true _ ▸ h)
  | setTrailer md =>
    rw [onCall_setTrailer]
    split
    · rename_i h; exact .trailerDropped s h
    · rename_i h; exact .setTrailer s md (Bool.not_eq_true _ ▸ h)
  | ret st => exact .seq (.retFinish s true _) (.event _ _)
  | reply m =>
    rw [onCall_reply]
    exact afterSend (.seq (seq_empty (hdrStage s) (.counted _ true (hp rfl))) (pumpSend _ _ (Or.inr (hdrStage_sentHeaders s)) (hp rfl)))

theorem stepEv (s : SStream α) (ev : SEv α) (hp : evPumps ev = true → pumps = true) :
    Step pumps cfg sid s (s.stepEv cfg sid ev).1 (s.stepEv cfg sid ev).2 := by
  cases ev with
  | frame f => exact onFrame s f hp
  | call c => exact onCall s c hp
  | ctx e => exact .cancelCtx s e

end Step

def Out.concat (os : List (Out α)) : Out α := os.foldr Out.add {}

theorem Out.concat_hom {β : Type} (f : Out α → List β) (h0 : f {} = []) (hadd : ∀ a b, f (a.add b) = f a ++ f b)
    (os : List (Out α)) : f (Out.concat os) = os.flatMap f := by
  induction os with
  | nil => exact h0
  | cons o os ih => rw [List.flatMap_cons, ← ih]; exact hadd o _

theorem Out.concat_frames (os : List (Out α)) : (Out.concat os).frames = os.flatMap (·.frames) :=
  Out.concat_hom (·.frames) rfl (fun _ _ => rfl) os

theorem Out.concat_dones (os : List (Out α)) : (Out.concat os).dones = os.flatMap (·.dones) :=
  Out.concat_hom (·.dones) rfl (fun _ _ => rfl) os

theorem Out.concat_events (os : List (Out α)) : (Out.concat os).events = os.flatMap (·.events) :=
  Out.concat_hom (·.events) rfl (fun _ _ => rfl) os

theorem runEv_cons (cfg : SCfg) (sid : Sid) (s : SStream α) (e : SEv α) (es : List (SEv α)) :
    SStream.runEv cfg sid s (e :: es) =
      ((SStream.runEv cfg sid (s.stepEv cfg sid e).1 es).1,
       (s.stepEv cfg sid e).2 :: (SStream.runEv cfg sid (s.stepEv cfg sid e).1 es).2) := rfl

theorem runEv_append (cfg : SCfg) (sid : Sid) (es₁ es₂ : List (SEv α)) : ∀ s : SStream α,
    SStream.runEv cfg sid s (es₁ ++ es₂) =
      ((SStream.runEv cfg sid (SStream.runEv cfg sid s es₁).1 es₂).1,
       (SStream.runEv cfg sid s es₁).2 ++ (SStream.runEv cfg sid (SStream.runEv cfg sid s es₁).1 es₂).2) := by
  induction es₁ with
  | nil => intro s; rfl
  | cons e es ih => intro s; rw [List.cons_append, runEv_cons, ih, runEv_cons]; rfl

theorem Step.runEv {pumps : Bool} {cfg : SCfg} {sid : Sid} (es : List (SEv α))
    (hp : ∀ e ∈ es, evPumps e = true → pumps = true) : ∀ s : SStream α,
    Step pumps cfg sid s (SStream.runEv cfg sid s es).1 (Out.concat (SStream.runEv cfg sid s es).2) := by
  induction es with
  | nil => exact fun s => .refl s
  | cons e es ih =>
    exact fun s => .seq (Step.stepEv s e (hp e List.mem_cons_self)) (ih (fun e he => hp e (List.mem_cons_of_mem _ he)) _)

theorem runEv_keeps {P : SStream α → Prop} {cfg : SCfg} {sid : Sid}
    (hP : ∀ s ev, P s → P (SStream.stepEv cfg sid s ev).1) (es : List (SEv α)) :
    ∀ s, P s → P (SStream.runEv cfg sid s es).1 := by
  induction es with
  | nil => exact fun _ h => h
  | cons e es ih => exact fun s h => ih _ (hP s e h)

/-- the stream object `createStream` builds for a method of the given shape; a unary method streams
    neither way -/
inductive Fresh (cfg : SCfg) (rev : Int) (win : Nat) (deadline : Option Nat) : SStream α → Prop
  | mk (unary cs ss : Bool) (h : unary = true → cs = false ∧ ss = false) :
      Fresh cfg rev win deadline
        { cs := cs, ss := ss, unary := unary, fc := rev == 1, rcv := RcvQ.init cfg.W, win := wrap32 win,
          deadline := deadline, hstatus := if unary then .decoding else .running }

/-- An id violation ends the tunnel (`viol`); a fresh id whose stream is refused is answered with one close
    frame and only moves the high-water mark (`rej`); otherwise a `Fresh` stream object is appended, on
    which a unary method's decode read is started at once (`acc`). -/
theorem createStream_elim {motive : Srv α × Out α → Prop} (cfg : SCfg) (s : Srv α) (sid : Sid) (method : List Nat)
    (md : MD) (rev : Int) (win : Nat)
    (viol : ∀ tag : String,
      (tag = "already_exists" ∧ s.table.contains sid = true) ∨
        (tag = "already_used" ∧ s.table.contains sid = false ∧ sid ≤ s.lastSeen) →
      motive (s.serveReturns (some tag)))
    (rej : ∀ (code : Nat) (msg : String), s.table.contains sid = false → s.lastSeen < sid →
      (s.closing = true ∨ (rev ≠ 0 ∧ rev ≠ 1) ∨ Method.resolve cfg.services method = .malformed ∨
        Method.resolve cfg.services method = .unimplemented) →
      motive ({ s with lastSeen := sid }, rejectFrame sid code msg))
    (acc : ∀ (st : SStream α) (svc : Method.Name) (f : Method.Found), s.table.contains sid = false → s.lastSeen < sid →
      s.closing = false → (rev = 0 ∨ rev = 1) → Method.resolve cfg.services method = .found svc f →
      Fresh cfg rev win ((mdTimeout md).map (· + s.now)) st →
      motive (if st.unary then
          ({ s with lastSeen := sid, streams := s.streams ++ [(sid, (st.startRecv sid).1)] }, (st.startRecv sid).2)
        else
          ({ s with lastSeen := sid, streams := s.streams ++ [(sid, st)] },
           { events := [s!"entered {sid} {if st.unary then "unary" else "stream"}"] }))) :
    motive (s.createStream cfg sid method md rev win) := by
  unfold Srv.createStream
  by_cases h1 : s.table.contains sid = true
  · rw [if_pos h1]; exact viol _ (Or.inl ⟨rfl, h1⟩)
  rw [if_neg h1]
  rw [Bool.not_eq_true] at h1
  by_cases h2 : sid ≤ s.lastSeen
  · rw [if_pos h2]; exact viol _ (Or.inr ⟨rfl, h1, h2⟩)
  rw [if_neg h2]
  have h2 : s.lastSeen < sid := Int.lt_of_not_ge h2
  dsimp only
  by_cases h3 : s.closing = true
  · rw [if_pos h3]; exact rej _ _ h1 h2 (Or.inl h3)
  rw [if_neg h3]
  rw [Bool.not_eq_true] at h3
  by_cases h4 : (rev != 0 && rev != 1) = true
  · rw [if_pos h4]
    refine rej _ _ h1 h2 (Or.inr (Or.inl ?_))
    rw [Bool.and_eq_true, bne_iff_ne, bne_iff_ne] at h4
    exact h4
  rw [if_neg h4]
  have h4 : rev = 0 ∨ rev = 1 := by
    rw [Bool.and_eq_true, bne_iff_ne, bne_iff_ne] at h4
    by_cases h0 : rev = 0
    · exact Or.inl h0
    · exact Or.inr (Decidable.not_not.mp (fun h => h4 ⟨h0, h⟩))
  cases hres : Method.resolve cfg.services method with
  | malformed => exact rej _ _ h1 h2 (Or.inr (Or.inr (Or.inl hres)))
  | unimplemented => exact rej _ _ h1 h2 (Or.inr (Or.inr (Or.inr hres)))
  | found svc f =>
    cases f with
    | unary d => exact acc _ svc _ h1 h2 h3 h4 hres (.mk true false false (fun _ => ⟨rfl, rfl⟩))
    | stream d cs ss => exact acc _ svc _ h1 h2 h3 h4 hres (.mk false cs ss (fun h => absurd h Bool.false_ne_true))

def tickOne (now : Nat) (sid : Sid) (st : SStream α) : SStream α × Out α :=
  match st.deadline with
  | some dl => if dl ≤ now then st.cancelCtx sid .deadline else (st, {})
  | none => (st, {})

/-- the loops of `serveReturns` and `tick`: `g` applied to every stream object in place -/
def goGen (g : Sid → SStream α → SStream α × Out α) :
    List (Sid × SStream α) → List (Sid × SStream α) × Out α
  | [] => ([], {})
  | e :: rest => ((e.1, (g e.1 e.2).1) :: (goGen g rest).1, (g e.1 e.2).2.add (goGen g rest).2)

theorem serveReturns_go_eq (l : List (Sid × SStream α)) :
    Srv.serveReturns.go l = goGen (fun sid st => st.cancelCtx sid .canceled) l := by
  induction l with
  | nil => rfl
  | cons e rest ih => rw [Srv.serveReturns.go, ih]; rfl

theorem tick_go_eq (now : Nat) (l : List (Sid × SStream α)) : Srv.tick.go now l = goGen (tickOne now) l := by
  induction l with
  | nil => rfl
  | cons e rest ih => rw [Srv.tick.go, ih]; rfl

theorem goGen_fst (g : Sid → SStream α → SStream α × Out α) (l : List (Sid × SStream α)) :
    (goGen g l).1 = l.map (fun e => (e.1, (g e.1 e.2).1)) := by
  induction l with
  | nil => rfl
  | cons e rest ih => rw [goGen, ih]; rfl

theorem goGen_snd (g : Sid → SStream α → SStream α × Out α) (l : List (Sid × SStream α)) :
    (goGen g l).2 = Out.concat (l.map (fun e => (g e.1 e.2).2)) := by
  induction l with
  | nil => rfl
  | cons e rest ih => rw [goGen, ih]; rfl

theorem serveReturns_eq (s : Srv α) (err : Option String) :
    s.serveReturns err =
      ({ s with streams := s.streams.map (fun e => (e.1, (e.2.cancelCtx e.1 .canceled).1)), returned := some err },
       (goGen (fun sid st => st.cancelCtx sid .canceled) s.streams).2.add
         { events := [s!"serve-returned {err.getD "nil"}"] }) := by
  unfold Srv.serveReturns
  rw [serveReturns_go_eq, ← goGen_fst (fun sid st => st.cancelCtx sid .canceled)]

theorem tick_eq (s : Srv α) (d : Nat) :
    s.tick d =
      ({ s with now := s.now + d, streams := s.streams.map (fun e => (e.1, (tickOne (s.now + d) e.1 e.2).1)) },
       (goGen (tickOne (s.now + d)) s.streams).2) := by
  unfold Srv.tick
  dsimp only
  rw [tick_go_eq, ← goGen_fst (tickOne (s.now + d))]

theorem tickOne_cases (now : Nat) (sid : Sid) (st : SStream α) :
    tickOne now sid st = (st, {}) ∨ tickOne now sid st = st.cancelCtx sid .deadline := by
  unfold tickOne
  split
  · split
    · exact Or.inr rfl
    · exact Or.inl rfl
  · exact Or.inl rfl

theorem getAny_mem {s : Srv α} {sid : Sid} {st : SStream α} (h : s.getAny sid = some st) : (sid, st) ∈ s.streams := by
  unfold Srv.getAny at h
  obtain ⟨e, he, rfl⟩ := Option.map_eq_some_iff.mp h
  have h1 := List.find?_some he
  rw [beq_iff_eq] at h1
  rw [← h1]
  exact List.mem_of_find?_eq_some he

theorem getStream_mem {s : Srv α} {sid : Sid} {st : SStream α} (h : s.getStream sid = some st) :
    (sid, st) ∈ s.streams ∧ st.inTable = true := by
  unfold Srv.getStream at h
  obtain ⟨e, he, rfl⟩ := Option.map_eq_some_iff.mp h
  have h1 := List.find?_some he
  rw [Bool.and_eq_true, beq_iff_eq] at h1
  rw [← h1.1]
  exact ⟨List.mem_of_find?_eq_some he, h1.2⟩

theorem mem_setAny {s : Srv α} {sid : Sid} {st : SStream α} {e : Sid × SStream α} :
    e ∈ (s.setAny sid st).streams ↔ (e ∈ s.streams ∧ e.1 ≠ sid) ∨ (e = (sid, st) ∧ sid ∈ s.streams.map (·.1)) := by
  unfold Srv.setAny
  rw [List.mem_map]
  constructor
  · rintro ⟨x, hx, rfl⟩
    by_cases h : x.1 = sid
    · rw [if_pos (beq_iff_eq.mpr h)]
      exact Or.inr ⟨rfl, List.mem_map.mpr ⟨x, hx, h⟩⟩
    · rw [if_neg (by rw [beq_iff_eq]; exact h)]
      exact Or.inl ⟨hx, h⟩
  · rintro (⟨he, hne⟩ | ⟨rfl, hs⟩)
    · exact ⟨e, he, by rw [if_neg (by rw [beq_iff_eq]; exact hne)]⟩
    · obtain ⟨x, hx, hxs⟩ := List.mem_map.mp hs
      exact ⟨x, hx, by rw [if_pos (beq_iff_eq.mpr hxs)]⟩

theorem Srv.onFrame_other (cfg : SCfg) (s : Srv α) (sid : Sid) {f : C2S α}
    (hnew : ∀ m md rev win, f ≠ .newStream m md rev win) :
    s.onFrame cfg sid f =
      if s.returned.isSome then (s, {})
      else
        match s.getStream sid with
        | some st => (s.setAny sid (st.onFrame cfg sid f).1, (st.onFrame cfg sid f).2)
        | none => if sid ≤ s.lastSeen then (s, {}) else s.serveReturns (some "never_created") := by
  cases f with
  | newStream m md rev win => exact absurd rfl (hnew m md rev win)
  | _ => rfl

theorem Srv.onFrame_newStream (cfg : SCfg) (s : Srv α) (sid : Sid) (m : List Nat) (md : MD) (rev : Int) (win : Nat) :
    s.onFrame cfg sid (.newStream m md rev win) =
      if s.returned.isSome then (s, {}) else s.createStream cfg sid m md rev win := rfl

theorem Srv.onCall_eq (cfg : SCfg) (s : Srv α) (sid : Sid) (c : HCall α) :
    s.onCall cfg sid c =
      match s.getAny sid with
      | none => (s, { events := [s!"no-such-stream {sid}"] })
      | some st => (s.setAny sid (st.onCall cfg sid c).1, (st.onCall cfg sid c).2) := rfl

/-- `ignored`: `serve` has returned, or the id is not above the high-water mark and has no stream in the
    table; `ends`: an id violation ends the tunnel; `rej`, `acc`: as in `createStream_elim`; `own`: the
    frame is handed to its stream. -/
theorem Srv.onFrame_elim {motive : Srv α × Out α → Prop} (cfg : SCfg) (s : Srv α) (sid : Sid) (f : C2S α)
    (ignored : motive (s, {}))
    (ends : ∀ tag : String, tag = "already_exists" ∨ tag = "already_used" ∨ tag = "never_created" →
      motive (s.serveReturns (some tag)))
    (rej : ∀ (code : Nat) (msg : String), s.lastSeen < sid →
      motive ({ s with lastSeen := sid }, rejectFrame sid code msg))
    (acc : ∀ (st : SStream α) (m : List Nat) (md : MD) (rev : Int) (win : Nat), f = .newStream m md rev win →
      s.lastSeen < sid → Fresh cfg rev win ((mdTimeout md).map (· + s.now)) st →
      motive (if st.unary then
          ({ s with lastSeen := sid, streams := s.streams ++ [(sid, (st.startRecv sid).1)] }, (st.startRecv sid).2)
        else
          ({ s with lastSeen := sid, streams := s.streams ++ [(sid, st)] },
           { events := [s!"entered {sid} {if st.unary then "unary" else "stream"}"] })))
    (own : ∀ st, s.getStream sid = some st →
      motive (s.setAny sid (st.onFrame cfg sid f).1, (st.onFrame cfg sid f).2)) :
    motive (s.onFrame cfg sid f) := by
  by_cases hr : s.returned.isSome = true
  · unfold Srv.onFrame; rw [if_pos hr]; exact ignored
  · by_cases hnew : ∃ m md rev win, f = .newStream m md rev win
    · obtain ⟨m, md, rev, win, rfl⟩ := hnew
      rw [Srv.onFrame_newStream, if_neg hr]
      exact createStream_elim cfg s sid m md rev win
        (fun tag h => ends tag (h.elim (fun h => Or.inl h.1) (fun h => Or.inr (Or.inl h.1))))
        (fun code msg _ hlt _ => rej code msg hlt)
        (fun st _ _ _ hlt _ _ _ hf => acc st m md rev win rfl hlt hf)
    · rw [Srv.onFrame_other cfg s sid (fun m md rev win h => hnew ⟨m, md, rev, win, h⟩), if_neg hr]
      split
      · rename_i st hst; exact own st hst
      · split
        · exact ignored
        · exact ends _ (Or.inr (Or.inr rfl))

theorem step_frame (cfg : SCfg) (s : Srv α) (sid : Sid) (f : C2S α) :
    s.step cfg (.frame sid f) = s.onFrame cfg sid f := rfl

theorem step_call (cfg : SCfg) (s : Srv α) (sid : Sid) (c : HCall α) :
    s.step cfg (.call sid c) = s.onCall cfg sid c := rfl

theorem step_tick (cfg : SCfg) (s : Srv α) (d : Nat) : s.step cfg (.tick d) = s.tick d := rfl

theorem step_carrierEnds (cfg : SCfg) (s : Srv α) (err : Option String) :
    s.step cfg (.carrierEnds err) = if s.returned.isSome then (s, {}) else s.serveReturns err := rfl

theorem run_cons (cfg : SCfg) (s : Srv α) (x : SStim α) (xs : List (SStim α)) :
    Srv.run cfg s (x :: xs) =
      ((Srv.run cfg (s.step cfg x).1 xs).1, (s.step cfg x).2 :: (Srv.run cfg (s.step cfg x).1 xs).2) := rfl

theorem run_append (cfg : SCfg) (xs ys : List (SStim α)) : ∀ s : Srv α,
    Srv.run cfg s (xs ++ ys) =
      ((Srv.run cfg (Srv.run cfg s xs).1 ys).1,
       (Srv.run cfg s xs).2 ++ (Srv.run cfg (Srv.run cfg s xs).1 ys).2) := by
  induction xs with
  | nil => intro s; rfl
  | cons x xs ih => intro s; rw [List.cons_append, run_cons, ih, run_cons]; rfl

theorem run_keeps {P : Srv α → Prop} {cfg : SCfg} (hP : ∀ s x, P s → P (s.step cfg x).1) (xs : List (SStim α)) :
    ∀ s, P s → P (Srv.run cfg s xs).1 := by
  induction xs with
  | nil => exact fun _ h => h
  | cons x xs ih => exact fun s h => ih _ (hP s x h)

theorem serveReturns_mem {s : Srv α} {err : Option String} {e' : Sid × SStream α}
    (h : e' ∈ (s.serveReturns err).1.streams) :
    ∃ st, (e'.1, st) ∈ s.streams ∧ e'.2 = (st.cancelCtx e'.1 .canceled).1 := by
  rw [serveReturns_eq] at h
  obtain ⟨e, he, rfl⟩ := List.mem_map.mp h
  exact ⟨e.2, he, rfl⟩

/-- A stream object of the endpoint after a step was there before; or an object with the same id was there
    and took one event; or the step created it (`Fresh`, on which a unary method's decode read may have
    been started) under an id above the high-water mark. -/
theorem step_mem (cfg : SCfg) (s : Srv α) (x : SStim α) {e' : Sid × SStream α} (h : e' ∈ (s.step cfg x).1.streams) :
    e' ∈ s.streams ∨
    (∃ st ev, (e'.1, st) ∈ s.streams ∧ e'.2 = (st.stepEv cfg e'.1 ev).1) ∨
    (s.returned = none ∧ s.lastSeen < e'.1 ∧ ∃ st0 m md rev win, x = .frame e'.1 (.newStream m md rev win) ∧
      Fresh cfg rev win ((mdTimeout md).map (· + s.now)) st0 ∧
      (e'.2 = st0 ∨ e'.2 = (st0.stepEv cfg e'.1 (.call .recv)).1)) := by
  have hret : ∀ err, e' ∈ (s.serveReturns err).1.streams →
      ∃ st ev, (e'.1, st) ∈ s.streams ∧ e'.2 = (st.stepEv cfg e'.1 ev).1 := by
    intro err h
    obtain ⟨st, hst, heq⟩ := serveReturns_mem h
    exact ⟨st, .ctx .canceled, hst, heq⟩
  have hset : ∀ sid st ev, (sid, st) ∈ s.streams → e' ∈ (s.setAny sid (st.stepEv cfg sid ev).1).streams →
      e' ∈ s.streams ∨ ∃ st ev, (e'.1, st) ∈ s.streams ∧ e'.2 = (st.stepEv cfg e'.1 ev).1 := by
    intro sid st ev hst h
    rcases mem_setAny.mp h with ⟨h, _⟩ | ⟨rfl, _⟩
    · exact Or.inl h
    · exact Or.inr ⟨st, ev, hst, rfl⟩
  cases x with
  | frame sid f =>
    rw [step_frame] at h
    cases hr : s.returned with
    | some v =>
      unfold Srv.onFrame at h
      rw [hr, if_pos (show (some v).isSome = true from rfl)] at h; exact Or.inl h
    | none =>
      revert h
      refine Srv.onFrame_elim (motive := fun r => e' ∈ r.1.streams → _) cfg s sid f Or.inl
        (fun _ _ h => Or.inr (Or.inl (hret _ h))) (fun _ _ _ => Or.inl) (fun st m md rev win hf hlt hfresh h => ?_)
        (fun st hst h => (hset sid st (.frame f) (getStream_mem hst).1 h).imp id Or.inl)
      have h : e' ∈ s.streams ∨ e' = (sid, st) ∨ e' = (sid, (st.startRecv sid).1) := by
        split at h
        · exact (List.mem_append.mp h).imp id (fun h => Or.inr (List.mem_singleton.mp h))
        · exact (List.mem_append.mp h).imp id (fun h => Or.inl (List.mem_singleton.mp h))
      rcases h with h | rfl | rfl
      · exact Or.inl h
      · exact Or.inr (Or.inr ⟨rfl, hlt, st, m, md, rev, win, by rw [hf], hfresh, Or.inl rfl⟩)
      · exact Or.inr (Or.inr ⟨rfl, hlt, st, m, md, rev, win, by rw [hf], hfresh, Or.inr rfl⟩)
  | call sid c =>
    rw [step_call, Srv.onCall_eq] at h
    split at h
    · exact Or.inl h
    · rename_i st hst
      exact (hset sid st (.call c) (getAny_mem hst) h).imp id Or.inl
  | tick d =>
    rw [step_tick, tick_eq] at h
    obtain ⟨e, he, rfl⟩ := List.mem_map.mp h
    rcases tickOne_cases (s.now + d) e.1 e.2 with h1 | h1
    · exact Or.inl (by rw [h1]; exact he)
    · exact Or.inr (Or.inl ⟨e.2, .ctx .deadline, he, by rw [h1]; rfl⟩)
  | closing b => exact Or.inl h
  | carrierEnds err =>
    rw [step_carrierEnds] at h
    split at h
    · exact Or.inl h
    · exact Or.inr (Or.inl (hret _ h))

theorem allS_step {P : SStream α → Prop} {cfg : SCfg}
    (hstep : ∀ sid s ev, P s → P (SStream.stepEv cfg sid s ev).1)
    (hfresh : ∀ rev win dl st, Fresh cfg rev win dl st → P st)
    (s : Srv α) (x : SStim α) (h : ∀ e ∈ s.streams, P e.2) : ∀ e ∈ (s.step cfg x).1.streams, P e.2 := by
  intro e he
  rcases step_mem cfg s x he with h1 | ⟨st, ev, hst, heq⟩ | ⟨_, _, st0, m, md, rev, win, _, hf, heq | heq⟩
  · exact h e h1
  · rw [heq]; exact hstep _ _ _ (h _ hst)
  · rw [heq]; exact hfresh _ _ _ _ hf
  · rw [heq]; exact hstep _ _ _ (hfresh _ _ _ _ hf)

theorem step_returned (cfg : SCfg) (s : Srv α) (x : SStim α) :
    (s.step cfg x).1.returned = s.returned ∨ ∃ err, (s.step cfg x).1 = (s.serveReturns err).1 := by
  cases x with
  | frame sid f =>
    rw [step_frame]
    exact Srv.onFrame_elim (motive := fun r => r.1.returned = s.returned ∨ ∃ err, r.1 = (s.serveReturns err).1)
      cfg s sid f (Or.inl rfl) (fun _ _ => Or.inr ⟨_, rfl⟩) (fun _ _ _ => Or.inl rfl)
      (fun st _ _ _ _ _ _ _ => by split <;> exact Or.inl rfl) (fun _ _ => Or.inl rfl)
  | call sid c =>
    rw [step_call, Srv.onCall_eq]
    split <;> exact Or.inl rfl
  | tick d => rw [step_tick, tick_eq]; exact Or.inl rfl
  | closing b => exact Or.inl rfl
  | carrierEnds err =>
    rw [step_carrierEnds]
    split
    · exact Or.inl rfl
    · exact Or.inr ⟨_, rfl⟩

theorem allS_serveReturns {P : SStream α → Prop}
    (hctx : ∀ sid s e, P s → P (SStream.cancelCtx sid s e).1)
    (s : Srv α) (err : Option String) (h : ∀ e ∈ s.streams, P e.2) : ∀ e ∈ (s.serveReturns err).1.streams, P e.2 := by
  intro e he
  obtain ⟨st, hst, heq⟩ := serveReturns_mem he
  rw [heq]; exact hctx _ _ _ (h _ hst)

theorem allS_createStream {P : SStream α → Prop} {cfg : SCfg}
    (hstep : ∀ sid s ev, P s → P (SStream.stepEv cfg sid s ev).1)
    (hfresh : ∀ rev win dl st, Fresh cfg rev win dl st → P st)
    (s : Srv α) (sid : Sid) (m : List Nat) (md : MD) (rev : Int) (win : Nat) (h : ∀ e ∈ s.streams, P e.2) :
    ∀ e ∈ (s.createStream cfg sid m md rev win).1.streams, P e.2 := by
  refine createStream_elim (motive := fun r => ∀ e ∈ r.1.streams, P e.2) cfg s sid m md rev win
    (fun _ _ => allS_serveReturns (fun sid s e => hstep sid s (.ctx e)) s _ h) (fun _ _ _ _ _ => h)
    (fun st _ _ _ _ _ _ _ hf => ?_)
  have hst := hfresh _ _ _ _ hf
  split
  · exact List.forall_mem_append.mpr ⟨h, List.forall_mem_singleton.mpr (hstep sid st (.call .recv) hst)⟩
  · exact List.forall_mem_append.mpr ⟨h, List.forall_mem_singleton.mpr hst⟩

theorem allS_run {P : SStream α → Prop} {cfg : SCfg}
    (hstep : ∀ sid s ev, P s → P (SStream.stepEv cfg sid s ev).1)
    (hfresh : ∀ rev win dl st, Fresh cfg rev win dl st → P st)
    (xs : List (SStim α)) (s : Srv α) (h : ∀ e ∈ s.streams, P e.2) : ∀ e ∈ (Srv.run cfg s xs).1.streams, P e.2 :=
  run_keeps (P := fun s => ∀ e ∈ s.streams, P e.2) (allS_step hstep hfresh) xs s h

end Proofs.ServerOps
