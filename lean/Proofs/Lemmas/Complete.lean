import TunnelModel.LFrame.Trace
import Proofs.Lemmas.Framing
import Proofs.Lemmas.Delivery
import Proofs.Lemmas.Emission
import Proofs.Lemmas.ClientShape
import Proofs.Lemmas.Conformance
import Proofs.Lemmas.ServerOps
import Proofs.Lemmas.ClientOps
import Proofs.Props.C01

/-!
  C01, the COMPLETENESS half: "… what the receiver obtains is always a prefix of what was sent
  (`Proofs/Props/C01.lean`) and is COMPLETE whenever the receiver is told the stream ended OK."

  Both directions, at the level of one stream object per endpoint (`SStream.runEv` / `CStream.runEv`), for
  EVERY pair of event histories.  The carrier hypothesis is the FIFO one of `C01_*_prefix` with EQUALITY
  instead of prefix: all frames the sending stream emitted have been fed, in order, to the receiving stream.
  "Told OK" is the receiver's own observation, a `RecvMsg` that returned `io.EOF` (`sawRecvEof`,
  `sawRecvEofS`).  There is NO hypothesis "the handler returned OK" / "the caller half-closed": it is DERIVED
  (`client_eof_complete`: an `io.EOF` from `RecvMsg` means an OK close frame was fed; `ok_cause`: an OK close
  frame is only ever caused by `.call (.ret st)` with `st.code = 0`, by the unary `.call (.reply m)`, or by
  the window update that completes a blocked unary reply; `server_eof_complete` for the half-close frame).

  Which hypotheses are needed (the counter-examples are `decide`d in `Examples`):
  * `C01_response_ok_partial` (the caller's terminal result is OK) with only `cNoCancel` is FALSE.  The two
    stream objects are independent open systems; two more things make the caller end the RPC with an error
    although the handler returned OK and every frame arrived:
      - `noWinExceed`: the sender's window is driven by the window updates IT receives, nothing ties it to
        the caller's `rcv.rwin`.  Counter-example `cExW`, `sevsW`, `cevsW`: window 1, a 3-byte message,
        `done = some (.status ResourceExhausted)`.
      - `hss : c0.ss = false → (SEv.submitted sevs).length ≤ 1`: the two method descriptors agree on "the
        response is not streamed".  Counter-example `sevsM`, `cevsM`: the handler streams two messages, the
        caller's look-ahead read fails the RPC with `Internal`.
    Both are the two ways `C01_response_prefix` can stop short for a reason visible only at the receiver;
    hence `_partial`.  `C01_response_complete` needs neither (a caller that got `io.EOF` did not hit them).
  * Freshness: `SFreshR` asks `readErr = none ∧ halfClosed = none` for the invariant `RH` behind `ok_cause`:
    a unary method whose decode callback fails returns that very error, and from an arbitrary initial state
    it could be a status with code 0, i.e. an OK close frame not caused by the handler (no checked example
    for this one).
  * `C01_response_complete`: without `sNoCallAfterRet` a handler that sends after returning puts `headers,
    close, msg` on the wire and the caller reads `io.EOF` having missed the message; without `sAnyFailed =
    false` a handler that returns OK while its `SendMsg` is blocked (contract violation, the send is aborted
    with a reported error) closes the stream OK in the middle of a message, and the caller's `RecvMsg`
    returns `io.EOF` (the model, like the code, returns `loadDone()` when the receiver is closed and the
    queue is empty, whatever the reassembly state).

  Proof.  `run_until` lets a contract between the state before, the state after and the completions hold
  of a run up to its first exceptional event.  Receiver (client: `RR`, `PB`/`PreInv`, `QB`/`QInv`; server:
  `RRS`, `TQ`/`NE1`/`SQ`): `resumeRead_rr` / `resumeRead_rrs` describe one read EXACTLY in terms of `parse`
  and the accounting `Delivery.Acct`.  Phase 1: as long as the exceptional event has not come (an OK close
  frame at a stream without terminal result, `cevSwitch`; the half-close frame at a stream with a live
  context, `sevSwitch`) no read can return `io.EOF` (`eof_cause`, `run_tq`); when it comes,
  `Delivery.crunEv_inv` / `runEv_inv` give the accounting with NOTHING dropped (the receiver was open).
  Phase 2 (`QInv` / `SQ`): the reads drain the queue, and a read that returns `io.EOF` has emptied it;
  frames fed in phase 2 are dropped.  Sender and receiver contracts of the server (`SB`, `TQ`) are
  instances of one dispatch of a server event into operations (`SOp`, `SOp.stepEv`).
  Sender: server `srv_main` = `Emission.Inv` + `RH` + `Conformance.J` along the run, `ok_step` at the step
  that emits the OK close frame, then `Conformance.S5_settled_run`; client `client_halfClose_complete` =
  `Emission.client_emits_chunkings_full` + `Conformance.C3_aux` + C1 / C3 of `Conformance`.
-/

namespace Proofs.Complete
open TunnelModel TunnelModel.LFrame TunnelModel.Framing
open Proofs.Delivery
open Proofs.ServerOps (drained failWith opName deqErr)

variable {α : Type}

def isEof : Res α → Bool
  | .eof => true
  | _ => false

def isCloseOK : S2C α → Bool
  | .close st _ => st.code == 0
  | _ => false

def isUnset : S2C α → Bool
  | .unset => true
  | _ => false

def eofIn (ds : List (Sid × String × Res α)) : Bool :=
  ds.any (fun d => d.2.1 == "recv" && isEof d.2.2)

theorem eofIn_append (a b : List (Sid × String × Res α)) : eofIn (a ++ b) = (eofIn a || eofIn b) := by
  simp [eofIn, List.any_append]

@[simp] theorem eofIn_nil : eofIn ([] : List (Sid × String × Res α)) = false := rfl

theorem isEof_toRes (e : SErr) : isEof (e.toRes : Res α) = true ↔ e = .eof := by
  cases e <;> simp [SErr.toRes, isEof]

theorem eofIn_toRes_imp (sid : Sid) (n : String) (e : SErr)
    (h : eofIn [(sid, n, (e.toRes : Res α))] = true) : e = .eof := by
  simp only [eofIn, List.any_cons, List.any_nil, Bool.or_false, Bool.and_eq_true] at h
  exact (isEof_toRes e).mp h.2

theorem eofIn_recv_ne (sid : Sid) (e : SErr) (h : e ≠ .eof) :
    eofIn [(sid, "recv", (e.toRes : Res α))] = false :=
  Bool.eq_false_iff.mpr fun hx => h (eofIn_toRes_imp sid _ e hx)

theorem eofIn_single (sid : Sid) (n : String) {r : Res α} (h : isEof r = false) : eofIn [(sid, n, r)] = false := by
  simp [eofIn, h]

section Run
variable {σ ε ω β : Type} {step : σ → ε → σ × ω} {run : σ → List ε → σ × List ω} {fr : ω → List β}

/-- `Conformance.run_rel` up to the first exceptional event: `R` need only hold of a step whose event is
    not e`X`ceptional, taken in a state from which the remaining events are `L`egal. -/
theorem run_until (run_nil : ∀ s, run s [] = (s, []))
    (run_cons : ∀ s e es, run s (e :: es) = ((run (step s e).1 es).1, (step s e).2 :: (run (step s e).1 es).2))
    {R : σ → σ → List β → Prop} {L : σ → List ε → Prop} {X : σ → ε → Bool}
    (refl : ∀ s, R s s []) (seq : ∀ {s a b k1 k2}, R s a k1 → R a b k2 → R s b (k1 ++ k2))
    (hL : ∀ s e es, L s (e :: es) → L (step s e).1 es)
    (hstep : ∀ s e es, L s (e :: es) → X s e = false → R s (step s e).1 (fr (step s e).2)) :
    ∀ (evs : List ε) (s : σ), L s evs →
      R s (run s evs).1 ((run s evs).2.flatMap fr) ∨
      ∃ pre e post, evs = pre ++ e :: post ∧ X (run s pre).1 e = true ∧ L (run s pre).1 (e :: post) ∧
        R s (run s pre).1 ((run s pre).2.flatMap fr)
  | [], s, _ => by rw [run_nil]; exact Or.inl (refl s)
  | e :: es, s, h => by
    cases hx : X s e with
    | true =>
      exact Or.inr ⟨[], e, es, rfl, by rw [run_nil]; exact hx, by rw [run_nil]; exact h, by rw [run_nil]; exact refl s⟩
    | false =>
      have h1 := hstep s e es h hx
      rcases run_until run_nil run_cons refl seq hL hstep es _ (hL s e es h) with
        h2 | ⟨pre, e', post, rfl, hx', hl', h2⟩
      · rw [run_cons, List.flatMap_cons]; exact Or.inl (seq h1 h2)
      · refine Or.inr ⟨e :: pre, e', post, rfl, ?_, ?_, ?_⟩ <;> rw [run_cons]
        · exact hx'
        · exact hl'
        · rw [List.flatMap_cons]; exact seq h1 h2

theorem guard_append (run_nil : ∀ s, run s [] = (s, []))
    (run_cons : ∀ s e es, run s (e :: es) = ((run (step s e).1 es).1, (step s e).2 :: (run (step s e).1 es).2))
    {legal : σ → List ε → Bool} {g : σ → ε → Bool} (legal_nil : ∀ s, legal s [] = true)
    (legal_cons : ∀ s e es, legal s (e :: es) = (g s e && legal (step s e).1 es)) (post : List ε) :
    ∀ (pre : List ε) (s : σ), legal s (pre ++ post) = (legal s pre && legal (run s pre).1 post)
  | [], s => by rw [List.nil_append, legal_nil, run_nil, Bool.true_and]
  | e :: es, s => by
    rw [List.cons_append, legal_cons, legal_cons, guard_append run_nil run_cons legal_nil legal_cons post es,
      run_cons, Bool.and_assoc]

end Run

theorem split_unique {β : Type} {p : β → Bool} {x y : β} {a b a' b' : List β} (h : a' ++ x :: b' = a ++ y :: b)
    (hx : p x = true) (ha : ∀ f ∈ a, p f = false) (hb : ∀ f ∈ b, p f = false) :
    a' = a ∧ x = y ∧ b' = b := by
  rcases List.append_eq_append_iff.mp h with ⟨c, h1, h2⟩ | ⟨c, h1, h2⟩
  · cases c with
    | nil =>
      rw [List.nil_append, List.cons.injEq] at h2
      exact ⟨by rw [h1, List.append_nil], h2.1, h2.2⟩
    | cons z c =>
      rw [List.cons_append, List.cons.injEq] at h2
      rw [ha x (by rw [h1, ← h2.1]; exact List.mem_append_right _ (List.mem_cons_self ..))] at hx
      cases hx
  · cases c with
    | nil =>
      rw [List.nil_append, List.cons.injEq] at h2
      exact ⟨by rw [h1, List.append_nil], h2.1.symm, h2.2.symm⟩
    | cons z c =>
      rw [List.cons_append, List.cons.injEq] at h2
      rw [hb x (by rw [h2.2]; exact List.mem_append_right _ (List.mem_cons_self ..))] at hx
      cases hx

theorem others_not {β : Type} {p : β → Bool} {a b : List β} {x : β} (hx : p x = true)
    (h : ((a ++ x :: b).filter p).length ≤ 1) : (∀ f ∈ a, p f = false) ∧ ∀ f ∈ b, p f = false := by
  rw [List.filter_append, List.filter_cons_of_pos hx, List.length_append, List.length_cons] at h
  have ha : (a.filter p).length = 0 := by omega
  have hb : (b.filter p).length = 0 := by omega
  exact ⟨fun f hf => Bool.eq_false_iff.mpr (List.filter_eq_nil_iff.mp (List.eq_nil_of_length_eq_zero ha) f hf),
    fun f hf => Bool.eq_false_iff.mpr (List.filter_eq_nil_iff.mp (List.eq_nil_of_length_eq_zero hb) f hf)⟩

/-- the data fed so far cannot come from a well-behaved sender -/
def BadData (ss : Bool) (la : Bool) (acc : List (DFrame α)) : Prop :=
  (∃ ms e, parse none acc = (ms, .error e)) ∨ ((ss = false ∨ la = true) ∧ 2 ≤ (parse none acc).1.length)

/-- a read is in progress and holds a complete first message while its eager second read runs -/
def hasLA (pr : Option (PRead α)) : Bool :=
  match pr with
  | some p => p.lookahead.isSome
  | none => false

/-- what one read pass (`resumeRead`) of the client does, in three cases (`cases`).  `live`: it delivered
    what `parse` says and is ready to go on; `end`: the queue ran dry on a closed (or cancelled) receiver and
    the read returned the terminal result `done.getD .eof` (after handing over the message held by the
    look-ahead, if the terminal result is `io.EOF`); `err`: the frames do not reassemble (or a second
    response arrived for a non-server-stream method). -/
structure RR (s : CStream α) (r : CStream α × COut α × Option SErr) : Prop where
  done : r.1.done = s.done
  closed : r.1.rcv.closed = s.rcv.closed
  cancelled : r.1.rcv.cancelled = s.rcv.cancelled
  ss : r.1.ss = s.ss
  la : hasLA r.1.pread = true → (s.ss = false ∨ hasLA s.pread = true)
  cases :
    (r.1.readErr = s.readErr ∧ eofIn r.2.1.dones = false ∧ r.2.2 = none ∧
      ∀ acc del, Acct s.rcv.queue false s.pread acc del →
        Acct r.1.rcv.queue false r.1.pread acc (del ++ msgsOfDones r.2.1.dones)) ∨
    ((s.rcv.closed || s.rcv.cancelled) = true ∧ r.1.readErr = some (s.done.getD .eof) ∧ r.1.pread = none ∧
      r.1.rcv.queue = [] ∧ r.2.2 = none ∧
      (eofIn r.2.1.dones = true → s.done.getD .eof = .eof) ∧
      (s.done.getD .eof = .eof → ∀ acc del, Acct s.rcv.queue false s.pread acc del →
        (parse none acc).1 = del ++ msgsOfDones r.2.1.dones)) ∨
    (∃ e, e ≠ .eof ∧ r.1.readErr = some e ∧ r.1.pread = none ∧ eofIn r.2.1.dones = false ∧ r.2.2 = some e ∧
      ∀ acc del, Acct s.rcv.queue false s.pread acc del → BadData s.ss (hasLA s.pread) acc)

theorem RR.refl (s : CStream α) : RR s (s, {}, none) :=
  ⟨rfl, rfl, rfl, rfl, fun h => Or.inr h,
   Or.inl ⟨rfl, rfl, rfl, fun acc del h => by simpa using h⟩⟩

theorem cperrStatus_ne_eof (e : PErr) : cperrStatus e ≠ .eof := by
  cases e <;> simp [cperrStatus]

theorem Acct.bad_err {q q' taken : List (DFrame α)} {p : PRead α} {acc : List (DFrame α)}
    {del : List (List α)} {e : PErr} (h : Acct q false (some p) acc del) (hq : q = taken ++ q')
    (hp : parse p.rst taken = ([], .error e)) (ss la : Bool) : BadData ss la acc := by
  obtain ⟨consumed, rest, hf, hr, hpc⟩ := h
  left
  have h1 : parse none (consumed ++ taken) = (del ++ held (some p), .error e) := by
    rw [Proofs.Framing.parse_append_ok hpc, show rstOf (some p) = p.rst from rfl, hp]
    simp
  refine ⟨del ++ held (some p), e, ?_⟩
  rw [hf, hq, List.append_assoc, ← List.append_assoc consumed taken]
  exact parse_append_err h1 _

theorem Acct.bad_two {q q' taken : List (DFrame α)} {p : PRead α} {acc : List (DFrame α)}
    {del : List (List α)} {m m2 : List α} (h : Acct q false (some p) acc del) (hq : q = taken ++ q')
    (hl : p.lookahead = some m) (hp : parse p.rst taken = ([m2], .ok none)) (ss : Bool) :
    BadData ss true acc := by
  obtain ⟨consumed, rest, hf, hr, hpc⟩ := h
  right
  refine ⟨Or.inr rfl, ?_⟩
  have h1 : parse none (consumed ++ taken) = (del ++ [m] ++ [m2], .ok none) := by
    rw [Proofs.Framing.parse_append_ok hpc, show rstOf (some p) = p.rst from rfl, hp]
    simp [held, hl]
  have h2 := parse_msgs_prefix none (consumed ++ taken) (q' ++ rest)
  rw [h1] at h2
  have h3 : acc = (consumed ++ taken) ++ (q' ++ rest) := by rw [hf, hq]; simp
  rw [h3]
  have := h2.length_le
  simp only [List.length_append, List.length_cons, List.length_nil] at this
  omega

theorem resumeRead_rr (sid : Sid) : ∀ (fuel : Nat) (s : CStream α), RR s (s.resumeRead sid fuel) := by
  intro fuel
  induction fuel with
  | zero => exact RR.refl
  | succ n ih =>
    intro s
    cases hp : s.pread with
    | none => rw [ClientOps.resumeRead_none sid _ s hp]; exact RR.refl s
    | some p =>
      rcases hr : readLoop s.rcv.rwin s.rcv.queue p.rst with ⟨w, q, cr, out⟩
      obtain ⟨taken, r, hq, rfl, hout⟩ := readLoop_spec _ _ _ _ _ _ _ hr
      have hla : hasLA s.pread = p.lookahead.isSome := by rw [hp]; rfl
      have hA : ∀ {acc del}, Acct s.rcv.queue false s.pread acc del → Acct s.rcv.queue false (some p) acc del :=
        fun ha => hp ▸ ha
      cases r with
      | cont st' =>
        obtain ⟨hq', -⟩ := hout
        cases hc : (s.rcv.closed || s.rcv.cancelled) with
        | false =>
          rw [ClientOps.resumeRead_blocked hp hr hc]
          refine ⟨rfl, rfl, rfl, rfl, fun h => Or.inr (hla ▸ h), Or.inl ⟨rfl, rfl, rfl, fun acc del ha => ?_⟩⟩
          show Acct q false (some { lookahead := p.lookahead, rst := st' }) acc (del ++ [])
          rw [List.append_nil]
          exact (hA ha).read_cont hr rfl
        | true =>
          have hend : ∀ acc del, Acct s.rcv.queue false s.pread acc del → (parse none acc).1 = del ++ held (some { p with rst := st' }) :=
            fun acc del ha => Acct.eof_result ((hA ha).read_cont (st' := st') hr rfl) hq'
          by_cases hd : s.done.getD .eof = .eof
          · cases hl : p.lookahead with
            | some m =>
              rw [ClientOps.resumeRead_ended_msg hp hr hc hl hd]
              refine ⟨rfl, rfl, rfl, rfl, nofun, Or.inr (Or.inl ⟨hc, by rw [hd], rfl, hq', rfl, fun _ => hd,
                fun _ acc del ha => ?_⟩)⟩
              rw [hend acc del ha]
              simp only [held, hl]; rfl
            | none =>
              rw [ClientOps.resumeRead_ended hp hr hc (.inl hl)]
              refine ⟨rfl, rfl, rfl, rfl, nofun, Or.inr (Or.inl ⟨hc, rfl, rfl, hq', rfl, fun _ => hd,
                fun _ acc del ha => ?_⟩)⟩
              rw [hend acc del ha, msgsOfDones_toRes]
              simp only [held, hl]
          · rw [ClientOps.resumeRead_ended hp hr hc (.inr hd)]
            exact ⟨rfl, rfl, rfl, rfl, nofun, Or.inr (Or.inl ⟨hc, rfl, rfl, hq', rfl,
              fun h => eofIn_toRes_imp _ _ _ h, fun h => absurd h hd⟩)⟩
      | msg m =>
        cases hl : p.lookahead with
        | some m0 =>
          rw [ClientOps.resumeRead_second hp hr hl]
          exact ⟨rfl, rfl, rfl, rfl, nofun, Or.inr (Or.inr ⟨ClientOps.secondResponse, nofun, rfl, rfl, eofIn_recv_ne _ _ nofun, rfl,
            fun acc del ha => by rw [hla, hl]; exact Acct.bad_two (hA ha) hq hl hout _⟩)⟩
        | none =>
          cases hss : s.ss with
          | true =>
            rw [ClientOps.resumeRead_msg hp hr hl hss]
            exact ⟨rfl, rfl, rfl, rfl, nofun, Or.inl ⟨rfl, eofIn_single _ _ rfl, rfl,
              fun acc del ha => ((hA ha).read_msg hr rfl hl).1⟩⟩
          | false =>
            rw [ClientOps.resumeRead_look hp hr hl hss]
            have h2 := ih ({ s with rcv := ClientOps.readRcv s w q, pread := some { lookahead := some m, rst := none } } :
              CStream α)
            have hacc : ∀ acc del, Acct s.rcv.queue false s.pread acc del →
                Acct q false (some { lookahead := some m, rst := none }) acc del :=
              fun acc del ha => ((hA ha).read_msg hr rfl hl).2
            refine ⟨h2.done, h2.closed, h2.cancelled, h2.ss, fun _ => Or.inl hss, ?_⟩
            rcases h2.cases with ⟨a1, a2, a3, a4⟩ | ⟨a1, a2, a3, a4, a5, a6, a7⟩ | ⟨e', a1, a2, a3, a4, a5, a6⟩
            · exact Or.inl ⟨a1, a2, a3, fun acc del ha => a4 acc del (hacc acc del ha)⟩
            · exact Or.inr (Or.inl ⟨a1, a2, a3, a4, a5, a6, fun heof acc del ha => a7 heof acc del (hacc acc del ha)⟩)
            · refine Or.inr (Or.inr ⟨e', a1, a2, a3, a4, a5, fun acc del ha => ?_⟩)
              rcases a6 acc del (hacc acc del ha) with h | ⟨_, h⟩
              · exact Or.inl h
              · exact Or.inr ⟨Or.inl hss, h⟩
      | err e =>
        rw [ClientOps.resumeRead_perr hp hr]
        exact ⟨rfl, rfl, rfl, rfl, nofun, Or.inr (Or.inr ⟨_, cperrStatus_ne_eof e, rfl, rfl,
          eofIn_recv_ne _ _ (cperrStatus_ne_eof e), rfl, fun acc del ha => Acct.bad_err (hA ha) hq hout _ _⟩)⟩

/-- the part of the phase-1 invariant `PreInv` that every building block keeps -/
def PreInv0 (s : CStream α) : Prop :=
  s.done ≠ some .eof ∧ s.readErr ≠ some .eof ∧
  ((s.rcv.closed = true ∨ s.rcv.cancelled = true) → s.done.isSome = true) ∧
  (hasLA s.pread = true → s.ss = false)

/-- the contract of a client building block in phase 1.  `re`: a block re-establishes "a sticky
    read error only on a stream with a terminal result", the part of `PreInv` that fails in the
    middle of `finishStream` -/
structure PB (s : CStream α) (r : CStream α × COut α) : Prop where
  inv : PreInv0 s → PreInv0 r.1
  noeof : PreInv0 s → eofIn r.2.dones = false
  keep : ∀ d, s.done = some d → r.1.done = some d
  re : PreInv0 s → (s.readErr.isSome = true → s.done.isSome = true) →
    r.1.readErr.isSome = true → r.1.done.isSome = true

theorem PB.refl (s : CStream α) : PB s (s, {}) :=
  ⟨id, fun _ => rfl, fun _ h => h, fun _ h => h⟩

theorem PB.seq {s : CStream α} {r1 r2 : CStream α × COut α} (h1 : PB s r1) (h2 : PB r1.1 r2) :
    PB s (r2.1, r1.2.add r2.2) :=
  ⟨fun hi => h2.inv (h1.inv hi),
   fun hi => by
     show eofIn (r1.2.dones ++ r2.2.dones) = false
     rw [eofIn_append, h1.noeof hi, h2.noeof (h1.inv hi)]; rfl,
   fun d hd => h2.keep d (h1.keep d hd),
   fun hi hr => h2.re (h1.inv hi) (h1.re hi hr)⟩

theorem PB.dones {s : CStream α} {r : CStream α × COut α} (h : PB s r) : PB s (r.1, { dones := r.2.dones }) :=
  ⟨h.inv, h.noeof, h.keep, h.re⟩

theorem PB.of_fields {s : CStream α} {r : CStream α × COut α} (hd : r.1.done = s.done)
    (hre : r.1.readErr = s.readErr) (hc : r.1.rcv.closed = s.rcv.closed)
    (hx : r.1.rcv.cancelled = s.rcv.cancelled) (hp : r.1.pread = s.pread) (hss : r.1.ss = s.ss)
    (ho : eofIn r.2.dones = false) : PB s r :=
  ⟨fun ⟨h1, h2, h3, h4⟩ => ⟨by rw [hd]; exact h1, by rw [hre]; exact h2,
      by rw [hc, hx, hd]; exact h3, by rw [hp, hss]; exact h4⟩,
   fun _ => ho, fun d h => by rw [hd]; exact h,
   fun _ h => by rw [hre, hd]; exact h⟩

theorem getD_of_isSome {s : CStream α} (h : s.done.isSome = true) : s.done = some (s.done.getD .eof) := by
  cases hd : s.done with
  | none => rw [hd] at h; cases h
  | some d => rfl

theorem rr_pre {s : CStream α} {r : CStream α × COut α × Option SErr} (h : RR s r) (hi : PreInv0 s) :
    PreInv0 r.1 ∧ eofIn r.2.1.dones = false ∧
    (r.2.2 = none → (s.readErr.isSome = true → s.done.isSome = true) →
      r.1.readErr.isSome = true → r.1.done.isSome = true) ∧
    (∀ e, r.2.2 = some e → e ≠ .eof) := by
  obtain ⟨h1, h2, h3, h4⟩ := hi
  have hla : hasLA r.1.pread = true → r.1.ss = false := by
    intro hl
    rw [h.ss]
    rcases h.la hl with h' | h'
    · exact h'
    · exact h4 h'
  have hcl : (r.1.rcv.closed = true ∨ r.1.rcv.cancelled = true) → r.1.done.isSome = true := by
    rw [h.closed, h.cancelled, h.done]; exact h3
  rcases h.cases with ⟨a1, a2, a3, _⟩ | ⟨a1, a2, a3, a4, a5, a6, _⟩ | ⟨e, a1, a2, a3, a4, a5, _⟩
  · refine ⟨⟨by rw [h.done]; exact h1, by rw [a1]; exact h2, hcl, hla⟩, a2, fun _ hr => ?_, fun e he => ?_⟩
    · rw [a1, h.done]; exact hr
    · rw [a3] at he; cases he
  · have hds : s.done.isSome = true := h3 (by simpa [Bool.or_eq_true] using a1)
    have hne : s.done.getD .eof ≠ .eof := fun hh => h1 (by rw [getD_of_isSome hds, hh])
    refine ⟨⟨by rw [h.done]; exact h1, by rw [a2]; exact fun hh => hne (Option.some.inj hh), hcl, hla⟩, ?_,
      fun _ _ _ => by rw [h.done]; exact hds, fun e he => by rw [a5] at he; cases he⟩
    cases hx : eofIn r.2.1.dones with
    | false => rfl
    | true => exact absurd (a6 hx) hne
  · refine ⟨⟨by rw [h.done]; exact h1, by rw [a2]; exact fun hh => a1 (Option.some.inj hh), hcl, hla⟩, a4,
      (fun hn => by rw [a5] at hn; cases hn), fun e' he => ?_⟩
    rw [a5] at he
    cases he
    exact a1

theorem ctxEnds_pb (sid : Sid) (s : CStream α) (e : CtxErr) (b : Bool) : PB s (s.ctxEnds sid e b) := by
  cases hc : s.ctxDone with
  | some c => rw [ClientOps.ctxEnds_done sid s e b (ClientOps.isSome_of_eq_some hc)]; exact PB.refl s
  | none =>
    rw [ClientOps.ctxEnds_eq sid s e b hc]
    refine PB.of_fields rfl rfl rfl rfl rfl rfl ?_
    show eofIn (_ ++ _) = false
    rw [eofIn_append]
    cases s.psend <;> cases s.pheader <;> rfl

theorem mapFinishErr_ne_eof {err : Option SErr} (h : err ≠ none) (h' : err ≠ some .eof) :
    mapFinishErr err ≠ .eof := by
  cases err with
  | none => exact absurd rfl h
  | some e =>
    cases e with
    | eof => exact absurd rfl h'
    | ctx c => cases c <;> nofun
    | status st => nofun
    | plain t => nofun

theorem finish_pb (sid : Sid) (s : CStream α) (err : Option SErr) (tr : MD)
    (he : s.done = none → mapFinishErr err ≠ .eof) :
    PB s ((s.finish sid err tr).1, (s.finish sid err tr).2.1) ∧
    (s.finish sid err tr).1.done.isSome = true := by
  cases hd : s.done with
  | some d =>
    rw [ClientOps.finish_done sid s err tr (ClientOps.isSome_of_eq_some hd)]
    exact ⟨PB.refl s, ClientOps.isSome_of_eq_some hd⟩
  | none =>
    rw [ClientOps.finish_eq sid s err tr hd]
    have hrr := resumeRead_rr sid 3 (ClientOps.finPre s err tr)
    have hpre : PreInv0 s → PreInv0 (ClientOps.finPre s err tr) :=
      fun ⟨_, h2, _, h4⟩ => ⟨fun hh => he hd (Option.some.inj hh), h2, fun _ => rfl, h4⟩
    have hdone : ((ClientOps.finPre s err tr).resumeRead sid 3).1.done = some (mapFinishErr err) := hrr.done
    have hb1 : PB s (((ClientOps.finPre s err tr).resumeRead sid 3).1,
        ({ dones := if s.pheader then [(sid, "header", Res.md s.headers)] else [] } : COut α).add
          ((ClientOps.finPre s err tr).resumeRead sid 3).2.1) := by
      refine ⟨fun hi => (rr_pre hrr (hpre hi)).1, fun hi => ?_, (fun d h => by rw [hd] at h; cases h),
        (fun _ _ _ => by rw [hdone]; rfl)⟩
      show eofIn (_ ++ _) = false
      rw [eofIn_append, (rr_pre hrr (hpre hi)).2.1]
      cases s.pheader <;> rfl
    have hb2 := ctxEnds_pb sid ((ClientOps.finPre s err tr).resumeRead sid 3).1 .canceled false
    exact ⟨hb1.seq hb2, by rw [hb2.keep _ hdone]; rfl⟩

theorem cancelStream_pb (sid : Sid) (s : CStream α) (err : SErr) (he : err ≠ .eof) :
    PB s (s.cancelStream sid err) ∧ (s.cancelStream sid err).1.done.isSome = true := by
  cases hd : s.done with
  | some d =>
    rw [ClientOps.cancelStream_done sid s err (ClientOps.isSome_of_eq_some hd)]
    exact ⟨PB.refl s, ClientOps.isSome_of_eq_some hd⟩
  | none =>
    rw [ClientOps.cancelStream_eq sid s err hd]
    obtain ⟨hf, hfd⟩ := finish_pb sid s (some err) [] (fun _ => mapFinishErr_ne_eof nofun (fun h => he (Option.some.inj h)))
    -- the cancel frame and the cancelled receiver: by now the RPC has its terminal result
    exact ⟨hf.seq (r2 := (_, _)) ⟨fun ⟨h1, h2, _, h4⟩ => ⟨h1, h2, fun _ => hfd, h4⟩, fun _ => rfl, fun _ h => h,
      fun _ h => h⟩, hfd⟩

theorem afterRead_pb (sid : Sid) (fuel : Nat) (s : CStream α) :
    PB s (CStream.afterRead sid (s.resumeRead sid fuel)) := by
  have hrr := resumeRead_rr sid fuel s
  rw [ClientOps.afterRead_eq]
  split
  · rename_i hn
    exact ⟨fun hi => (rr_pre hrr hi).1, fun hi => (rr_pre hrr hi).2.1, fun d h => by rw [hrr.done]; exact h,
      fun hi hr => (rr_pre hrr hi).2.2.1 hn hr⟩
  · rename_i e hs
    have hb := fun hi => cancelStream_pb sid (s.resumeRead sid fuel).1 e ((rr_pre hrr hi).2.2.2 e hs)
    refine ⟨fun hi => (hb hi).1.inv (rr_pre hrr hi).1, fun hi => ?_, fun d h => ?_, fun hi _ _ => (hb hi).2⟩
    · show eofIn (_ ++ _) = false
      rw [eofIn_append, (rr_pre hrr hi).2.1, (hb hi).1.noeof (rr_pre hrr hi).1]; rfl
    · rw [ClientOps.cancelStream_done sid _ e (by rw [hrr.done, h]; rfl), hrr.done]; exact h

theorem ctxCancelled_pb (sid : Sid) (s : CStream α) (e : CtxErr) : PB s (s.ctxCancelled sid e) := by
  cases hc : s.ctxDone with
  | some c => rw [ClientOps.ctxCancelled_done sid s e (ClientOps.isSome_of_eq_some hc)]; exact PB.refl s
  | none =>
    rw [ClientOps.ctxCancelled_eq sid s e hc]
    exact (ctxEnds_pb sid s e _).seq (cancelStream_pb sid _ (.ctx e) nofun).1

theorem read_pb (sid : Sid) {s s₁ : CStream α} (hp : ClientOps.ReadPrep s s₁) :
    PB s (CStream.afterRead sid (s₁.resumeRead sid 3)) := by
  have h := afterRead_pb sid 3 s₁
  have hi : PreInv0 s → PreInv0 s₁ := by
    intro hi
    cases hp with
    | accepted df r _ ha =>
      obtain ⟨h1, h2, h3, h4⟩ := hi
      rcases accept_cases s.rcv df with ⟨_, hx⟩ | ⟨_, _, hx⟩ | ⟨_, hx⟩ <;> rw [hx] at ha <;> cases ha
      exact ⟨h1, h2, h3, h4⟩
    | queued df _ _ _ => exact hi
    | recv _ => exact ⟨hi.1, hi.2.1, hi.2.2.1, nofun⟩
  have hd : s₁.done = s.done := by cases hp <;> rfl
  have hre : s₁.readErr = s.readErr := by cases hp <;> rfl
  exact ⟨fun h' => h.inv (hi h'), fun h' => h.noeof (hi h'), fun d h' => h.keep d (hd ▸ h'),
    fun h' hr => h.re (hi h') (by rw [hre, hd]; exact hr)⟩

theorem sent_pb {sid : Sid} {s s' : CStream α} {o : COut α} (h : ClientOps.Sent sid s s' o) : PB s (s', o) := by
  cases h <;> exact PB.of_fields rfl rfl rfl rfl rfl rfl rfl

/-- a close frame with an OK status arrives at a stream that has no terminal result yet: the only
    event after which a `RecvMsg` can return `io.EOF` -/
def cevSwitch (s : CStream α) : CEv α → Bool
  | .frame f => isCloseOK f && s.done.isNone
  | _ => false

theorem cevSwitch_elim {s : CStream α} {e : CEv α} (h : cevSwitch s e = true) :
    ∃ st tr, e = .frame (.close st tr) ∧ st.code = 0 ∧ s.done = none := by
  cases e with
  | frame f =>
    cases f with
    | close st tr =>
      simp only [cevSwitch, isCloseOK, Bool.and_eq_true, beq_iff_eq, Option.isNone_iff_eq_none] at h
      exact ⟨st, tr, rfl, h.1, h.2⟩
    | _ => cases h
  | call c => cases h
  | ctx c => cases h

theorem finishes_not_ok {s : CStream α} {e : CEv α} {err : Option SErr} (h : cevSwitch s e = false)
    (hf : ClientOps.evFinishes e err) (hd : s.done = none) : mapFinishErr err ≠ .eof := by
  cases e with
  | frame f =>
    cases hf with
    | close st tr =>
      have hc : st.code ≠ 0 := by simpa [cevSwitch, isCloseOK, hd] using h
      rw [statusErr, if_neg hc]
      exact mapFinishErr_ne_eof nofun nofun
    | _ => exact mapFinishErr_ne_eof nofun nofun
  | call c => cases hf
  | ctx c => cases hf

theorem opE_pb {pumps : Bool} {sid : Sid} {s s' : CStream α} {o : COut α}
    (h : ClientOps.OpE (fun err => mapFinishErr err ≠ .eof) pumps sid s s' o) : PB s (s', o) := by
  cases h with
  | finish s err tr hE => exact (finish_pb sid s err tr hE).1
  | ctx s e => exact ctxCancelled_pb sid s e
  | read hp => exact read_pb sid hp
  | sent _ cfg snd => exact sent_pb (ClientOps.pumpSend_sent cfg sid s snd)
  | upd h =>
    cases h with
    | headers md _ => exact PB.of_fields rfl rfl rfl rfl rfl rfl (by cases s.pheader <;> rfl)
    | _ => exact PB.of_fields rfl rfl rfl rfl rfl rfl rfl
  | completes h =>
    cases h with
    | recvErr e he =>
      -- the sticky error of an earlier read, which was not `io.EOF`
      exact ⟨id, fun hi => eofIn_recv_ne sid e (fun hh => hi.2.1 (by rw [he, hh])), fun _ h => h, fun _ h => h⟩
    | _ => exact PB.of_fields rfl rfl rfl rfl rfl rfl rfl

theorem stepEv_pb (cfg : CCfg) (sid : Sid) (s : CStream α) (e : CEv α)
    (h : cevSwitch s e = false) : PB s (s.stepEv cfg sid e) :=
  ClientOps.Chain.fold (R := fun s s' o => PB s (s', o)) PB.refl (fun h1 h2 => PB.seq h1 h2) opE_pb
    (ClientOps.stepEv_opsE (pumps := true) cfg sid s e (fun _ => rfl) (fun _ hf hd => finishes_not_ok h hf hd))

/-- some `RecvMsg` of the run returned `io.EOF`: the caller is told the stream ended OK -/
def sawRecvEof (outs : List (COut α)) : Bool := outs.any (fun o => eofIn o.dones)

theorem sawRecvEof_append (a b : List (COut α)) : sawRecvEof (a ++ b) = (sawRecvEof a || sawRecvEof b) :=
  List.any_append

theorem sawRecvEof_cons (o : COut α) (os : List (COut α)) :
    sawRecvEof (o :: os) = (eofIn o.dones || sawRecvEof os) := rfl

theorem eofIn_flatMap (outs : List (COut α)) : eofIn (outs.flatMap (·.dones)) = sawRecvEof outs :=
  List.any_flatMap

theorem msgsOfDones_flatMap (outs : List (COut α)) :
    msgsOfDones (outs.flatMap (·.dones)) = COut.deliveredMsgs outs :=
  List.filterMap_flatMap

/-- the phase-1 invariant, with the part that holds between two steps only -/
def PreInv (s : CStream α) : Prop :=
  PreInv0 s ∧ (s.readErr.isSome = true → s.done.isSome = true)

theorem run_pb (cfg : CCfg) (sid : Sid) (evs : List (CEv α)) (s : CStream α) :
    PB s ((CStream.runEv cfg sid s evs).1, { dones := (CStream.runEv cfg sid s evs).2.flatMap (·.dones) }) ∨
    ∃ pre e post, evs = pre ++ e :: post ∧ cevSwitch (CStream.runEv cfg sid s pre).1 e = true ∧
      PB s ((CStream.runEv cfg sid s pre).1, { dones := (CStream.runEv cfg sid s pre).2.flatMap (·.dones) }) := by
  rcases run_until (step := fun s e => s.stepEv cfg sid e) (run := CStream.runEv cfg sid) (fr := (·.dones))
      (R := fun s s' ds => PB s (s', { dones := ds })) (L := fun _ _ => True) (X := cevSwitch)
      (fun _ => rfl) (fun _ _ _ => rfl) PB.refl (fun h1 h2 => PB.seq h1 h2) (fun _ _ _ _ => trivial)
      (fun s e _ _ hx => (stepEv_pb cfg sid s e hx).dones) evs s trivial with h | ⟨pre, e, post, h1, h2, _, h3⟩
  · exact Or.inl h
  · exact Or.inr ⟨pre, e, post, h1, h2, h3⟩

/-- **why a `RecvMsg` returns `io.EOF`**: a close frame with an OK status has arrived at a stream
    that had no terminal result; before it no read returned `io.EOF` -/
theorem eof_cause (cfg : CCfg) (sid : Sid) (s : CStream α) (hi : PreInv s) (evs : List (CEv α))
    (heof : sawRecvEof (CStream.runEv cfg sid s evs).2 = true) :
    ∃ pre st tr post, evs = pre ++ .frame (.close st tr) :: post ∧ st.code = 0 ∧
      (CStream.runEv cfg sid s pre).1.done = none ∧ PreInv (CStream.runEv cfg sid s pre).1 ∧
      sawRecvEof (CStream.runEv cfg sid s pre).2 = false := by
  rcases run_pb cfg sid evs s with h | ⟨pre, e, post, rfl, hx, h⟩
  · have := h.noeof hi.1
    rw [show eofIn _ = _ from eofIn_flatMap _, heof] at this
    cases this
  · obtain ⟨st, tr, rfl, hst, hd⟩ := cevSwitch_elim hx
    exact ⟨pre, st, tr, post, rfl, hst, hd, ⟨h.inv hi.1, h.re hi.1 hi.2⟩, (eofIn_flatMap _).symm.trans (h.noeof hi.1)⟩

theorem crun_keeps_done (cfg : CCfg) (sid : Sid) (evs : List (CEv α)) (s : CStream α) (d : SErr)
    (hd : s.done = some d) : (CStream.runEv cfg sid s evs).1.done = some d := by
  rcases run_pb cfg sid evs s with h | ⟨pre, e, post, _, hx, h⟩
  · exact h.keep d hd
  · obtain ⟨_, _, _, _, hn⟩ := cevSwitch_elim hx
    rw [h.keep d hd] at hn
    cases hn

theorem CFresh.preInv {s0 : CStream α} (h : CFresh s0) : PreInv s0 := by
  obtain ⟨_, hc, hx, he, hp, hd, _⟩ := h
  refine ⟨⟨by rw [hd]; simp, by rw [he]; simp, ?_, by rw [hp]; intro h; cases h⟩, by rw [he]; intro h; cases h⟩
  rw [hc, hx]; intro h; rcases h with h | h <;> cases h

theorem acct_of_open {s : CStream α} {fed : List (DFrame α)} {del : List (List α)} (hci : CInv s fed del)
    (hpi : PreInv s) (hd : s.done = none) :
    s.readErr = none ∧ s.rcv.closed = false ∧ Acct s.rcv.queue false s.pread fed del := by
  have hre : s.readErr = none := by
    cases hr : s.readErr with
    | none => rfl
    | some e => have := hpi.2 (by rw [hr]; rfl); rw [hd] at this; cases this
  have hcl : s.rcv.closed = false := by
    cases hc : s.rcv.closed with
    | false => rfl
    | true => have := hpi.1.2.2.1 (Or.inl hc); rw [hd] at this; cases this
  refine ⟨hre, hcl, ?_⟩
  have h2 := hci.2
  rw [hre, hcl] at h2
  rcases h2 with ⟨_, hb, _⟩ | ⟨_, ha⟩
  · cases hb
  · exact ha

/-- the RPC ended OK (`done = some .eof`): either the reads are still going
    through the queue (`acc`: the data accepted while the receiver was open),
    or a read has returned `io.EOF` and then EVERYTHING accepted has been
    delivered, or the reads have failed (and none returned `io.EOF`).
    Ghosts: `del` the messages delivered so far, `saw` whether a `RecvMsg` has returned `io.EOF`
    so far.  (Not `Teardown.QInv`, which is about the tear-down of the tunnel.) -/
def QInv (s : CStream α) (acc : List (DFrame α)) (del : List (List α)) (saw : Bool) : Prop :=
  s.done = some .eof ∧ s.rcv.closed = true ∧ s.pread = none ∧
  ((s.readErr = none ∧ saw = false ∧ Acct s.rcv.queue false none acc del) ∨
   (s.readErr = some .eof ∧ (parse none acc).1 = del) ∨
   (saw = false ∧ ∃ e, s.readErr = some e ∧ e ≠ .eof))

theorem rr_q {s : CStream α} {r : CStream α × COut α × Option SErr} (h : RR s r)
    (hd : s.done = some .eof) (hc : s.rcv.closed = true) (hre : s.readErr = none)
    (hp : r.1.pread = none) {acc : List (DFrame α)} {del : List (List α)}
    (ha : Acct s.rcv.queue false s.pread acc del) :
    QInv r.1 acc (del ++ msgsOfDones r.2.1.dones) (eofIn r.2.1.dones) := by
  refine ⟨h.done.trans hd, h.closed.trans hc, hp, ?_⟩
  rcases h.cases with ⟨a1, a2, a3, a4⟩ | ⟨a1, a2, a3, a4, a5, a6, a7⟩ | ⟨e, a1, a2, a3, a4, a5, a6⟩
  · refine Or.inl ⟨a1.trans hre, a2, ?_⟩
    have := a4 acc del ha
    rw [hp] at this
    exact this
  · have hg : s.done.getD .eof = .eof := by rw [hd]; rfl
    exact Or.inr (Or.inl ⟨by rw [a2, hg], a7 hg acc del ha⟩)
  · exact Or.inr (Or.inr ⟨a4, e, a2, a1⟩)

/-- the contract of a client operation in phase 2 -/
def QB (s s' : CStream α) (o : COut α) : Prop :=
  ∀ acc del saw, QInv s acc del saw → QInv s' acc (del ++ msgsOfDones o.dones) (saw || eofIn o.dones)

theorem QB.refl (s : CStream α) : QB s s {} := by
  intro acc del saw h
  simpa using h

theorem QB.of_fields {s s' : CStream α} {o : COut α} (hd : s'.done = s.done) (hre : s'.readErr = s.readErr)
    (hc : s'.rcv = s.rcv) (hp : s'.pread = s.pread) (hm : msgsOfDones o.dones = [])
    (ho : eofIn o.dones = false) : QB s s' o := by
  intro acc del saw h
  rw [hm, ho, List.append_nil, Bool.or_false]
  unfold QInv at *
  rw [hd, hre, hc, hp]
  exact h

theorem QB.seq {a b c : CStream α} {o₁ o₂ : COut α} (h1 : QB a b o₁) (h2 : QB b c o₂) : QB a c (o₁.add o₂) := by
  intro acc del saw h
  have := h2 _ _ _ (h1 acc del saw h)
  show QInv c acc (del ++ msgsOfDones (o₁.dones ++ o₂.dones)) (saw || eofIn (o₁.dones ++ o₂.dones))
  rw [msgsOfDones_append, eofIn_append, ← List.append_assoc, ← Bool.or_assoc]
  exact this

theorem ctxEnds_qb (sid : Sid) (s : CStream α) (e : CtxErr) (b : Bool) :
    QB s (s.ctxEnds sid e b).1 (s.ctxEnds sid e b).2 := by
  cases hc : s.ctxDone with
  | some c => rw [ClientOps.ctxEnds_done sid s e b (by rw [hc]; rfl)]; exact QB.refl s
  | none =>
    rw [ClientOps.ctxEnds_eq sid s e b hc]
    refine QB.of_fields rfl rfl rfl rfl ?_ ?_
    · show msgsOfDones (_ ++ _) = []
      rw [msgsOfDones_append]
      cases s.psend <;> cases s.pheader <;> cases s.gotHeaders <;> cases b <;> rfl
    · show eofIn (_ ++ _) = false
      rw [eofIn_append]
      cases s.psend <;> cases s.pheader <;> simp [eofIn]

theorem ctxCancelled_qb (sid : Sid) (s : CStream α) (e : CtxErr) :
    QB s (s.ctxCancelled sid e).1 (s.ctxCancelled sid e).2 := by
  intro acc del saw h
  cases hc : s.ctxDone with
  | some c => rw [ClientOps.ctxCancelled_done sid s e (by rw [hc]; rfl)]; exact QB.refl s acc del saw h
  | none =>
    rw [ClientOps.ctxCancelled_eq sid s e hc]
    have hd : (s.ctxEnds sid e s.done.isNone).1.done.isSome = true := by
      rw [ClientOps.ctxEnds_eq sid s e _ hc]
      show s.done.isSome = true
      rw [h.1]; rfl
    rw [ClientOps.cancelStream_done sid _ (.ctx e) hd]
    exact (ctxEnds_qb sid s e _).seq (QB.refl _) acc del saw h

theorem recv_qb (sid : Sid) (s : CStream α) (hre : s.readErr = none) :
    QB s
      (CStream.afterRead sid
        (({ s with pread := some { lookahead := none, rst := none } } : CStream α).resumeRead sid 3)).1
      (CStream.afterRead sid
        (({ s with pread := some { lookahead := none, rst := none } } : CStream α).resumeRead sid 3)).2 := by
  intro acc del saw h
  obtain ⟨hd, hc, hp, hcase⟩ := h
  have hlive : saw = false ∧ Acct s.rcv.queue false none acc del := by
    rcases hcase with ⟨_, h2, h3⟩ | ⟨h1, _⟩ | ⟨_, e, h1, _⟩
    · exact ⟨h2, h3⟩
    · rw [hre] at h1; cases h1
    · rw [hre] at h1; cases h1
  have hrr := resumeRead_rr sid 3 ({ s with pread := some { lookahead := none, rst := none } } : CStream α)
  have hpn : (({ s with pread := some { lookahead := none, rst := none } } : CStream α).resumeRead sid 3).1.pread
      = none := ClientShape.resumeRead_closed sid 1 _ (by simp [hc])
  have hq := rr_q hrr hd hc hre hpn (acc := acc) (del := del) (hlive.2.start rfl)
  rw [hlive.1, Bool.false_or, ClientOps.afterRead_eq]
  split
  · exact hq
  · rename_i e he
    rw [ClientOps.cancelStream_done sid _ e (by rw [hq.1]; rfl)]
    show QInv _ acc (del ++ msgsOfDones (_ ++ [])) (eofIn (_ ++ []))
    rw [List.append_nil]
    exact hq

theorem sent_qb {sid : Sid} {s s' : CStream α} {o : COut α} (h : ClientOps.Sent sid s s' o) : QB s s' o := by
  cases h with
  | done fs w => exact QB.of_fields rfl rfl rfl rfl rfl (eofIn_single _ _ rfl)
  | ctx fs w e _ => exact QB.of_fields rfl rfl rfl rfl rfl (eofIn_single _ _ rfl)
  | pending fs w snd' _ => exact QB.of_fields rfl rfl rfl rfl rfl rfl

theorem op_qb {sid : Sid} {s s' : CStream α} {o : COut α} (h : ClientOps.Op true sid s s' o) : QB s s' o := by
  cases h with
  | finish s err tr =>
    intro acc del saw hq
    rw [ClientOps.finish_done sid s err tr (by rw [hq.1]; rfl)]
    exact QB.refl s acc del saw hq
  | ctx s e => exact ctxCancelled_qb sid s e
  | read hp =>
    cases hp with
    | accepted df r _ ha =>
      intro acc del saw hq
      rcases accept_cases s.rcv df with ⟨_, h⟩ | ⟨hc, _⟩ | ⟨hc, _⟩
      · rw [h] at ha; cases ha
      · rw [hq.2.1] at hc; cases hc
      · rw [hq.2.1] at hc; cases hc
    | queued df _ hc _ =>
      intro acc del saw hq
      rw [hq.2.1] at hc; cases hc
    | recv hre => exact recv_qb sid s hre
  | sent _ cfg snd => exact sent_qb (ClientOps.pumpSend_sent cfg sid s snd)
  | upd h =>
    cases h with
    | headers md _ =>
      exact QB.of_fields rfl rfl rfl rfl (by cases s.pheader <;> rfl) (by cases s.pheader <;> simp [eofIn])
    | win n _ _ => exact QB.of_fields rfl rfl rfl rfl rfl rfl
    | unsupported _ _ _ => exact QB.of_fields rfl rfl rfl rfl rfl rfl
    | numSent _ => exact QB.of_fields rfl rfl rfl rfl rfl rfl
    | halfClose _ _ => exact QB.of_fields rfl rfl rfl rfl rfl (eofIn_single _ _ rfl)
    | pheader _ _ => exact QB.of_fields rfl rfl rfl rfl rfl rfl
  | completes h =>
    cases h with
    | sendRefused _ => exact QB.of_fields rfl rfl rfl rfl rfl (eofIn_single _ _ rfl)
    | closeSendDone _ => exact QB.of_fields rfl rfl rfl rfl (msgsOfDones_toRes _ _ _) (by simp [eofIn])
    | closeSendTwice _ _ => exact QB.of_fields rfl rfl rfl rfl rfl (eofIn_single _ _ rfl)
    | recvErr e he =>
      -- the sticky error of an earlier read: `io.EOF` again only if that read returned it
      intro acc del saw ⟨hd, hc, hp, hcase⟩
      show QInv s acc (del ++ msgsOfDones [(sid, "recv", (e.toRes : Res α))]) (saw || eofIn [(sid, "recv", e.toRes)])
      rw [msgsOfDones_toRes, List.append_nil]
      refine ⟨hd, hc, hp, ?_⟩
      rcases hcase with ⟨h1, _⟩ | ⟨h1, h2⟩ | ⟨h0, e', h1, h2⟩
      · rw [he] at h1; cases h1
      · exact Or.inr (Or.inl ⟨h1, h2⟩)
      · refine Or.inr (Or.inr ⟨?_, e', h1, h2⟩)
        rw [he] at h1; cases h1
        rw [h0, eofIn_recv_ne sid e h2]; rfl
    | header _ => exact QB.of_fields rfl rfl rfl rfl rfl (eofIn_single _ _ rfl)
    | headerCtx e _ _ => exact QB.of_fields rfl rfl rfl rfl rfl (eofIn_single _ _ rfl)
    | trailer => exact QB.of_fields rfl rfl rfl rfl rfl (eofIn_single _ _ rfl)

theorem post_run (cfg : CCfg) (sid : Sid) (evs : List (CEv α)) (s : CStream α) {acc : List (DFrame α)}
    {del : List (List α)} {saw : Bool} (h : QInv s acc del saw) :
    QInv (CStream.runEv cfg sid s evs).1 acc (del ++ COut.deliveredMsgs (CStream.runEv cfg sid s evs).2)
      (saw || sawRecvEof (CStream.runEv cfg sid s evs).2) := by
  have := ClientOps.Chain.fold QB.refl QB.seq op_qb (ClientOps.runEv_ops cfg sid evs (fun _ _ _ => rfl) s) acc del saw h
  rwa [ClientOps.total_dones, msgsOfDones_flatMap, eofIn_flatMap] at this

theorem QInv.complete {s : CStream α} {acc : List (DFrame α)} {del : List (List α)}
    (h : QInv s acc del true) : (parse none acc).1 = del := by
  rcases h.2.2.2 with ⟨_, h2, _⟩ | ⟨_, h2⟩ | ⟨h2, _⟩
  · cases h2
  · exact h2
  · cases h2

theorem close_step (cfg : CCfg) (sid : Sid) (s : CStream α) (st : Status) (tr : MD) (hst : st.code = 0)
    (hd : s.done = none) (hre : s.readErr = none) {acc : List (DFrame α)} {del : List (List α)}
    (ha : Acct s.rcv.queue false s.pread acc del) :
    QInv (s.stepEv cfg sid (.frame (.close st tr))).1 acc
      (del ++ msgsOfDones (s.stepEv cfg sid (.frame (.close st tr))).2.dones)
      (eofIn (s.stepEv cfg sid (.frame (.close st tr))).2.dones) := by
  show QInv (s.onFrame cfg sid (.close st tr)).1 acc (del ++ msgsOfDones (s.onFrame cfg sid (.close st tr)).2.dones)
    (eofIn (s.onFrame cfg sid (.close st tr)).2.dones)
  rw [ClientOps.onFrame_close, ClientOps.finish_eq sid s _ tr hd]
  have hse : statusErr st = none := by simp [statusErr, hst]
  rw [hse]
  have hrr := resumeRead_rr sid 3 (ClientOps.finPre s none tr)
  have hpn : ((ClientOps.finPre s none tr).resumeRead sid 3).1.pread = none :=
    ClientShape.resumeRead_closed sid 1 _ (by simp [ClientOps.finPre, RcvQ.close])
  have hq := rr_q hrr (s := ClientOps.finPre s none tr) rfl rfl hre hpn (acc := acc) (del := del) ha
  have h2 := ctxEnds_qb sid _ .canceled false _ _ _ hq
  dsimp only
  have hm : ∀ (ds : List (Sid × String × Res α)),
      msgsOfDones ((if s.pheader then [(sid, "header", Res.md s.headers)] else []) ++ ds) = msgsOfDones ds := by
    intro ds; cases s.pheader <;> simp [msgsOfDones]
  have he : ∀ (ds : List (Sid × String × Res α)),
      eofIn ((if s.pheader then [(sid, "header", Res.md s.headers)] else []) ++ ds) = eofIn ds := by
    intro ds; cases s.pheader <;> simp [eofIn]
  simp only [COut.add, List.append_assoc, hm, he]
  rw [msgsOfDones_append, eofIn_append, ← List.append_assoc]
  exact h2

theorem legalRecvsC_append (cfg : CCfg) (sid : Sid) (pre post : List (CEv α)) (s : CStream α) :
    legalRecvsC cfg sid s (pre ++ post) =
      (legalRecvsC cfg sid s pre && legalRecvsC cfg sid (CStream.runEv cfg sid s pre).1 post) :=
  guard_append (step := fun s e => s.stepEv cfg sid e) (run := CStream.runEv cfg sid) (fun _ => rfl)
    (fun _ _ _ => rfl) (fun _ => rfl) (fun _ _ _ => rfl) post pre s

theorem cdeliveredMsgs_append (a b : List (COut α)) :
    COut.deliveredMsgs (a ++ b) = COut.deliveredMsgs a ++ COut.deliveredMsgs b :=
  List.flatMap_append

theorem fedFramesC_at (pre post : List (CEv α)) (f : S2C α) :
    C01.fedFramesC (pre ++ .frame f :: post) = C01.fedFramesC pre ++ f :: C01.fedFramesC post :=
  List.filterMap_append.trans (congrArg (C01.fedFramesC pre ++ ·) (List.filterMap_cons_some (a := CEv.frame f) rfl))

/-- `hfu`: the model does not give up (`unsupported`: without flow control the receive loop would block on
    a second unread frame, which the step-exact model does not follow); then neither on an initial part -/
theorem cfu_prefix {cfg : CCfg} {sid : Sid} {s : CStream α} {pre post : List (CEv α)}
    (hl : legalRecvsC cfg sid (CStream.runEv cfg sid s pre).1 post = true)
    (hfu : s.fc = true ∨ (CStream.runEv cfg sid (CStream.runEv cfg sid s pre).1 post).1.unsupported = false) :
    s.fc = true ∨ (CStream.runEv cfg sid s pre).1.unsupported = false :=
  hfu.imp_right fun h => Bool.eq_false_iff.mpr fun hu => by
    rw [crunEv_unsupported cfg sid _ _ hl hu] at h; cases h

/-- **Client completeness.**  Some `RecvMsg` of the caller of a freshly created client stream returned
    `io.EOF`.  Then a close frame with an OK status was fed to the stream, and the caller has obtained
    ALL complete messages of the data frames fed before it (in order, once); what is fed after it is
    dropped. -/
theorem client_eof_complete (cfg : CCfg) (sid : Sid) (c0 : CStream α) (h0 : CFresh c0)
    (cevs : List (CEv α)) (hl : legalRecvsC cfg sid c0 cevs = true)
    (hfu : c0.fc = true ∨ (CStream.runEv cfg sid c0 cevs).1.unsupported = false)
    (heof : sawRecvEof (CStream.runEv cfg sid c0 cevs).2 = true) :
    ∃ pre st tr post, cevs = pre ++ .frame (.close st tr) :: post ∧ st.code = 0 ∧
      COut.deliveredMsgs (CStream.runEv cfg sid c0 cevs).2 = (parse none (CEv.fedData pre)).1 := by
  obtain ⟨pre, st, tr, post, rfl, hst, hd1, hinv1, hsaw1⟩ := eof_cause cfg sid c0 (CFresh.preInv h0) cevs heof
  refine ⟨pre, st, tr, post, rfl, hst, ?_⟩
  rw [legalRecvsC_append, Bool.and_eq_true] at hl
  rw [ClientOps.runEv_append] at hfu heof ⊢
  dsimp only at hfu heof ⊢
  rw [sawRecvEof_append, hsaw1, Bool.false_or, ClientOps.runEv_cons, sawRecvEof_cons] at heof
  -- the accounting at the end of phase 1, the close frame, then phase 2
  have hci := crunEv_inv cfg sid pre c0 [] [] h0.inv hl.1 (cfu_prefix hl.2 hfu)
  simp only [List.nil_append] at hci
  obtain ⟨hre1, _, hacct⟩ := acct_of_open hci hinv1 hd1
  have hq := post_run cfg sid post _ (close_step cfg sid _ st tr hst hd1 hre1 hacct)
  rw [heof] at hq
  rw [ClientOps.runEv_cons, cdeliveredMsgs_append, cdeliveredMsgs_cons, hq.complete, List.append_assoc]

/-! `SOp`, `SSent`, `resumeRead_cases` and the `failWith_*` equations below are general views of the
  server model (the twins of `ClientOps.Op`, `ClientOps.Sent`, the `ClientOps.resumeRead_*`
  equations); they are used in this file only. -/

def SameRead (s s' : SStream α) : Prop :=
  s'.readErr = s.readErr ∧ s'.pread = s.pread ∧ s'.ctxDone = s.ctxDone ∧ s'.halfClosed = s.halfClosed ∧
    s'.rcv = s.rcv

/-- the output of an operation that neither ends the stream nor completes a read -/
def Plain (o : Out α) : Prop :=
  (∀ f ∈ o.frames, ∃ md, f.2 = S2C.headers md) ∧
  ∀ d ∈ o.dones, d.2.2 = Res.ok ∨ d.2.2 = Res.status codeInternal ∨ ∃ t, d.2.2 = Res.other t

theorem forall_mem_nil {β : Type} {P : β → Prop} : ∀ x ∈ ([] : List β), P x :=
  fun _ h => absurd h List.not_mem_nil

theorem Plain.empty : Plain ({} : Out α) := ⟨forall_mem_nil, forall_mem_nil⟩

theorem Plain.done (sid : Sid) (n : String) {r : Res α} (fr : List (Sid × S2C α))
    (hf : ∀ f ∈ fr, ∃ md, f.2 = S2C.headers md)
    (hr : r = Res.ok ∨ r = Res.status codeInternal ∨ ∃ t, r = Res.other t) :
    Plain ({ frames := fr, dones := [(sid, n, r)] } : Out α) :=
  ⟨hf, fun d hd => by rw [List.mem_singleton.mp hd]; exact hr⟩

/-- The operations a server event consists of, each taken whole, with the guard under which the model
    performs it.  `K s`: a `RecvMsg` may start in `s` (nothing, or the handler's contract: no read is
    pending).  With `fin = false` the handler does not return in the event: that describes every event
    but `.ret`, `.reply` and a window update that resumes the blocked send of a unary reply. -/
inductive SOp (K : SStream α → Prop) (fin : Bool) (cfg : SCfg) (sid : Sid) :
    SStream α → SStream α → Out α → Prop
  | refl (s : SStream α) : SOp K fin cfg sid s s {}
  | seq {a b c : SStream α} {o₁ o₂ : Out α} :
      SOp K fin cfg sid a b o₁ → SOp K fin cfg sid b c o₂ → SOp K fin cfg sid a c (o₁.add o₂)
  | cancelCtx (s : SStream α) (e : CtxErr) : SOp K fin cfg sid s (s.cancelCtx sid e).1 (s.cancelCtx sid e).2
  /-- the receive loop finishes the stream: window exceeded, cancel frame, frame of unknown kind -/
  | loopFinish (s : SStream α) (e : SErr) :
      (e = errFlowControl ∨ e = .ctx .canceled ∨ ∃ t, e = .plain t) →
      SOp K fin cfg sid s (s.finish sid (some e) true).1 (s.finish sid (some e) true).2
  | ret (s : SStream α) (st : Status) : fin = true →
      SOp K fin cfg sid s (s.onCall cfg sid (.ret st)).1 (s.onCall cfg sid (.ret st)).2
  /-- a pending read goes on over the queue; the result of the decode callback is acted on -/
  | settle (s : SStream α) : SOp K fin cfg sid s (s.readAndSettle sid).1 (s.readAndSettle sid).2
  | recvSticky (s : SStream α) (e : SErr) : s.readErr = some e →
      SOp K fin cfg sid s (s.afterDecode sid { dones := [(sid, opName s, e.toRes)] }).1
        (s.afterDecode sid { dones := [(sid, opName s, e.toRes)] }).2
  | recvCtx (s : SStream α) (c : CtxErr) : s.readErr = none → s.ctxDone = some c →
      SOp K fin cfg sid s
        (({ s with readErr := some (.ctx c) } : SStream α).afterDecode sid { dones := [(sid, opName s, .ctx c)] }).1
        (({ s with readErr := some (.ctx c) } : SStream α).afterDecode sid { dones := [(sid, opName s, .ctx c)] }).2
  | readStarted (s : SStream α) : s.readErr = none → s.ctxDone = none → K s →
      SOp K fin cfg sid s { s with pread := some { lookahead := none, rst := none } } {}
  | accepted (s : SStream α) (df : DFrame α) : s.fc = true → s.rcv.closed = false →
      SOp K fin cfg sid s
        { s with rcv := { s.rcv with rwin := s.rcv.rwin - df.size, queue := s.rcv.queue ++ [df] } } {}
  | queued (s : SStream α) (df : DFrame α) : s.fc = false → s.rcv.closed = false →
      SOp K fin cfg sid s { s with rcv := { s.rcv with queue := [df] } } {}
  | pump (s : SStream α) (snd : Snd α) :
      SOp K fin cfg sid s (s.pumpSend cfg sid snd).1 (s.pumpSend cfg sid snd).2
  /-- the send of the unary reply runs, and the handler returns if it completes -/
  | sendFinish (s : SStream α) (snd : Snd α) : fin = true →
      SOp K fin cfg sid s ((s.pumpSend cfg sid snd).1.afterSend sid (s.pumpSend cfg sid snd).2).1
        ((s.pumpSend cfg sid snd).1.afterSend sid (s.pumpSend cfg sid snd).2).2
  | quiet {s s' : SStream α} {o : Out α} : SameRead s s' → Plain o → SOp K fin cfg sid s s' o

theorem pumpSend_fas (cfg : SCfg) (sid : Sid) (s : SStream α) (snd : Snd α) :
    (s.pumpSend cfg sid snd).1.finishAfterSend = s.finishAfterSend := by
  rw [ServerOps.pumpSend_fst]

theorem afterSend_idle {s : SStream α} (sid : Sid) (o : Out α) (h : s.finishAfterSend = false) :
    s.afterSend sid o = (s, o) := by
  rw [ServerOps.afterSend_eq, h]; rfl

theorem afterSend_frames (sid : Sid) (s : SStream α) (fr : List (Sid × S2C α)) (o : Out α) :
    s.afterSend sid (({ frames := fr } : Out α).add o) =
      ((s.afterSend sid o).1, ({ frames := fr } : Out α).add (s.afterSend sid o).2) := by
  rw [ServerOps.afterSend_eq, ServerOps.afterSend_eq]
  split
  · simp only [Out.add, ServerOps.dropSend, ServerOps.sendErr, List.nil_append, List.append_assoc]
  · rfl

namespace SOp
variable {K : SStream α → Prop} {fin : Bool} {cfg : SCfg} {sid : Sid}

/-- `seq` after an operation without output (stated apart: unifying `{}.add o` with `o` is slow) -/
theorem after {s s₁ s' : SStream α} {o : Out α} (h₁ : SOp K fin cfg sid s s₁ {}) (h₂ : SOp K fin cfg sid s₁ s' o) :
    SOp K fin cfg sid s s' o := .seq h₁ h₂

theorem dataFrame (s : SStream α) (df : DFrame α) :
    SOp K fin cfg sid s (ServerOps.dataFrame sid s df).1 (ServerOps.dataFrame sid s df).2 := by
  unfold ServerOps.dataFrame
  by_cases hfc : s.fc = true
  · rw [if_pos hfc]
    rcases accept_cases s.rcv df with ⟨_, ha⟩ | ⟨_, _, ha⟩ | ⟨hc, ha⟩
    · rw [ha]; exact .refl s
    · rw [ha]; exact .loopFinish s _ (.inl rfl)
    · rw [ha]; exact after (.accepted s df hfc hc) (.settle _)
  · rw [if_neg hfc]
    have hfc := (Bool.not_eq_true _).mp hfc
    by_cases hc : s.rcv.closed = true
    · rw [if_pos hc]; exact .refl s
    · rw [if_neg hc]
      split
      · exact .quiet ⟨rfl, rfl, rfl, rfl, rfl⟩ Plain.empty
      · exact after (.queued s df hfc ((Bool.not_eq_true _).mp hc)) (.settle _)

/-- the half-close frame apart: it is a `halfClose` followed by `settle` -/
theorem onFrame (s : SStream α) (f : C2S α) (hf : f ≠ .halfClose)
    (hfin : ∀ n snd, f = .windowUpdate n → s.finishAfterSend = true → s.psend = some snd → fin = true) :
    SOp K fin cfg sid s (s.onFrame cfg sid f).1 (s.onFrame cfg sid f).2 := by
  cases f with
  | newStream m md rev win => exact .refl s
  | msg size d => exact dataFrame s _
  | more d => exact dataFrame s _
  | halfClose => exact absurd rfl hf
  | cancel => exact .loopFinish s _ (.inr (.inl rfl))
  | unset => exact .loopFinish s _ (.inr (.inr ⟨_, rfl⟩))
  | windowUpdate n =>
    rw [ServerOps.onFrame_windowUpdate]
    split
    · exact .refl s
    · split
      · exact .quiet ⟨rfl, rfl, rfl, rfl, rfl⟩ Plain.empty
      · rename_i snd hs
        have hw : SOp K fin cfg sid s ({ s with win := wrap32 (s.win + n) } : SStream α) {} :=
          .quiet ⟨rfl, rfl, rfl, rfl, rfl⟩ Plain.empty
        by_cases hfa : s.finishAfterSend = true
        · exact after hw (.sendFinish _ snd (hfin n snd rfl hfa hs))
        · rw [afterSend_idle sid _ ((pumpSend_fas cfg sid ({ s with win := wrap32 (s.win + n) } : SStream α) snd).trans ((Bool.not_eq_true _).mp hfa))]
          exact after hw (.pump _ snd)

theorem startRecv (s : SStream α) (hk : K s) :
    SOp K fin cfg sid s (s.startRecv sid).1 (s.startRecv sid).2 := by
  rw [ServerOps.startRecv_eq]
  split
  · rename_i e he; exact .recvSticky s e he
  · rename_i he
    split
    · rename_i c hc; exact .recvCtx s c he hc
    · rename_i hc; exact after (.readStarted s he hc hk) (.settle _)

theorem hdrPlain (sid : Sid) (s : SStream α) : ∀ f ∈ (ServerOps.hdrStage sid s).2, ∃ md, f.2 = S2C.headers md := by
  unfold ServerOps.hdrStage
  split
  · exact forall_mem_nil
  · intro f hf; rw [List.mem_singleton.mp hf]; exact ⟨_, rfl⟩

theorem hdrSame (sid : Sid) (s : SStream α) : SameRead s (ServerOps.hdrStage sid s).1 := by
  unfold ServerOps.hdrStage
  split <;> exact ⟨rfl, rfl, rfl, rfl, rfl⟩

theorem afterHdr {s x s' : SStream α} {o : Out α} (h : SOp K fin cfg sid x s' o)
    (h1 : x.readErr = (ServerOps.hdrStage sid s).1.readErr)
    (h2 : x.pread = (ServerOps.hdrStage sid s).1.pread) (h3 : x.ctxDone = (ServerOps.hdrStage sid s).1.ctxDone)
    (h4 : x.halfClosed = (ServerOps.hdrStage sid s).1.halfClosed) (h5 : x.rcv = (ServerOps.hdrStage sid s).1.rcv) :
    SOp K fin cfg sid s s' (({ frames := (ServerOps.hdrStage sid s).2 } : Out α).add o) :=
  have hs := hdrSame sid s
  .seq (.quiet ⟨h1.trans hs.1, h2.trans hs.2.1, h3.trans hs.2.2.1, h4.trans hs.2.2.2.1, h5.trans hs.2.2.2.2⟩
    ⟨hdrPlain sid s, forall_mem_nil⟩) h

theorem onCall (s : SStream α) (c : HCall α) (hk : c = .recv → K s)
    (hfin : (∃ st, c = .ret st) ∨ (∃ m, c = .reply m) → fin = true) :
    SOp K fin cfg sid s (s.onCall cfg sid c).1 (s.onCall cfg sid c).2 := by
  cases c with
  | recv => exact startRecv s (hk rfl)
  | send m =>
    rw [ServerOps.onCall_send]
    split
    · exact .quiet (hdrSame sid s) (Plain.done _ _ _ (hdrPlain sid s) (.inr (.inl rfl)))
    · exact afterHdr (.pump _ _) rfl rfl rfl rfl rfl
  | setHeader md =>
    rw [ServerOps.onCall_setHeader]
    split
    · exact .quiet ⟨rfl, rfl, rfl, rfl, rfl⟩ (Plain.done _ _ _ forall_mem_nil (.inr (.inr ⟨_, rfl⟩)))
    · exact .quiet ⟨rfl, rfl, rfl, rfl, rfl⟩ (Plain.done _ _ _ forall_mem_nil (.inl rfl))
  | sendHeader md =>
    rw [ServerOps.onCall_sendHeader]
    split
    · exact .quiet ⟨rfl, rfl, rfl, rfl, rfl⟩ (Plain.done _ _ _ forall_mem_nil (.inr (.inr ⟨_, rfl⟩)))
    · exact .quiet ⟨rfl, rfl, rfl, rfl, rfl⟩
        (Plain.done _ _ _ (fun f hf => by rw [List.mem_singleton.mp hf]; exact ⟨_, rfl⟩) (.inl rfl))
  | setTrailer md =>
    rw [ServerOps.onCall_setTrailer]
    split
    · exact .quiet ⟨rfl, rfl, rfl, rfl, rfl⟩ (Plain.done _ _ _ forall_mem_nil (.inl rfl))
    · exact .quiet ⟨rfl, rfl, rfl, rfl, rfl⟩ (Plain.done _ _ _ forall_mem_nil (.inl rfl))
  | ret st => exact .ret s st (hfin (.inl ⟨st, rfl⟩))
  | reply m =>
    rw [ServerOps.onCall_reply, afterSend_frames]
    exact afterHdr (.sendFinish _ _ (hfin (.inr ⟨m, rfl⟩))) rfl rfl rfl rfl rfl

theorem stepEv (s : SStream α) (e : SEv α) (hf : e ≠ .frame .halfClose) (hk : e = .call .recv → K s)
    (hfin : (∃ st, e = .call (.ret st)) ∨ (∃ m, e = .call (.reply m)) ∨
      (∃ n snd, e = .frame (.windowUpdate n) ∧ s.finishAfterSend = true ∧ s.psend = some snd) → fin = true) :
    SOp K fin cfg sid s (s.stepEv cfg sid e).1 (s.stepEv cfg sid e).2 := by
  cases e with
  | frame f =>
    exact onFrame s f (fun h => hf (by rw [h]))
      (fun n snd h1 h2 h3 => hfin (.inr (.inr ⟨n, snd, by rw [h1], h2, h3⟩)))
  | call c =>
    refine onCall s c (fun h => hk (by rw [h])) (fun h => hfin ?_)
    rcases h with ⟨st, rfl⟩ | ⟨m, rfl⟩
    · exact .inl ⟨st, rfl⟩
    · exact .inr (.inl ⟨m, rfl⟩)
  | ctx c => exact .cancelCtx s c

end SOp

/-- the error carries no status with code 0 -/
def nz (e : SErr) : Prop := ∀ st, e = .status st → st.code ≠ 0

def nzo (o : Option SErr) : Prop := ∀ e, o = some e → nz e

theorem nz_eof : nz .eof := fun _ h => by cases h
theorem nz_ctx (c : CtxErr) : nz (.ctx c) := fun _ h => by cases h
theorem nz_plain (t : String) : nz (.plain t) := fun _ h => by cases h
theorem nz_status {st : Status} (h : st.code ≠ 0) : nz (.status st) := fun _ h' => by cases h'; exact h
theorem nz_perr (mn : String) (e : PErr) : nz (perrStatus mn e) := by
  cases e <;> exact nz_status (by simp [mkStatus, codeInvalidArgument])
theorem nz_flow : nz errFlowControl := nz_status (by decide)
theorem nzo_none : nzo none := fun _ h => by cases h
theorem nzo_some {e : SErr} (h : nz e) : nzo (some e) := fun _ h' => by cases h'; exact h

theorem wire_nz {e : SErr} (h : nz e) : (SErr.wireStatus (some e)).code ≠ 0 := by
  cases e with
  | eof => decide
  | ctx c => cases c <;> decide
  | status st => exact h st rfl
  | plain t => simp [SErr.wireStatus, mkStatus, codeUnknown]

/-- the sticky read error and the half-close error carry no OK status -/
def RH (s : SStream α) : Prop := nzo s.readErr ∧ nzo s.halfClosed

def NoOK (o : Out α) : Prop := ∀ f ∈ o.frames, isCloseOK f.2 = false

def NoUnset (o : Out α) : Prop := ∀ f ∈ o.frames, isUnset f.2 = false

/-- no completion with status code 0 -/
def DNZ (o : Out α) : Prop := ∀ d ∈ o.dones, ∀ c, d.2.2 = Res.status c → c ≠ 0

theorem NoOK.add {a b : Out α} (ha : NoOK a) (hb : NoOK b) : NoOK (a.add b) :=
  List.forall_mem_append.mpr ⟨ha, hb⟩

theorem NoUnset.add {a b : Out α} (ha : NoUnset a) (hb : NoUnset b) : NoUnset (a.add b) :=
  List.forall_mem_append.mpr ⟨ha, hb⟩

theorem DNZ.add {a b : Out α} (ha : DNZ a) (hb : DNZ b) : DNZ (a.add b) :=
  List.forall_mem_append.mpr ⟨ha, hb⟩

theorem NoOK.of_nil {o : Out α} (h : o.frames = []) : NoOK o := fun _ hf => absurd (h ▸ hf) List.not_mem_nil
theorem NoUnset.of_nil {o : Out α} (h : o.frames = []) : NoUnset o := fun _ hf => absurd (h ▸ hf) List.not_mem_nil
theorem DNZ.of_nil {o : Out α} (h : o.dones = []) : DNZ o := fun _ hd => absurd (h ▸ hd) List.not_mem_nil

/-- the contract of a server building block in the response direction: `SB0` for the blocks through
    which the handler's OK return goes, `SB` for all the others.  `dnz` is there because a unary
    handler returns the error its decode callback or its reply's send completed with (`afterDecode`,
    `afterSend`), so `rh` of a later block needs it; `nun` because the caller's stream ends the RPC on a
    frame of unknown kind (used by `C01_response_ok_partial`) -/
structure SB0 (s s' : SStream α) (o : Out α) : Prop where
  rh : RH s → RH s'
  nun : NoUnset o
  dnz : RH s → DNZ o

structure SB (s s' : SStream α) (o : Out α) : Prop extends SB0 s s' o where
  nok : RH s → NoOK o

theorem SB0.refl (s : SStream α) : SB0 s s {} :=
  ⟨id, NoUnset.of_nil rfl, fun _ => DNZ.of_nil rfl⟩
theorem SB.refl (s : SStream α) : SB s s {} := ⟨SB0.refl s, fun _ => NoOK.of_nil rfl⟩

theorem SB0.seq {s a b : SStream α} {o1 o2 : Out α} (h1 : SB0 s a o1) (h2 : SB0 a b o2) : SB0 s b (o1.add o2) :=
  ⟨fun h => h2.rh (h1.rh h), h1.nun.add h2.nun, fun h => (h1.dnz h).add (h2.dnz (h1.rh h))⟩

theorem SB.seq {s a b : SStream α} {o1 o2 : Out α} (h1 : SB s a o1) (h2 : SB a b o2) : SB s b (o1.add o2) :=
  ⟨h1.toSB0.seq h2.toSB0, fun h => (h1.nok h).add (h2.nok (h1.rh h))⟩

theorem SB.of_fields {s s' : SStream α} {o : Out α} (hr : s'.readErr = s.readErr)
    (hh : s'.halfClosed = s.halfClosed) (hok : NoOK o) (hun : NoUnset o) (hd : DNZ o) : SB s s' o :=
  ⟨⟨fun h => by unfold RH at *; rw [hr, hh]; exact h, hun, fun _ => hd⟩, fun _ => hok⟩

theorem SB0.pre {s s0 s' : SStream α} {o : Out α} (h : SB0 s0 s' o) (hr : s0.readErr = s.readErr)
    (hh : s0.halfClosed = s.halfClosed) : SB0 s s' o := by
  have hi : RH s → RH s0 := fun h' => by unfold RH at *; rw [hr, hh]; exact h'
  exact ⟨fun h' => h.rh (hi h'), h.nun, fun h' => h.dnz (hi h')⟩

theorem SB.pre_rh {s s0 s' : SStream α} {o : Out α} (h : SB s0 s' o) (hi : RH s → RH s0) : SB s s' o :=
  ⟨⟨fun h' => h.rh (hi h'), h.nun, fun h' => h.dnz (hi h')⟩, fun h' => h.nok (hi h')⟩

theorem SB.pre {s s0 s' : SStream α} {o : Out α} (h : SB s0 s' o) (hr : s0.readErr = s.readErr)
    (hh : s0.halfClosed = s.halfClosed) : SB s s' o :=
  h.pre_rh fun h' => by unfold RH at *; rw [hr, hh]; exact h'

theorem SB0.of_pair {s0 : SStream α} {p : SStream α × Out α} {a : SStream α} {o : Out α} (h : p = (a, o))
    (hp : SB0 s0 p.1 p.2) : SB0 s0 a o := by
  rw [h] at hp; exact hp

theorem SB.of_pair {s0 : SStream α} {p : SStream α × Out α} {a : SStream α} {o : Out α} (h : p = (a, o))
    (hp : SB s0 p.1 p.2) : SB s0 a o := by
  rw [h] at hp; exact hp

theorem finishCore_out (sid : Sid) (s : SStream α) (err : Option SErr) :
    (s.finishCore sid err).2.dones = [] ∧
    ∀ f ∈ (s.finishCore sid err).2.frames,
      (∃ md, f.2 = S2C.headers md) ∨ (∃ tr, f.2 = S2C.close (SErr.wireStatus err) tr) := by
  rw [ServerOps.finishCore_snd]
  split
  · exact ⟨rfl, forall_mem_nil⟩
  · refine ⟨rfl, fun f hf => ?_⟩
    rcases List.mem_append.mp hf with hf | hf
    · split at hf
      · cases hf
      · rw [List.mem_singleton.mp hf]; exact Or.inl ⟨_, rfl⟩
    · rw [List.mem_singleton.mp hf]; exact Or.inr ⟨_, rfl⟩

theorem finishCore_sb0 (sid : Sid) (s : SStream α) (err : Option SErr) (he : nzo err) :
    SB0 s (s.finishCore sid err).1 (s.finishCore sid err).2 := by
  obtain ⟨hd, hfr⟩ := finishCore_out sid s err
  refine ⟨fun ⟨a, b⟩ => ?_, fun f hf => ?_, fun _ => DNZ.of_nil hd⟩
  · rw [ServerOps.finishCore_fst]
    refine ⟨a, ?_⟩
    show nzo (some (s.halfClosed.getD (err.getD .eof)))
    cases hh : s.halfClosed with
    | some x => exact hh ▸ b
    | none =>
      cases err with
      | none => exact nzo_some nz_eof
      | some e => exact nzo_some (he e rfl)
  · rcases hfr f hf with ⟨md, h⟩ | ⟨tr, h⟩ <;> rw [h] <;> rfl

theorem finishCore_sb (sid : Sid) (s : SStream α) (e : SErr) (he : nz e) :
    SB s (s.finishCore sid (some e)).1 (s.finishCore sid (some e)).2 := by
  refine ⟨finishCore_sb0 sid s _ (nzo_some he), fun _ f hf => ?_⟩
  rcases (finishCore_out sid s _).2 f hf with ⟨md, h⟩ | ⟨tr, h⟩
  · rw [h]; rfl
  · rw [h]
    have := wire_nz he
    simpa [isCloseOK] using this

theorem DNZ.single (fr : List (Sid × S2C α)) (sid : Sid) (n : String) {r : Res α} (h : ∀ c, r ≠ Res.status c) :
    DNZ ({ frames := fr, dones := [(sid, n, r)] } : Out α) := by
  intro d hd c hc
  rw [List.mem_singleton.mp hd] at hc
  exact absurd hc (h c)

theorem ccSend_sb (sid : Sid) (s : SStream α) (e : CtxErr) :
    SB s (ServerOps.ccSend sid s e).1 (ServerOps.ccSend sid s e).2 := by
  unfold ServerOps.ccSend
  split
  · dsimp only
    split
    · exact (finishCore_sb sid _ (.ctx e) (nz_ctx e)).pre rfl rfl
    · exact SB.of_fields rfl rfl (NoOK.of_nil rfl) (NoUnset.of_nil rfl) (DNZ.single _ _ _ nofun)
  · exact SB.refl s

theorem ccRead_sb (sid : Sid) (s : SStream α) (e : CtxErr) :
    SB s (ServerOps.ccRead sid s e).1 (ServerOps.ccRead sid s e).2 := by
  unfold ServerOps.ccRead
  have hset : ∀ (x : SStream α), x.readErr = some (.ctx e) → x.halfClosed = s.halfClosed → RH s → RH x := by
    intro x h1 h2 ⟨_, hb⟩
    exact ⟨by rw [h1]; exact nzo_some (nz_ctx e), by rw [h2]; exact hb⟩
  split
  · dsimp only
    split
    · have hf := finishCore_sb sid
        ({ s with pread := none, readErr := some (.ctx e), hstatus := .returned } : SStream α) (.ctx e) (nz_ctx e)
      have h1 : SB s ({ s with pread := none, readErr := some (.ctx e), hstatus := .returned } : SStream α)
          ({ dones := [(sid, "decode", Res.ctx e)] } : Out α) :=
        ⟨⟨hset _ rfl rfl, NoUnset.of_nil rfl, fun _ => DNZ.single _ _ _ nofun⟩, fun _ => NoOK.of_nil rfl⟩
      exact h1.seq hf
    · exact ⟨⟨hset _ rfl rfl, NoUnset.of_nil rfl, fun _ => DNZ.single _ _ _ nofun⟩, fun _ => NoOK.of_nil rfl⟩
  · exact SB.refl s

theorem cancelCtx_sb (sid : Sid) (s : SStream α) (e : CtxErr) :
    SB s (s.cancelCtx sid e).1 (s.cancelCtx sid e).2 := by
  cases hc : s.ctxDone with
  | some c => rw [ServerOps.cancelCtx_of_done sid e (by rw [hc]; rfl)]; exact SB.refl s
  | none =>
    rw [ServerOps.cancelCtx_of_open sid e hc]
    have h0 : SB s (ServerOps.ctxMark s e) (ServerOps.ctxEvent sid e) :=
      SB.of_fields rfl rfl (NoOK.of_nil rfl) (NoUnset.of_nil rfl) (DNZ.of_nil rfl)
    exact (h0.seq (ccSend_sb sid _ e)).seq (ccRead_sb sid _ e)

/-- the error `SStream.finish` hands to `finishCore`: when the receive loop and the released handler race to
    `finishStream` (`racing`), `codeUnknown` is accepted besides the loop's status -/
def raceErr (racing : Bool) (err : Option SErr) : Option SErr :=
  match racing, err with
  | true, some (.status st) => if st.code == codeUnknown then err else some (.status { st with alt := [codeUnknown] })
  | _, _ => err

theorem raceErr_false (err : Option SErr) : raceErr false err = err := rfl

theorem finishErr_some (s : SStream α) (e : SErr) (b : Bool) (h : nz e) :
    ∃ e', ServerOps.finishErr s (some e) b = some e' ∧ nz e' := by
  unfold ServerOps.finishErr
  split
  · rename_i st _ heq
    cases heq
    split
    · exact ⟨_, rfl, h⟩
    · exact ⟨_, rfl, nz_status (h st rfl)⟩
  · exact ⟨e, rfl, h⟩

theorem finishErr_nzo (s : SStream α) (err : Option SErr) (b : Bool) (h : nzo err) :
    nzo (ServerOps.finishErr s err b) := by
  unfold ServerOps.finishErr
  split
  · rename_i st _
    split
    · exact h
    · exact nzo_some (nz_status (h _ rfl st rfl))
  · exact h

theorem SB0.swap {s a b : SStream α} {o1 o2 : Out α} (h1 : SB0 s a o1) (h2 : SB0 a b o2) : SB0 s b (o2.add o1) :=
  ⟨fun h => h2.rh (h1.rh h), h2.nun.add h1.nun, fun h => (h2.dnz (h1.rh h)).add (h1.dnz h)⟩

theorem SB.swap {s a b : SStream α} {o1 o2 : Out α} (h1 : SB s a o1) (h2 : SB a b o2) : SB s b (o2.add o1) :=
  ⟨h1.toSB0.swap h2.toSB0, fun h => (h2.nok (h1.rh h)).add (h1.nok h)⟩

theorem finish_sb0 (sid : Sid) (s : SStream α) (err : Option SErr) (b : Bool) (he : nzo err) :
    SB0 s (s.finish sid err b).1 (s.finish sid err b).2 := by
  rw [ServerOps.finish_eq]
  exact (finishCore_sb0 sid s _ (finishErr_nzo s err b he)).swap (cancelCtx_sb sid _ _).toSB0

theorem finish_sb (sid : Sid) (s : SStream α) (e : SErr) (b : Bool) (he : nz e) :
    SB s (s.finish sid (some e) b).1 (s.finish sid (some e) b).2 := by
  rw [ServerOps.finish_eq]
  obtain ⟨e', h1, h2⟩ := finishErr_some s e b he
  rw [h1]
  exact (finishCore_sb sid s e' h2).swap (cancelCtx_sb sid _ _)

theorem isData_of_good (f : DFrame α) (h : f ≠ .other) : Conformance.S.isData (dframeToS2C f) = true := by
  cases f with
  | env n d => rfl
  | more d => rfl
  | other => exact absurd rfl h

theorem map_frames_data (sid : Sid) (fs : List (DFrame α)) (hg : ∀ g ∈ fs, g ≠ .other)
    (f : Sid × S2C α) (hf : f ∈ fs.map (fun g => (sid, dframeToS2C g))) : Conformance.S.isData f.2 = true := by
  obtain ⟨g, hg', rfl⟩ := List.mem_map.mp hf
  exact isData_of_good g (hg g hg')

/-- what the sending loop does (the twin of `ClientOps.Sent`) -/
inductive SSent (sid : Sid) : SStream α → SStream α → Out α → Prop
  | done (s : SStream α) (fs : List (DFrame α)) (w : Nat) : (∀ g ∈ fs, g ≠ .other) →
      SSent sid s { s with win := w, psend := none }
        { frames := fs.map (fun f => (sid, dframeToS2C f)), dones := [(sid, "send", .ok)] }
  | ctx (s : SStream α) (fs : List (DFrame α)) (w : Nat) (e : CtxErr) : (∀ g ∈ fs, g ≠ .other) → s.ctxDone = some e →
      SSent sid s { s with win := w, psend := none }
        { frames := fs.map (fun f => (sid, dframeToS2C f)), dones := [(sid, "send", .ctx e)] }
  | pending (s : SStream α) (fs : List (DFrame α)) (w : Nat) (snd' : Snd α) : (∀ g ∈ fs, g ≠ .other) →
      s.ctxDone = none →
      SSent sid s { s with win := w, psend := some snd' } { frames := fs.map (fun f => (sid, dframeToS2C f)) }

theorem pumpSend_sent (cfg : SCfg) (sid : Sid) (s : SStream α) (snd : Snd α) :
    SSent sid s (s.pumpSend cfg sid snd).1 (s.pumpSend cfg sid snd).2 := by
  unfold SStream.pumpSend
  by_cases hfc : s.fc = true
  · rw [if_pos hfc]
    have hg := Emission.pumpFuel_good cfg.chunkMax (snd.rem.length + 1) s.win snd
    unfold pump
    generalize pumpFuel cfg.chunkMax (snd.rem.length + 1) s.win snd = r at hg
    obtain ⟨fs, w, rest⟩ := r
    have hg' : ∀ g ∈ fs, g ≠ .other := fun g h => (hg g h).1
    cases rest with
    | none => exact .done s fs w hg'
    | some snd' =>
      dsimp only
      split
      · rename_i e hc; exact .ctx s fs w e hg' hc
      · rename_i hc; exact .pending s fs w snd' hg' hc
  · rw [if_neg hfc]
    exact .done s _ s.win (fun g h => (Emission.sendAllFuel_good cfg.chunkMax _ snd g h).1)

theorem SSent.out {sid : Sid} {s s' : SStream α} {o : Out α} (h : SSent sid s s' o) :
    (∀ f ∈ o.frames, Conformance.S.isData f.2 = true) ∧
    (o.dones = [] ∨ o.dones = [(sid, "send", Res.ok)] ∨ ∃ e, o.dones = [(sid, "send", Res.ctx e)]) ∧
    (o.dones = [] ↔ s'.psend.isSome = true) ∧ ∃ w ps, s' = { s with win := w, psend := ps } := by
  cases h with
  | done fs w hg => exact ⟨map_frames_data sid fs hg, .inr (.inl rfl), ⟨nofun, nofun⟩, _, _, rfl⟩
  | ctx fs w e hg _ => exact ⟨map_frames_data sid fs hg, .inr (.inr ⟨e, rfl⟩), ⟨nofun, nofun⟩, _, _, rfl⟩
  | pending fs w snd' hg _ => exact ⟨map_frames_data sid fs hg, .inl rfl, ⟨fun _ => rfl, fun _ => rfl⟩, _, _, rfl⟩

theorem pumpSend_out (cfg : SCfg) (sid : Sid) (s : SStream α) (snd : Snd α) :
    (∀ f ∈ (s.pumpSend cfg sid snd).2.frames, Conformance.S.isData f.2 = true) ∧
    ((s.pumpSend cfg sid snd).2.dones = [] ∨ (s.pumpSend cfg sid snd).2.dones = [(sid, "send", Res.ok)] ∨
      ∃ e, (s.pumpSend cfg sid snd).2.dones = [(sid, "send", Res.ctx e)]) ∧
    ((s.pumpSend cfg sid snd).2.dones = [] ↔ (s.pumpSend cfg sid snd).1.psend.isSome = true) :=
  have h := (pumpSend_sent cfg sid s snd).out
  ⟨h.1, h.2.1, h.2.2.1⟩

theorem isData_notOK {f : S2C α} (h : Conformance.S.isData f = true) : isCloseOK f = false ∧ isUnset f = false := by
  cases f <;> first | exact ⟨rfl, rfl⟩ | cases h

theorem pumpSend_sb (cfg : SCfg) (sid : Sid) (s : SStream α) (snd : Snd α) :
    SB s (s.pumpSend cfg sid snd).1 (s.pumpSend cfg sid snd).2 := by
  obtain ⟨w, ps, hs⟩ := (pumpSend_sent cfg sid s snd).out.2.2.2
  obtain ⟨h1, h2, _⟩ := pumpSend_out cfg sid s snd
  refine SB.of_fields (by rw [hs]) (by rw [hs]) (fun f hf => (isData_notOK (h1 f hf)).1)
    (fun f hf => (isData_notOK (h1 f hf)).2) ?_
  intro d hd c hc
  rcases h2 with h2 | h2 | ⟨e, h2⟩ <;> rw [h2] at hd
  · cases hd
  · simp only [List.mem_singleton] at hd; subst hd; cases hc
  · simp only [List.mem_singleton] at hd; subst hd; cases hc

theorem credit_wu (sid : Sid) (s : SStream α) (credits : List Nat) :
    ∀ f ∈ s.creditFrames sid credits, Conformance.S.isWindowUpdate f.2 = true := by
  intro f hf
  unfold SStream.creditFrames at hf
  split at hf
  · obtain ⟨n, _, rfl⟩ := List.mem_map.mp hf
    rfl
  · cases hf

theorem wu_notOK {f : S2C α} (h : Conformance.S.isWindowUpdate f = true) : isCloseOK f = false ∧ isUnset f = false := by
  cases f <;> first | exact ⟨rfl, rfl⟩ | cases h

theorem SB.leaf {s s' : SStream α} {o : Out α} (hh : s'.halfClosed = s.halfClosed)
    (hr : RH s → nzo s'.readErr) (hf : ∀ f ∈ o.frames, Conformance.S.isWindowUpdate f.2 = true)
    (hd : RH s → DNZ o) : SB s s' o :=
  ⟨⟨fun h => ⟨hr h, by rw [hh]; exact h.2⟩, fun f h => (wu_notOK (hf f h)).2, hd⟩,
   fun _ f h => (wu_notOK (hf f h)).1⟩

theorem DNZ.toRes {e : SErr} (h : nz e) (fr : List (Sid × S2C α)) (sid : Sid) (n : String) :
    DNZ ({ frames := fr, dones := [(sid, n, e.toRes)] } : Out α) := by
  intro d hd c hc
  simp only [List.mem_singleton] at hd
  subst hd
  cases e with
  | status st => simp only [SErr.toRes, Res.status.injEq] at hc; rw [← hc]; exact h st rfl
  | eof => cases hc
  | ctx x => cases hc
  | plain t => cases hc

/-- One read, outcome by outcome of a pass of `readMsgLocked` over the queue: the queue exhausted on an
    open receiver (`blocked`) or on a dead one (`endedMsg`: the message held back is delivered; `ended`: the
    terminal error is returned), a read that fails and finishes the stream (`failed`: a second message
    while one is held back, or a reassembly error), a message delivered (`msg`), a first message held back
    while a second pass looks for the end of the stream (`look`). -/
theorem resumeRead_cases (sid : Sid) (mn : String) {P : SStream α → SStream α → Out α → Prop}
    (idle : ∀ s, P s s {})
    (blocked : ∀ {s : SStream α} {p w q cr st'}, s.pread = some p →
      readLoop s.rcv.rwin s.rcv.queue p.rst = (w, q, cr, some (.cont st')) →
      (s.rcv.closed || s.rcv.cancelled) = false →
      P s { drained s w q with pread := some { p with rst := st' } } { frames := s.creditFrames sid cr })
    (endedMsg : ∀ {s : SStream α} {p w q cr st' m}, s.pread = some p →
      readLoop s.rcv.rwin s.rcv.queue p.rst = (w, q, cr, some (.cont st')) →
      (s.rcv.closed || s.rcv.cancelled) = true → p.lookahead = some m → deqErr s = .eof →
      P s { drained s w q with pread := none, readErr := some .eof }
        { frames := s.creditFrames sid cr, dones := [(sid, opName s, .msg m)] })
    (ended : ∀ {s : SStream α} {p w q cr st'}, s.pread = some p →
      readLoop s.rcv.rwin s.rcv.queue p.rst = (w, q, cr, some (.cont st')) →
      (s.rcv.closed || s.rcv.cancelled) = true → (p.lookahead = none ∨ deqErr s ≠ .eof) →
      P s (failWith sid (s.creditFrames sid cr) (drained s w q) (deqErr s) true).1
        (failWith sid (s.creditFrames sid cr) (drained s w q) (deqErr s) true).2)
    (failed : ∀ {s : SStream α} {p w q cr out} (e : SErr), s.pread = some p →
      readLoop s.rcv.rwin s.rcv.queue p.rst = (w, q, cr, some out) →
      ((∃ m, p.lookahead = some m) ∧
          e = .status (mkStatus codeInvalidArgument "Already received request for non-client-stream method") ∨
        ∃ pe, e = perrStatus mn pe) →
      P s (failWith sid (s.creditFrames sid cr) (drained s w q) e false).1
        (failWith sid (s.creditFrames sid cr) (drained s w q) e false).2)
    (msg : ∀ {s : SStream α} {p w q cr m}, s.pread = some p →
      readLoop s.rcv.rwin s.rcv.queue p.rst = (w, q, cr, some (.msg m)) → p.lookahead = none → s.cs = true →
      P s { drained s w q with pread := none } { frames := s.creditFrames sid cr, dones := [(sid, opName s, .msg m)] })
    (look : ∀ {s : SStream α} {p w q cr m} {s' : SStream α} {o : Out α}, s.pread = some p →
      readLoop s.rcv.rwin s.rcv.queue p.rst = (w, q, cr, some (.msg m)) → p.lookahead = none → s.cs = false →
      P { drained s w q with pread := some { lookahead := some m, rst := none } } s' o →
      P s s' (({ frames := s.creditFrames sid cr } : Out α).add o)) :
    ∀ (fuel : Nat) (s : SStream α), P s (s.resumeRead sid mn fuel).1 (s.resumeRead sid mn fuel).2 := by
  intro fuel
  induction fuel with
  | zero => exact idle
  | succ n ih =>
    intro s
    cases hp : s.pread with
    | none => rw [ServerOps.resumeRead_none sid mn _ hp]; exact idle s
    | some p =>
      rw [ServerOps.resumeRead_succ sid mn n hp]
      rcases hr : readLoop s.rcv.rwin s.rcv.queue p.rst with ⟨w, q, cr, out⟩
      obtain ⟨_, r, _, rfl, _⟩ := readLoop_spec _ _ _ _ _ _ _ hr
      cases r with
      | cont st' =>
        cases hc : (s.rcv.closed || s.rcv.cancelled) with
        | false => rw [ServerOps.readPass_blocked hr hc]; exact blocked hp hr hc
        | true =>
          by_cases hd : deqErr s = .eof
          · cases hl : p.lookahead with
            | some m => rw [ServerOps.readPass_ended_msg hr hc hl hd]; exact endedMsg hp hr hc hl hd
            | none => rw [ServerOps.readPass_ended hr hc (.inl hl)]; exact ended hp hr hc (.inl hl)
          · rw [ServerOps.readPass_ended hr hc (.inr hd)]; exact ended hp hr hc (.inr hd)
      | msg m =>
        cases hl : p.lookahead with
        | some m0 => rw [ServerOps.readPass_second hr hl]; exact failed _ hp hr (.inl ⟨⟨m0, hl⟩, rfl⟩)
        | none =>
          cases hcs : s.cs with
          | true => rw [ServerOps.readPass_msg hr hl hcs]; exact msg hp hr hl hcs
          | false => rw [ServerOps.readPass_look hr hl hcs]; exact look hp hr hl hcs (ih _)
      | err e => rw [ServerOps.readPass_perr hr]; exact failed _ hp hr (.inr ⟨e, rfl⟩)
theorem failWith_ok (sid : Sid) (cf : List (Sid × S2C α)) (s : SStream α) (e : SErr) :
    failWith sid cf s e true =
      ({ s with pread := none, readErr := some e }, { frames := cf, dones := [(sid, opName s, e.toRes)] }) := rfl

theorem failWith_fin (sid : Sid) (cf : List (Sid × S2C α)) (s : SStream α) (e : SErr) :
    failWith sid cf s e false =
      ((({ s with pread := none, readErr := some e } : SStream α).finish sid (some e)).1,
       ({ frames := cf, dones := [(sid, opName s, e.toRes)] } : Out α).add
         (({ s with pread := none, readErr := some e } : SStream α).finish sid (some e)).2) := rfl

theorem failWith_fin_fst (sid : Sid) (cf : List (Sid × S2C α)) (s : SStream α) (e : SErr) :
    (failWith sid cf s e false).1 = (({ s with pread := none, readErr := some e } : SStream α).finish sid (some e)).1 := by
  rw [failWith_fin]

theorem failWith_fin_snd (sid : Sid) (cf : List (Sid × S2C α)) (s : SStream α) (e : SErr) :
    (failWith sid cf s e false).2 = ({ frames := cf, dones := [(sid, opName s, e.toRes)] } : Out α).add
      (({ s with pread := none, readErr := some e } : SStream α).finish sid (some e)).2 := by
  rw [failWith_fin]

theorem deqErr_nz {s : SStream α} (h : RH s) : nz (deqErr s) := by
  unfold deqErr
  split
  · exact nz_ctx _
  · rename_i h' heq; exact h.2 _ heq
  · exact nz_ctx _

theorem resumeRead_sb (sid : Sid) (mn : String) : ∀ (fuel : Nat) (s : SStream α),
    SB s (s.resumeRead sid mn fuel).1 (s.resumeRead sid mn fuel).2 := by
  refine resumeRead_cases sid mn SB.refl ?_ ?_ ?_ ?_ ?_ ?_
  · intro s p w q cr st' _ _ _
    exact SB.leaf rfl (fun h => h.1) (credit_wu sid s cr) (fun _ => DNZ.of_nil rfl)
  · intro s p w q cr st' m _ _ _ _ _
    exact SB.leaf rfl (fun _ => nzo_some nz_eof) (credit_wu sid s cr) (fun _ => DNZ.single _ _ _ nofun)
  · intro s p w q cr st' _ _ _ _
    rw [failWith_ok]
    exact SB.leaf rfl (fun h => nzo_some (deqErr_nz h)) (credit_wu sid s cr) (fun h => DNZ.toRes (deqErr_nz h) _ _ _)
  · intro s p w q cr out e _ _ he
    have hnz : nz e := by
      rcases he with ⟨_, rfl⟩ | ⟨pe, rfl⟩
      · exact nz_status (by decide)
      · exact nz_perr mn pe
    rw [failWith_fin_fst, failWith_fin_snd]
    exact SB.seq (a := ({ drained s w q with pread := none, readErr := some e } : SStream α))
      (SB.leaf rfl (fun _ => nzo_some hnz) (credit_wu sid s cr) (fun _ => DNZ.toRes hnz _ _ _)) (finish_sb sid _ _ _ hnz)
  · intro s p w q cr m _ _ _ _
    exact SB.leaf rfl (fun h => h.1) (credit_wu sid s cr) (fun _ => DNZ.single _ _ _ nofun)
  · intro s p w q cr m s' o _ _ _ _ h2
    exact SB.seq (a := ({ drained s w q with pread := some { lookahead := some m, rst := none } } : SStream α))
      (SB.leaf rfl (fun h => h.1) (credit_wu sid s cr) (fun _ => DNZ.of_nil rfl)) h2

theorem finish_nun (sid : Sid) (s : SStream α) (err : Option SErr) (b : Bool) : NoUnset (s.finish sid err b).2 := by
  rw [ServerOps.finish_eq]
  refine (cancelCtx_sb sid _ _).nun.add (fun f hf => ?_)
  rcases (finishCore_out sid s _).2 f hf with ⟨md, h⟩ | ⟨tr, h⟩ <;> rw [h] <;> rfl

theorem SB.post {s0 s s' : SStream α} {o : Out α} (h : SB s0 s o) (hr : s'.readErr = s.readErr)
    (hh : s'.halfClosed = s.halfClosed) : SB s0 s' o :=
  ⟨⟨fun h0 => by have := h.rh h0; unfold RH at *; rw [hr, hh]; exact this, h.nun, h.dnz⟩, h.nok⟩

/-- the error with which a unary handler returns when its decode callback fails -/
theorem decodeErr_nz (s : SStream α) (o : Out α) (a : Sid) (b : String) (r : Res α)
    (hfind : o.dones.find? (fun d => d.2.1 == "decode") = some (a, b, r)) (hrh : RH s) (hd : DNZ o) :
    nz (match (generalizing := false) r with
      | .eof => SErr.eof
      | .ctx e => .ctx e
      | .status c => s.readErr.getD (.status (mkStatus c ""))
      | _ => s.readErr.getD (.plain "?")) := by
  have hmem := List.mem_of_find?_eq_some hfind
  have hget : ∀ (d : SErr), nz d → nz (s.readErr.getD d) := by
    intro d hdn
    cases hr : s.readErr with
    | none => exact hdn
    | some e => exact hrh.1 e hr
  cases r with
  | eof => exact nz_eof
  | ctx e => exact nz_ctx e
  | status c => exact hget _ (nz_status (hd _ hmem c rfl))
  | ok => exact hget _ (nz_plain _)
  | msg m => exact hget _ (nz_plain _)
  | md m => exact hget _ (nz_plain _)
  | other t => exact hget _ (nz_plain _)

theorem afterDecode_sb (sid : Sid) (s0 s : SStream α) (o : Out α) (h : SB s0 s o) :
    SB s0 (s.afterDecode sid o).1 (s.afterDecode sid o).2 := by
  unfold SStream.afterDecode
  split
  · split
    · exact h.post rfl rfl
    · rename_i a b r hnm hfind
      dsimp only
      have hnz := fun h0 => decodeErr_nz s o a b r hfind (h.rh h0) (h.dnz h0)
      have hpre : RH s0 → RH ({ s with hstatus := .returned } : SStream α) := fun h0 => h.rh h0
      exact ⟨⟨fun h0 => (finish_sb sid _ _ _ (hnz h0)).rh (hpre h0), h.nun.add (finish_nun sid _ _ _),
        fun h0 => (h.dnz h0).add ((finish_sb sid _ _ _ (hnz h0)).dnz (hpre h0))⟩,
        fun h0 => (h.nok h0).add ((finish_sb sid _ _ _ (hnz h0)).nok (hpre h0))⟩
    · exact h
  · exact h

theorem readAndSettle_sb (sid : Sid) (s : SStream α) :
    SB s (s.readAndSettle sid).1 (s.readAndSettle sid).2 := by
  unfold SStream.readAndSettle
  exact afterDecode_sb sid s _ _ (resumeRead_sb sid "" 3 s)

theorem sendErr_nzo (o : Out α) (hd : DNZ o) : nzo (ServerOps.sendErr o) := by
  unfold ServerOps.sendErr
  split
  · exact nzo_some (nz_ctx _)
  · rename_i a b c hfind
    exact nzo_some (nz_status (hd _ (List.mem_of_find?_eq_some hfind) c rfl))
  · exact nzo_none

theorem afterSend_sb0 (sid : Sid) (s0 s : SStream α) (o : Out α) (h : SB s0 s o) :
    SB0 s0 (s.afterSend sid o).1 (s.afterSend sid o).2 := by
  rw [ServerOps.afterSend_eq]
  split
  · have hpre : RH s0 → RH ({ s with finishAfterSend := false, hstatus := .returned } : SStream α) :=
      fun h0 => h.rh h0
    have hf := fun h0 => finish_sb0 sid ({ s with finishAfterSend := false, hstatus := .returned } : SStream α)
      (ServerOps.sendErr o) false (sendErr_nzo o (h.dnz h0))
    refine ⟨fun h0 => (hf h0).rh (hpre h0), NoUnset.add (fun f hf' => h.nun f hf') (finish_nun sid _ _ _),
      fun h0 => DNZ.add (fun d hd => h.dnz h0 d (List.mem_filter.mp hd).1) ((hf h0).dnz (hpre h0))⟩
  · exact h.toSB0

theorem sendFailedIn_ok (sid : Sid) : sendFailedIn [(sid, "send", (Res.ok : Res α))] = false := by
  simp [sendFailedIn]

/-- the reply path (the `.reply` call, or a window update that resumes it) closes OK only if its send
    completed, successfully -/
theorem reply_ok (sid : Sid) (s : SStream α) (o : Out α) (hrh : RH s) (hnok : NoOK o)
    (hd : o.dones = [] ∨ o.dones = [(sid, "send", Res.ok)] ∨ ∃ e, o.dones = [(sid, "send", Res.ctx e)])
    (hps : o.dones = [] ↔ s.psend.isSome = true)
    (hok : ∃ f ∈ (s.afterSend sid o).2.frames, isCloseOK f.2 = true) :
    s.psend = none ∧ s.finishAfterSend = true ∧ sendFailedIn o.dones = false := by
  obtain ⟨f, hf, hfok⟩ := hok
  rw [ServerOps.afterSend_eq] at hf
  split at hf
  · rename_i hc
    simp only [Bool.and_eq_true, Option.isNone_iff_eq_none] at hc
    refine ⟨hc.2, hc.1, ?_⟩
    rcases hd with hd | hd | ⟨e, hd⟩
    · have := hps.mp hd
      rw [hc.2] at this; cases this
    · rw [hd]; exact sendFailedIn_ok sid
    · exfalso
      have he : ServerOps.sendErr o = some (.ctx e) := by
        unfold ServerOps.sendErr
        rw [hd]
        simp
      rw [he] at hf
      have hfin := (finish_sb sid ({ s with finishAfterSend := false, hstatus := .returned } : SStream α)
        (.ctx e) false (nz_ctx e)).nok hrh
      rcases List.mem_append.mp hf with hf | hf
      · rw [hnok f hf] at hfok; cases hfok
      · rw [hfin f hf] at hfok; cases hfok
  · rw [hnok f hf] at hfok; cases hfok

theorem halfClose_rh (s : SStream α) (e : SErr) (he : nz e) (h : RH s) : RH (s.halfClose e) := by
  unfold SStream.halfClose
  split
  · exact h
  · exact ⟨h.1, nzo_some he⟩

theorem Plain.sb {s s' : SStream α} {o : Out α} (hs : SameRead s s') (hp : Plain o) : SB s s' o := by
  refine SB.of_fields hs.1 hs.2.2.2.1 (fun f hf => ?_) (fun f hf => ?_) (fun d hd c hc => ?_)
  · obtain ⟨md, h⟩ := hp.1 f hf; rw [h]; rfl
  · obtain ⟨md, h⟩ := hp.1 f hf; rw [h]; rfl
  · rcases hp.2 d hd with h | h | ⟨t, h⟩ <;> rw [h] at hc
    · cases hc
    · cases hc; decide
    · cases hc

theorem hdrStage_sb (sid : Sid) (s : SStream α) :
    SB s (ServerOps.hdrStage sid s).1 ({ frames := (ServerOps.hdrStage sid s).2 } : Out α) :=
  Plain.sb (SOp.hdrSame sid s) ⟨SOp.hdrPlain sid s, forall_mem_nil⟩

/-- the handler returns: the status it returns goes on the wire, hence no `NoOK` here -/
theorem ret_sb0 (cfg : SCfg) (sid : Sid) (s : SStream α) (st : Status) :
    SB0 s (s.onCall cfg sid (.ret st)).1 (s.onCall cfg sid (.ret st)).2 := by
  rw [ServerOps.onCall_ret]
  have he : nzo (if st.code = 0 then none else some (SErr.status st)) := by
    split
    · exact nzo_none
    · rename_i hc; exact nzo_some (nz_status hc)
  exact ((finish_sb0 sid _ _ _ he).pre (by rfl) (by rfl)).seq
    (SB.of_fields (o := { events := [s!"returned {sid}"] }) rfl rfl (NoOK.of_nil rfl) (NoUnset.of_nil rfl)
      (DNZ.of_nil rfl)).toSB0

theorem sop_sb {K : SStream α → Prop} {fin : Bool} {cfg : SCfg} {sid : Sid} {s s' : SStream α} {o : Out α}
    (h : SOp K fin cfg sid s s' o) : SB0 s s' o ∧ (fin = false → SB s s' o) := by
  have full : ∀ {s s' : SStream α} {o : Out α}, SB s s' o → SB0 s s' o ∧ (fin = false → SB s s' o) :=
    fun h => ⟨h.toSB0, fun _ => h⟩
  have weak : ∀ {s s' : SStream α} {o : Out α}, fin = true → SB0 s s' o → SB0 s s' o ∧ (fin = false → SB s s' o) :=
    fun hf h => ⟨h, fun hf' => by rw [hf] at hf'; cases hf'⟩
  induction h with
  | refl s => exact full (SB.refl s)
  | seq _ _ ih1 ih2 => exact ⟨ih1.1.seq ih2.1, fun hf => (ih1.2 hf).seq (ih2.2 hf)⟩
  | cancelCtx s e => exact full (cancelCtx_sb sid s e)
  | loopFinish s e he =>
    refine full (finish_sb sid s e true ?_)
    rcases he with rfl | rfl | ⟨t, rfl⟩
    · exact nz_flow
    · exact nz_ctx _
    · exact nz_plain _
  | ret s st hf => exact weak hf (ret_sb0 cfg sid s st)
  | settle s => exact full (readAndSettle_sb sid s)
  | recvSticky s e he =>
    exact full (afterDecode_sb sid s s _
      ⟨⟨id, NoUnset.of_nil rfl, fun h => DNZ.toRes (h.1 e he) _ _ _⟩, fun _ => NoOK.of_nil rfl⟩)
  | recvCtx s c _ _ =>
    exact full (afterDecode_sb sid s _ _ ⟨⟨fun h => ⟨nzo_some (nz_ctx c), h.2⟩, NoUnset.of_nil rfl,
      fun _ => DNZ.single _ _ _ nofun⟩, fun _ => NoOK.of_nil rfl⟩)
  | readStarted s _ _ _ => exact full (SB.of_fields rfl rfl (NoOK.of_nil rfl) (NoUnset.of_nil rfl) (DNZ.of_nil rfl))
  | accepted s df _ _ => exact full (SB.of_fields rfl rfl (NoOK.of_nil rfl) (NoUnset.of_nil rfl) (DNZ.of_nil rfl))
  | queued s df _ _ => exact full (SB.of_fields rfl rfl (NoOK.of_nil rfl) (NoUnset.of_nil rfl) (DNZ.of_nil rfl))
  | pump s snd => exact full (pumpSend_sb cfg sid s snd)
  | sendFinish s snd hf => exact weak hf (afterSend_sb0 sid s _ _ (pumpSend_sb cfg sid s snd))
  | quiet hs hp => exact full (Plain.sb hs hp)

/-- the half-close frame is not an `SOp` chain (its `halfClose` needs the guard of each invariant) -/
theorem halfCloseFrame_sb (cfg : SCfg) (sid : Sid) (s : SStream α) :
    SB s (s.onFrame cfg sid .halfClose).1 (s.onFrame cfg sid .halfClose).2 := by
  rw [ServerOps.onFrame_halfClose]
  split
  · exact SB.refl s
  · exact (readAndSettle_sb sid _).pre_rh (halfClose_rh s .eof nz_eof)

/-- the handler returns in this event -/
def returns (s : SStream α) (e : SEv α) : Prop :=
  (∃ st, e = .call (.ret st)) ∨ (∃ m, e = .call (.reply m)) ∨
  (∃ n snd, e = .frame (.windowUpdate n) ∧ s.finishAfterSend = true ∧ s.psend = some snd)

theorem stepEv_sb (cfg : SCfg) (sid : Sid) (s : SStream α) (e : SEv α) :
    SB0 s (s.stepEv cfg sid e).1 (s.stepEv cfg sid e).2 ∧
    (¬ returns s e → SB s (s.stepEv cfg sid e).1 (s.stepEv cfg sid e).2) := by
  by_cases he : e = .frame .halfClose
  · rw [he]; exact ⟨(halfCloseFrame_sb cfg sid s).toSB0, fun _ => halfCloseFrame_sb cfg sid s⟩
  · exact ⟨(sop_sb (SOp.stepEv (K := fun _ => True) (fin := true) s e he (fun _ => trivial) (fun _ => rfl))).1,
      fun hr => (sop_sb (SOp.stepEv (K := fun _ => True) (fin := false) s e he (fun _ => trivial)
        (fun h => absurd h hr))).2 rfl⟩

/-- **the cause of an OK close frame**: the handler returned, or its unary
    reply was issued, or a window update resumed the blocked unary reply -/
theorem ok_cause (cfg : SCfg) (sid : Sid) (s : SStream α) (e : SEv α) (hrh : RH s)
    (hok : ∃ f ∈ (s.stepEv cfg sid e).2.frames, isCloseOK f.2 = true) : returns s e := by
  apply Classical.byContradiction
  intro hr
  obtain ⟨f, hf, hfok⟩ := hok
  rw [((stepEv_sb cfg sid s e).2 hr).nok hrh f hf] at hfok
  cases hfok

theorem isClose_of_ok {f : S2C α} (h : isCloseOK f = true) : Conformance.S.isClose f = true := by
  cases f <;> first | rfl | cases h

theorem last_is_ok {ks : List (S2C α)} (he : Conformance.EndsWithClose ks)
    (h1 : Conformance.cnt Conformance.S.isClose ks ≤ 1) (hok : ∃ f ∈ ks, isCloseOK f = true) :
    ∃ body c, ks = body ++ [c] ∧ isCloseOK c = true := by
  obtain ⟨f, hf, hfok⟩ := hok
  obtain ⟨a, b, hab⟩ := List.append_of_mem hf
  have hb := he.nothing_after h1 a f b hab (isClose_of_ok hfok)
  subst hb
  exact ⟨a, f, hab, hfok⟩

theorem kinds_mem {o : Out α} {f : Sid × S2C α} (h : f ∈ o.frames) : f.2 ∈ Conformance.kinds o :=
  List.mem_map.mpr ⟨f, h, rfl⟩

theorem mem_kinds {o : Out α} {k : S2C α} (h : k ∈ Conformance.kinds o) : ∃ f ∈ o.frames, f.2 = k := by
  obtain ⟨f, hf, rfl⟩ := List.mem_map.mp h
  exact ⟨f, hf, rfl⟩

theorem step_close_open (cfg : SCfg) (sid : Sid) (s : SStream α) (e : SEv α)
    (hok : ∃ f ∈ (s.stepEv cfg sid e).2.frames, isCloseOK f.2 = true) :
    s.closed = false ∧ Conformance.cnt Conformance.S.isClose (Conformance.kinds (s.stepEv cfg sid e).2) ≤ 1 := by
  obtain ⟨f, hf, hfok⟩ := hok
  have hcls := (Conformance.stepEv_step cfg sid s e).cls
  have hpos := Conformance.cnt_pos_of_any Conformance.S.isClose _
    (List.any_eq_true.mpr ⟨f.2, kinds_mem hf, isClose_of_ok hfok⟩)
  have := Conformance.toNat_le_one (s.stepEv cfg sid e).1.closed
  refine ⟨?_, by omega⟩
  cases hc : s.closed with
  | false => rfl
  | true => rw [hc] at hcls; simp only [Bool.toNat_true] at hcls; omega

theorem ok_ret (cfg : SCfg) (sid : Sid) (s : SStream α) (st : Status) (hJ : Conformance.J s)
    (hcl : s.closed = false) :
    Conformance.Settled (s.onCall cfg sid (.ret st)).1 ∧
    Conformance.EndsWithClose (Conformance.kinds (s.onCall cfg sid (.ret st)).2) := by
  refine ⟨Conformance.ret_settles_J cfg sid s st hJ, ?_⟩
  simp only [SStream.onCall, Conformance.kinds_add]
  have := Conformance.finish_ends sid ({ s with hstatus := .returned } : SStream α)
    (if st.code = 0 then none else some (.status st)) false hcl
  simpa [Conformance.kinds] using this

theorem ok_reply_step (cfg : SCfg) (hcm : 0 < cfg.chunkMax) (sid : Sid) (s1 : SStream α) (snd : Snd α)
    (o0 : Out α) (ho0 : NoOK o0) (ho0d : o0.dones = []) (ho0data : Emission.sdata o0 = [])
    (hrh : RH s1) (hJ : Conformance.J s1) (hcl : s1.closed = false)
    (hok : ∃ f ∈ ((s1.pumpSend cfg sid snd).1.afterSend sid (o0.add (s1.pumpSend cfg sid snd).2)).2.frames,
      isCloseOK f.2 = true) :
    Conformance.Settled ((s1.pumpSend cfg sid snd).1.afterSend sid (o0.add (s1.pumpSend cfg sid snd).2)).1 ∧
    Conformance.EndsWithClose
      (Conformance.kinds ((s1.pumpSend cfg sid snd).1.afterSend sid (o0.add (s1.pumpSend cfg sid snd).2)).2) ∧
    (∀ m st, Proofs.Framing.Linked m snd st →
      parse st (Emission.sdata
        ((s1.pumpSend cfg sid snd).1.afterSend sid (o0.add (s1.pumpSend cfg sid snd).2)).2) = ([m], .ok none)) := by
  obtain ⟨hp1, hp2, hp3⟩ := pumpSend_out cfg sid s1 snd
  obtain ⟨w, ps, hshape⟩ := (pumpSend_sent cfg sid s1 snd).out.2.2.2
  have hnok : NoOK (o0.add (s1.pumpSend cfg sid snd).2) :=
    ho0.add (fun f hf => (isData_notOK (hp1 f hf)).1)
  have hdn : (o0.add (s1.pumpSend cfg sid snd).2).dones = (s1.pumpSend cfg sid snd).2.dones := by
    show o0.dones ++ _ = _
    rw [ho0d]; rfl
  obtain ⟨hps, hfa, hnf⟩ := reply_ok sid (s1.pumpSend cfg sid snd).1 (o0.add (s1.pumpSend cfg sid snd).2)
    ((pumpSend_sb cfg sid s1 snd).rh hrh) hnok (by rw [hdn]; exact hp2) (by rw [hdn]; exact hp3) hok
  have hcond : ((s1.pumpSend cfg sid snd).1.finishAfterSend && (s1.pumpSend cfg sid snd).1.psend.isNone) = true := by
    rw [hfa, hps]; rfl
  have hdata := (Emission.s_afterSend_spec sid (s1.pumpSend cfg sid snd).1
    (o0.add (s1.pumpSend cfg sid snd).2)).2.1
  rw [ServerOps.afterSend_eq, if_pos hcond] at hdata ⊢
  dsimp only at hdata ⊢
  have hJ' : Conformance.J ({ (s1.pumpSend cfg sid snd).1 with finishAfterSend := false, hstatus := .returned } :
      SStream α) := (Conformance.pumpSend_J cfg sid s1 snd hJ).of_fields rfl rfl rfl
  have hcl' : ({ (s1.pumpSend cfg sid snd).1 with finishAfterSend := false, hstatus := .returned } :
      SStream α).closed = false := by
    show (s1.pumpSend cfg sid snd).1.closed = false
    rw [hshape]; exact hcl
  refine ⟨Conformance.finish_settles_J sid _ _ _ hJ', ?_, fun m st hl => ?_⟩
  · rw [Conformance.kinds_add]
    exact (Conformance.finish_ends sid _ _ _ hcl').prepend _
  · rw [hdata, Emission.sdata_add, ho0data, List.nil_append]
    have hprog := (Emission.s_pumpSend_spec cfg hcm sid s1 snd).1
    rw [hdn] at hnf
    rcases hprog m st hl with ⟨h1, _⟩ | ⟨st', snd', _, _, h3⟩
    · exact h1
    · exfalso
      rcases h3 with h3 | ⟨_, h3⟩
      · rw [hps] at h3; cases h3
      · rw [hnf] at h3; cases h3

def sIsRet : SEv α → Bool
  | .call (.ret _) => true
  | .call (.reply _) => true
  | _ => false

/-- **the handler makes no call after it returned** (grpc-go: the `ServerStream`
    must not be used after the handler returns) -/
def sNoCallAfterRet : List (SEv α) → Bool
  | [] => true
  | e :: es => (!sIsRet e || es.all (fun e' => !Conformance.SEv.isCall e')) && sNoCallAfterRet es

theorem submitted_nocalls (evs : List (SEv α)) (h : ∀ e ∈ evs, Conformance.SEv.isCall e = false) :
    SEv.submitted evs = [] := by
  induction evs with
  | nil => rfl
  | cons e es ih =>
    rw [Emission.s_submitted_cons, ih (fun e' he' => h e' (List.mem_cons_of_mem _ he'))]
    have := h e (List.mem_cons_self ..)
    cases e with
    | frame f => rfl
    | call c => cases this
    | ctx c => rfl

theorem emittedData_of_sframes_nil (outs : List (Out α)) (h : Conformance.sframes outs = []) :
    Out.emittedData outs = [] := by
  rw [C01.emittedData_eq_S]
  show (Conformance.sframes outs).filterMap dataOfS2C = []
  rw [h]; rfl

theorem hdrStage_J (sid : Sid) (s : SStream α) (h : Conformance.J s) : Conformance.J (ServerOps.hdrStage sid s).1 := by
  unfold ServerOps.hdrStage
  split
  · exact h
  · exact h.of_fields rfl rfl rfl

theorem hdrStage_closed (sid : Sid) (s : SStream α) : (ServerOps.hdrStage sid s).1.closed = s.closed := by
  unfold ServerOps.hdrStage
  split <;> rfl

theorem onFrame_wu_eq (cfg : SCfg) (sid : Sid) (s : SStream α) (n : Nat) (snd : Snd α)
    (hps : s.psend = some snd) (hc : (!s.fc || decide (n = 0)) = false) :
    s.onFrame cfg sid (.windowUpdate n) =
      ((({ s with win := wrap32 (s.win + n) } : SStream α).pumpSend cfg sid snd).1.afterSend sid
        (({ s with win := wrap32 (s.win + n) } : SStream α).pumpSend cfg sid snd).2) := by
  simp only [SStream.onFrame, hc, hps]
  rfl

theorem onFrame_wu_noop (cfg : SCfg) (sid : Sid) (s : SStream α) (n : Nat)
    (hc : (!s.fc || decide (n = 0)) = true) :
    s.onFrame cfg sid (.windowUpdate n) = (s, {}) := by
  simp only [SStream.onFrame, hc]
  rfl

theorem ok_step (cfg : SCfg) (hcm : 0 < cfg.chunkMax) (sid : Sid) (s : SStream α) (replied : Bool)
    (E : List (DFrame α)) (S : List (List α)) (e : SEv α) (es : List (SEv α))
    (hinv : Emission.Inv s.psend replied E S) (hF : s.finishAfterSend = true → replied = true)
    (hrh : RH s) (hJ : Conformance.J s)
    (hsend : Emission.sIsSend e = true → s.psend = none)
    (hnc1 : (!sIsRet e || es.all (fun e' => !Conformance.SEv.isCall e')) = true)
    (hrep : replied = true → ∀ e' ∈ e :: es, Conformance.SEv.isCall e' = false)
    (hnf1 : sendFailedIn (s.stepEv cfg sid e).2.dones = false)
    (hok : ∃ f ∈ (s.stepEv cfg sid e).2.frames, isCloseOK f.2 = true) :
    parse none (E ++ Emission.sdata (s.stepEv cfg sid e).2) = (S ++ Emission.ssub e, .ok none) ∧
    Conformance.Settled (s.stepEv cfg sid e).1 ∧
    Conformance.EndsWithClose (Conformance.kinds (s.stepEv cfg sid e).2) ∧
    (∀ e' ∈ es, Conformance.SEv.isCall e' = false) := by
  obtain ⟨hcl, _⟩ := step_close_open cfg sid s e hok
  have hcall : Conformance.SEv.isCall e = true → replied = false := by
    intro hc
    cases hr : replied with
    | false => rfl
    | true => rw [hrep hr e (List.mem_cons_self ..)] at hc; cases hc
  have hesret : sIsRet e = true → ∀ e' ∈ es, Conformance.SEv.isCall e' = false := by
    intro hr e' he'
    rw [hr] at hnc1
    simp only [Bool.not_true, Bool.false_or, List.all_eq_true, Bool.not_eq_eq_eq_not, Bool.not_true] at hnc1
    exact hnc1 e' he'
  rcases ok_cause cfg sid s e hrh hok with ⟨st, rfl⟩ | ⟨m, rfl⟩ | ⟨n, snd, rfl, hfa, hps⟩
  · -- the handler returns
    have hr := hcall rfl
    obtain ⟨hset, hends⟩ := ok_ret cfg sid s st hJ hcl
    have hq := Emission.s_onCall_quiet cfg sid s (.ret st) (fun m h => by cases h) (fun m h => by cases h)
    have hps : s.psend = none := by
      rcases hq.2.2 with h | ⟨_, h⟩
      · rw [← h]; exact hset.2.1
      · have h' : (sendFailedIn (s.onCall cfg sid (.ret st)).2.dones || s.finishAfterSend) = true := h
        rw [show sendFailedIn (s.onCall cfg sid (.ret st)).2.dones = false from hnf1, Bool.false_or] at h'
        rw [hF h'] at hr; cases hr
    refine ⟨?_, hset, hends, hesret rfl⟩
    show parse none (E ++ Emission.sdata (s.onCall cfg sid (.ret st)).2) = (S ++ [], _)
    rw [hq.1, List.append_nil, List.append_nil]
    exact hinv.idle hps hr
  · -- the unary reply goes out at once
    have hr := hcall rfl
    have hps : s.psend = none := hsend rfl
    have hidle := hinv.idle hps hr
    obtain ⟨hp, hf, hd⟩ := Emission.hdrStage_fields sid s
    have hhs := hdrStage_sb sid s
    have hok' := hok
    simp only [SStream.stepEv] at hok' ⊢
    rw [ServerOps.onCall_reply] at hok' ⊢
    obtain ⟨h1, h2, h3⟩ := ok_reply_step cfg hcm sid
      ({ (ServerOps.hdrStage sid s).1 with numSent := (ServerOps.hdrStage sid s).1.numSent + 1, finishAfterSend := true } : SStream α)
      (Snd.start m) ({ frames := (ServerOps.hdrStage sid s).2 } : Out α)
      (hhs.nok hrh) rfl (hd []) (hhs.rh hrh) ((hdrStage_J sid s hJ).of_fields rfl rfl rfl)
      ((hdrStage_closed sid s).trans hcl) hok'
    refine ⟨?_, h1, h2, hesret rfl⟩
    rw [Proofs.Framing.parse_append_ok hidle, h3 m none (Proofs.Framing.linked_start m)]
    rfl
  · -- a window update completes the blocked unary reply
    have hr : replied = true := hF hfa
    have hes : ∀ e' ∈ es, Conformance.SEv.isCall e' = false :=
      fun e' he' => hrep hr e' (List.mem_cons_of_mem _ he')
    obtain ⟨ms, m, st, hS, hpE, hl⟩ := hinv.busy snd hps
    have hok' := hok
    simp only [SStream.stepEv] at hok' ⊢
    cases hc : (!s.fc || decide (n = 0)) with
    | true =>
      rw [onFrame_wu_noop cfg sid s n hc] at hok'
      obtain ⟨f, hf, _⟩ := hok'
      cases hf
    | false =>
      rw [onFrame_wu_eq cfg sid s n snd hps hc] at hok' ⊢
      rw [← ServerOps.Out.empty_add (({ s with win := wrap32 (s.win + n) } : SStream α).pumpSend cfg sid snd).2] at hok' ⊢
      obtain ⟨h1, h2, h3⟩ := ok_reply_step cfg hcm sid ({ s with win := wrap32 (s.win + n) } : SStream α) snd {}
        (NoOK.of_nil rfl) rfl rfl hrh (hJ.of_fields rfl rfl rfl) hcl hok'
      refine ⟨?_, h1, h2, hes⟩
      rw [Proofs.Framing.parse_append_ok hpE, h3 m st hl, hS]
      show (ms ++ [m], _) = (ms ++ [m] ++ [], _)
      rw [List.append_nil]

theorem sIsSend_isCall {e : SEv α} (h : Emission.sIsSend e = true) : Conformance.SEv.isCall e = true := by
  cases e with
  | frame f => cases h
  | call c => rfl
  | ctx c => cases h

theorem sIsReply_isRet {e : SEv α} (h : Emission.sIsReply e = true) : sIsRet e = true := by
  cases e with
  | frame f => cases h
  | call c => cases c <;> first | rfl | cases h
  | ctx c => cases h

/-- The central induction of the response direction.  Along a run that obeys the handler's contract,
    `Emission.Inv` (ghosts: `E` the data frames emitted so far, `S` the messages submitted so far,
    `replied` the unary reply has been issued), `RH` and `Conformance.J` are kept up to the step that
    emits the OK close frame (`ok_step`); after it the stream is settled and nothing more is emitted. -/
theorem srv_main (cfg : SCfg) (hcm : 0 < cfg.chunkMax) (sid : Sid) : ∀ (evs : List (SEv α)) (s : SStream α)
    (replied : Bool) (E : List (DFrame α)) (S : List (List α)),
    Emission.Inv s.psend replied E S → (s.finishAfterSend = true → replied = true) → RH s → Conformance.J s →
    SStream.legalSends cfg sid s false evs = true → sNoCallAfterRet evs = true →
    (replied = true → ∀ e ∈ evs, Conformance.SEv.isCall e = false) →
    Emission.sAnyFailed (SStream.runEv cfg sid s evs).2 = false →
    (∃ f ∈ Conformance.sframes (SStream.runEv cfg sid s evs).2, isCloseOK f = true) →
    parse none (E ++ Out.emittedData (SStream.runEv cfg sid s evs).2) = (S ++ SEv.submitted evs, .ok none) ∧
    ∃ body c, Conformance.sframes (SStream.runEv cfg sid s evs).2 = body ++ [c] ∧ isCloseOK c = true := by
  intro evs
  induction evs with
  | nil =>
    intro s replied E S _ _ _ _ _ _ _ _ hok
    obtain ⟨f, hf, _⟩ := hok
    cases hf
  | cons e es ih =>
    intro s replied E S hinv hF hrh hJ hl hnc hrep hnf hok
    rw [Emission.s_legalSends_cons] at hl
    simp only [Bool.and_eq_true] at hl
    obtain ⟨hsendok, hl'⟩ := hl
    rw [ServerOps.runEv_cons] at hnf hok ⊢
    simp only [Emission.sAnyFailed, List.any_cons, Bool.or_eq_false_iff] at hnf
    obtain ⟨hnf1, hnf2⟩ := hnf
    simp only [sNoCallAfterRet, Bool.and_eq_true] at hnc
    obtain ⟨hnc1, hnc2⟩ := hnc
    have hsend : Emission.sIsSend e = true → s.psend = none ∧ replied = false := by
      intro hs
      rw [hs] at hsendok
      simp only [Bool.not_true, Bool.false_or, Bool.and_eq_true, Option.isNone_iff_eq_none] at hsendok
      refine ⟨hsendok.1, ?_⟩
      cases hr : replied with
      | false => rfl
      | true =>
        have := hrep hr e (List.mem_cons_self ..)
        rw [sIsSend_isCall hs] at this; cases this
    have hstep := Emission.s_step_inv cfg hcm sid s replied E S e hinv hF hsend
    rw [hnf1, Bool.or_false] at hstep
    rw [hnf1, Bool.or_false] at hl'
    have hrep' : (replied || Emission.sIsReply e) = true → ∀ e' ∈ es, Conformance.SEv.isCall e' = false := by
      intro hh e' he'
      cases hr : replied with
      | true => exact hrep hr e' (List.mem_cons_of_mem _ he')
      | false =>
        rw [hr, Bool.false_or] at hh
        rw [sIsReply_isRet hh] at hnc1
        simp only [Bool.not_true, Bool.false_or, List.all_eq_true, Bool.not_eq_eq_eq_not, Bool.not_true] at hnc1
        exact hnc1 e' he'
    rw [Emission.s_emittedData_eq, List.flatMap_cons, ← Emission.s_emittedData_eq, Emission.s_submitted_cons,
      Conformance.sframes_cons]
    rw [Conformance.sframes_cons] at hok
    obtain ⟨f, hf, hfok⟩ := hok
    rcases List.mem_append.mp hf with hf | hf
    · -- this step emits the OK close frame
      obtain ⟨f', hf', hff'⟩ := mem_kinds hf
      have hok' : ∃ f ∈ (s.stepEv cfg sid e).2.frames, isCloseOK f.2 = true := ⟨f', hf', by rw [hff']; exact hfok⟩
      obtain ⟨h1, h2, h3, h4⟩ := ok_step cfg hcm sid s replied E S e es hinv hF hrh hJ (fun hs => (hsend hs).1)
        hnc1 hrep hnf1 hok'
      have hrun := Conformance.S5_settled_run cfg sid es _ h2 h4
      rw [emittedData_of_sframes_nil _ hrun.1, submitted_nocalls es h4, hrun.1, List.append_nil, List.append_nil,
        List.append_nil]
      exact ⟨h1, last_is_ok h3 (step_close_open cfg sid s e hok').2 ⟨f, hf, hfok⟩⟩
    · -- a later step does
      have := ih _ _ _ _ hstep.1 hstep.2 ((stepEv_sb cfg sid s e).1.rh hrh) (Conformance.stepEv_J cfg sid s e hJ)
        hl' hnc2 hrep' hnf2 ⟨f, hf, hfok⟩
      obtain ⟨hp, body, c, hb, hc⟩ := this
      refine ⟨?_, Conformance.kinds (s.stepEv cfg sid e).2 ++ body, c, by rw [hb, List.append_assoc], hc⟩
      rw [← List.append_assoc, ← List.append_assoc]
      exact hp

/-- a freshly created server stream, as far as the response direction goes
    (what `Srv.createStream` builds satisfies all of it) -/
def SFreshR (s0 : SStream α) : Prop :=
  s0.psend = none ∧ s0.finishAfterSend = false ∧ s0.ctxDone = none ∧ s0.readErr = none ∧ s0.halfClosed = none

/-- **Server completeness (emission).**  If a server stream has put a close
    frame with an OK status on the wire — and the handler kept its contract: one
    send at a time, none after a failed one, no call after it returned, and no
    send of it failed — then that close frame is the LAST frame the stream ever
    emitted, it is the only close frame, and the data frames before it are
    exactly the chunkings of ALL the messages the handler submitted. -/
theorem server_closeOK_complete (cfg : SCfg) (hcm : 0 < cfg.chunkMax) (sid : Sid) (s0 : SStream α)
    (h0 : SFreshR s0) (sevs : List (SEv α))
    (hl : SStream.legalSends cfg sid s0 false sevs = true) (hnc : sNoCallAfterRet sevs = true)
    (hnf : Emission.sAnyFailed (SStream.runEv cfg sid s0 sevs).2 = false)
    (hok : ∃ f ∈ Conformance.sframes (SStream.runEv cfg sid s0 sevs).2, isCloseOK f = true) :
    parse none (Out.emittedData (SStream.runEv cfg sid s0 sevs).2) = (SEv.submitted sevs, .ok none) ∧
    ∃ body c, Conformance.sframes (SStream.runEv cfg sid s0 sevs).2 = body ++ [c] ∧ isCloseOK c = true ∧
      ∀ f ∈ body, Conformance.S.isClose f = false := by
  obtain ⟨hp, hf, hc, hr, hh⟩ := h0
  have hinv : Emission.Inv s0.psend false ([] : List (DFrame α)) [] := hp ▸ Emission.Inv.init
  have hrh : RH s0 := ⟨by rw [hr]; exact nzo_none, by rw [hh]; exact nzo_none⟩
  obtain ⟨h1, body, c, h2, h3⟩ := srv_main cfg hcm sid sevs s0 false [] [] hinv
    (fun h => by rw [hf] at h; cases h) hrh (Conformance.J.of_open hc) hl hnc (fun h => by cases h) hnf hok
  simp only [List.nil_append] at h1
  have hone := Conformance.S2_at_most_one_close cfg sid s0 sevs
  rw [h2] at hone
  exact ⟨h1, body, c, h2, h3, (others_not (isClose_of_ok h3) hone).1⟩

theorem ret_emits_closeOK (cfg : SCfg) (sid : Sid) (s : SStream α) (st : Status) (hcl : s.closed = false)
    (hst : st.code = 0) :
    ∃ f ∈ Conformance.kinds (s.onCall cfg sid (.ret st)).2, isCloseOK f = true := by
  rw [Conformance.ret_frames cfg sid s st hcl]
  refine ⟨S2C.close (SErr.wireStatus (if st.code = 0 then none else some (.status st))) s.trailers, by simp, ?_⟩
  simp [hst, isCloseOK, SErr.wireStatus, mkStatus, codeOK]

theorem sawRecvEof_of_mem {outs : List (COut α)} {o : COut α} {sid : Sid} (ho : o ∈ outs)
    (hd : (sid, "recv", Res.eof) ∈ o.dones) : sawRecvEof outs = true := by
  refine List.any_eq_true.mpr ⟨o, ho, List.any_eq_true.mpr ⟨_, hd, ?_⟩⟩
  simp [isEof]

theorem C01_response_complete (ccfg : CCfg) (scfg : SCfg) (hcm : 0 < scfg.chunkMax) (sid : Sid)
    (c0 : CStream α) (s0 : SStream α) (hs0 : SFreshR s0) (hc0 : CFresh c0)
    (cevs : List (CEv α)) (sevs : List (SEv α))
    (hsend : SStream.legalSends scfg sid s0 false sevs = true)
    (hnc : sNoCallAfterRet sevs = true)
    (hnf : Emission.sAnyFailed (SStream.runEv scfg sid s0 sevs).2 = false)
    (hrecv : legalRecvsC ccfg sid c0 cevs = true)
    (hfu : c0.fc = true ∨ (CStream.runEv ccfg sid c0 cevs).1.unsupported = false)
    (hfifo : C01.fedFramesC cevs = C01.emittedFramesS (SStream.runEv scfg sid s0 sevs).2)
    (heof : sawRecvEof (CStream.runEv ccfg sid c0 cevs).2 = true) :
    COut.deliveredMsgs (CStream.runEv ccfg sid c0 cevs).2 = SEv.submitted sevs := by
  -- the caller was fed an OK close frame, so the handler's stream has emitted one
  obtain ⟨pre, st, tr, post, hsplit, hst, hdel⟩ := client_eof_complete ccfg sid c0 hc0 cevs hrecv hfu heof
  have hfed := fedFramesC_at pre post (.close st tr)
  rw [← hsplit, hfifo] at hfed
  have hcok : isCloseOK (.close st tr : S2C α) = true := by simp [isCloseOK, hst]
  obtain ⟨hparse, body, c, hshape, _, hbody⟩ := server_closeOK_complete scfg hcm sid s0 hs0 sevs hsend hnc hnf
    ⟨_, by rw [show Conformance.sframes _ = _ from hfed]; exact List.mem_append_right _ (List.mem_cons_self ..), hcok⟩
  -- it is the last frame emitted: the data fed before it is all the data emitted
  obtain ⟨hpre, hc, _⟩ := split_unique (hfed.symm.trans hshape) hcok
    (fun f hf => Bool.eq_false_iff.mpr fun hx => by have := hbody f hf; rw [isClose_of_ok hx] at this; cases this)
    (fun _ h => by cases h)
  have hdata : Out.emittedData (SStream.runEv scfg sid s0 sevs).2 = body.filterMap dataOfS2C := by
    rw [C01.emittedData_eq_S, show C01.emittedFramesS _ = _ from hshape, ← hc, List.filterMap_append,
      List.filterMap_cons_none rfl, List.filterMap_nil, List.append_nil]
  rw [hdel, C01.fedData_eq_C, hpre, ← hdata, hparse]

/-- the data can come from a well-behaved sender: it reassembles without
    error, to at most one message if the response is not streamed -/
def GoodData (ss : Bool) (D : List (DFrame α)) : Prop :=
  (∃ ms st, parse none D = (ms, .ok st)) ∧ (ss = false → (parse none D).1.length ≤ 1)

theorem GoodData.prefix {ss : Bool} {D D' : List (DFrame α)} (h : GoodData ss (D ++ D')) : GoodData ss D := by
  obtain ⟨⟨ms, st, hp⟩, hl⟩ := h
  constructor
  · rcases hx : parse none D with ⟨ms', r⟩
    cases r with
    | ok st' => exact ⟨ms', st', rfl⟩
    | error e => rw [parse_append_err hx] at hp; cases hp
  · intro hss
    have := (parse_msgs_prefix none D D').length_le
    have := hl hss
    omega

theorem GoodData.not_bad {ss la : Bool} {D : List (DFrame α)} (h : GoodData ss D) (hla : la = true → ss = false) :
    ¬ BadData ss la D := by
  obtain ⟨⟨ms, st, hp⟩, hl⟩ := h
  rintro (⟨ms', e, he⟩ | ⟨hc, h2⟩)
  · rw [hp] at he; cases he
  · have hss : ss = false := by
      rcases hc with hc | hc
      · exact hc
      · exact hla hc
    have := hl hss
    omega

theorem rr_stays_open (sid : Sid) {s : CStream α} {r : CStream α × COut α × Option SErr} (h : RR s r)
    (hd : s.done = none) (hla : hasLA s.pread = true → s.ss = false)
    {acc : List (DFrame α)} {del : List (List α)} (ha : Acct s.rcv.queue false s.pread acc del)
    (hg : GoodData s.ss acc) : (CStream.afterRead sid r).1.done = none := by
  rw [ClientOps.afterRead_eq]
  rcases h.cases with ⟨_, _, a3, _⟩ | ⟨_, _, _, _, a5, _, _⟩ | ⟨e, _, _, _, _, _, a6⟩
  · simp only [a3]; exact h.done.trans hd
  · simp only [a5]; exact h.done.trans hd
  · exact absurd (a6 acc del ha) (hg.not_bad hla)

/-- a data frame fits the receive window `rcv.rwin`, unless flow control is off or the receiver is closed -/
def winOK (s : CStream α) : CEv α → Bool
  | .frame f =>
    match dataOfS2C f with
    | some df => !s.fc || s.rcv.closed || decide (df.size ≤ s.rcv.rwin)
    | none => true
  | _ => true

/-- **the peer respects the caller's receive window** along the run (flow
    control: no data frame larger than the window the caller has open at that
    moment).  The state is threaded as in `legalRecvsC`. -/
def noWinExceed (cfg : CCfg) (sid : Sid) : CStream α → List (CEv α) → Bool
  | _, [] => true
  | s, e :: es => winOK s e && noWinExceed cfg sid (s.stepEv cfg sid e).1 es

/-- the event does not end the RPC by itself -/
def evQuiet : CEv α → Bool
  | .frame (.close _ _) => false
  | .frame (.settings _ _) => false
  | .frame .unset => false
  | .frame _ => true
  | .call .cancel => false
  | .call _ => true
  | .ctx _ => false

theorem dataFrame_stays_open (sid : Sid) (s : CStream α) (df : DFrame α) {fed : List (DFrame α)}
    {del : List (List α)} (hci : CInv s fed del) (hpi : PreInv s) (hd : s.done = none)
    (hw : (!s.fc || s.rcv.closed || decide (df.size ≤ s.rcv.rwin)) = true)
    (hg : GoodData s.ss (fed ++ [df])) : (ClientOps.dataFrame sid s df).1.done = none := by
  obtain ⟨hre, hcl, ha⟩ := acct_of_open hci hpi hd
  unfold ClientOps.dataFrame
  by_cases hfc : s.fc = true
  · rw [if_pos hfc]
    rcases accept_cases s.rcv df with ⟨_, hacc⟩ | ⟨_, hbig, hacc⟩ | ⟨_, hacc⟩
    · rw [hacc]; exact hd
    · exfalso
      rw [hfc, hcl] at hw
      simp only [Bool.not_true, Bool.false_or, decide_eq_true_eq] at hw
      omega
    · rw [hacc]
      exact rr_stays_open sid (resumeRead_rr sid 3 _) hd hpi.1.2.2.2 (acc := fed ++ [df]) (del := del)
        (ha.feed df) hg
  · rw [if_neg hfc, if_neg (by rw [hcl]; exact Bool.false_ne_true)]
    by_cases hq : (!s.rcv.queue.isEmpty) = true
    · rw [if_pos hq]; exact hd
    · rw [if_neg hq]
      have hq' : s.rcv.queue = [] := by simpa using hq
      rw [hq'] at ha
      exact rr_stays_open sid (resumeRead_rr sid 3 _) hd hpi.1.2.2.2 (acc := fed ++ [df]) (del := del)
        (ha.feed df) hg

theorem step_stays_open (cfg : CCfg) (sid : Sid) (s : CStream α) (e : CEv α) {fed : List (DFrame α)}
    {del : List (List α)} (hci : CInv s fed del) (hpi : PreInv s) (hd : s.done = none)
    (hk : cevOK s e = true) (hq : evQuiet e = true) (hw : winOK s e = true)
    (hg : GoodData s.ss (fed ++ cevData e)) : (s.stepEv cfg sid e).1.done = none := by
  cases e with
  | frame f =>
    show (s.onFrame cfg sid f).1.done = none
    cases f with
    | settings w rv => cases hq
    | close st tr => cases hq
    | unset => cases hq
    | headers md =>
      cases hg' : s.gotHeaders with
      | true => rw [ClientOps.onFrame_headers_eq, hg', if_pos rfl]; exact hd
      | false => rw [ClientOps.onFrame_headers cfg sid s md hg']; exact hd
    | windowUpdate n =>
      rw [ClientOps.onFrame_windowUpdate_eq]
      by_cases hn : (!s.fc || decide (n = 0)) = true
      · rw [if_pos hn]; exact hd
      · rw [if_neg hn]
        cases s.psend with
        | none => exact hd
        | some snd => exact (ClientShape.pumpSend_done cfg sid _ snd).trans hd
    | msg size d => exact dataFrame_stays_open sid s _ hci hpi hd hw hg
    | more d => exact dataFrame_stays_open sid s _ hci hpi hd hw hg
  | call c =>
    show (s.onCall cfg sid c).1.done = none
    cases c with
    | cancel => cases hq
    | send m =>
      rw [ClientOps.onCall_send]
      by_cases hn : (!s.cs && s.numSent == 1) = true
      · rw [if_pos hn]; exact hd
      · rw [if_neg hn]; exact (ClientShape.pumpSend_done cfg sid _ _).trans hd
    | closeSend =>
      rw [ClientOps.onCall_closeSend]
      by_cases h1 : s.doneSignal = true
      · rw [if_pos h1]; exact hd
      · rw [if_neg h1]
        by_cases h2 : s.halfClosed = true
        · rw [if_pos h2]; exact hd
        · rw [if_neg h2]; exact hd
    | recv =>
      obtain ⟨hre, hcl, ha⟩ := acct_of_open hci hpi hd
      rw [ClientOps.onCall_recv]
      simp only [hre]
      have hg' : GoodData s.ss fed := by simpa [cevData] using hg
      exact rr_stays_open sid (resumeRead_rr sid 3 _) hd (fun h => by cases h) (acc := fed) (del := del)
        (ha.start hk) hg'
    | header =>
      rw [ClientOps.onCall_header]
      by_cases h1 : s.gotHeaders = true
      · rw [if_pos h1]; exact hd
      · rw [if_neg h1]
        cases s.ctxDone <;> exact hd
    | trailer => exact hd
  | ctx c => cases hq

theorem evQuiet_noSwitch {e : CEv α} (h : evQuiet e = true) (s : CStream α) : cevSwitch s e = false := by
  cases e with
  | frame f => cases f <;> first | rfl | cases h
  | call c => rfl
  | ctx c => rfl

theorem stays_open (cfg : CCfg) (sid : Sid) (evs : List (CEv α)) : ∀ (s : CStream α) (fed : List (DFrame α))
    (del : List (List α)), CInv s fed del → PreInv s → s.done = none → legalRecvsC cfg sid s evs = true →
    (s.fc = true ∨ (CStream.runEv cfg sid s evs).1.unsupported = false) →
    (∀ e ∈ evs, evQuiet e = true) → noWinExceed cfg sid s evs = true →
    GoodData s.ss (fed ++ CEv.fedData evs) →
    (CStream.runEv cfg sid s evs).1.done = none ∧
    CInv (CStream.runEv cfg sid s evs).1 (fed ++ CEv.fedData evs)
      (del ++ COut.deliveredMsgs (CStream.runEv cfg sid s evs).2) ∧
    PreInv (CStream.runEv cfg sid s evs).1 := by
  induction evs with
  | nil =>
    intro s fed del hci hpi hd _ _ _ _ _
    simp only [CStream.runEv, CEv.fedData, COut.deliveredMsgs, List.filterMap_nil, List.flatMap_nil,
      List.append_nil]
    exact ⟨hd, hci, hpi⟩
  | cons e es ih =>
    intro s fed del hci hpi hd hl hfu hq hw hg
    obtain ⟨hk, hl'⟩ := legalRecvsC_cons cfg sid s e es hl
    simp only [noWinExceed, Bool.and_eq_true] at hw
    obtain ⟨hw1, hw2⟩ := hw
    have hq1 := hq e (List.mem_cons_self ..)
    rw [cfedData_cons, ← List.append_assoc] at hg
    have hd' := step_stays_open cfg sid s e hci hpi hd hk hq1 hw1 hg.prefix
    have hb := stepEv_pb cfg sid s e (evQuiet_noSwitch hq1 s)
    have hpi' : PreInv (s.stepEv cfg sid e).1 := ⟨hb.inv hpi.1, hb.re hpi.1 hpi.2⟩
    have hs := cstepEv_spec cfg sid s e hk
    rw [ClientOps.runEv_cons] at hfu ⊢
    dsimp only at hfu ⊢
    rw [cfedData_cons, cdeliveredMsgs_cons, ← List.append_assoc, ← List.append_assoc]
    have hss : (s.stepEv cfg sid e).1.ss = s.ss := by
      cases e with
      | frame f => exact (ClientShape.onFrame_block cfg sid s f).ss
      | call c => exact (ClientShape.onCall_spec cfg sid s c).ss
      | ctx c => exact (ClientShape.ctxCancelled_block sid s c).ss
    rcases hs.inv fed del hci with ⟨hfc, hu⟩ | hci'
    · exfalso
      have := crunEv_unsupported cfg sid es _ hl' hu
      rcases hfu with h | h
      · rw [hfc] at h; cases h
      · rw [this] at h; cases h
    · refine ih _ _ _ hci' hpi' hd' hl' ?_ (fun e' he' => hq e' (List.mem_cons_of_mem _ he')) hw2
        (by rw [hss]; exact hg)
      rcases hfu with h | h
      · exact Or.inl (hs.fc.trans h)
      · exact Or.inr h

theorem srv_no_unset (cfg : SCfg) (sid : Sid) (evs : List (SEv α)) : ∀ (s : SStream α),
    ∀ f ∈ Conformance.sframes (SStream.runEv cfg sid s evs).2, isUnset f = false := by
  induction evs with
  | nil => intro s f hf; cases hf
  | cons e es ih =>
    intro s f hf
    rw [ServerOps.runEv_cons, Conformance.sframes_cons] at hf
    rcases List.mem_append.mp hf with hf | hf
    · obtain ⟨f', hf', rfl⟩ := mem_kinds hf
      exact (stepEv_sb cfg sid s e).1.nun f' hf'
    · exact ih _ f hf

theorem noWinExceed_append (cfg : CCfg) (sid : Sid) (pre post : List (CEv α)) (s : CStream α) :
    noWinExceed cfg sid s (pre ++ post) =
      (noWinExceed cfg sid s pre && noWinExceed cfg sid (CStream.runEv cfg sid s pre).1 post) :=
  guard_append (step := fun s e => s.stepEv cfg sid e) (run := CStream.runEv cfg sid) (fun _ => rfl)
    (fun _ _ _ => rfl) (fun _ => rfl) (fun _ _ _ => rfl) post pre s

/-- the caller does not end the RPC itself: it does not cancel, and its context does not end -/
def cNoCancel (evs : List (CEv α)) : Bool :=
  evs.all (fun e => match e with
    | .ctx _ => false
    | .call .cancel => false
    | _ => true)

theorem C01_response_ok_partial (ccfg : CCfg) (scfg : SCfg) (hcm : 0 < scfg.chunkMax) (sid : Sid)
    (c0 : CStream α) (s0 : SStream α) (hs0 : s0.psend = none) (hs0f : s0.finishAfterSend = false)
    (hc0 : CFresh c0) (cevs : List (CEv α)) (sevs : List (SEv α))
    (hsend : SStream.legalSends scfg sid s0 false sevs = true)
    (hreply : Emission.sReplyIsLast sevs = true)
    (hok : ∃ f ∈ C01.emittedFramesS (SStream.runEv scfg sid s0 sevs).2, isCloseOK f = true)
    (hrecv : legalRecvsC ccfg sid c0 cevs = true)
    (hfu : c0.fc = true ∨ (CStream.runEv ccfg sid c0 cevs).1.unsupported = false)
    (hfifo : C01.fedFramesC cevs = C01.emittedFramesS (SStream.runEv scfg sid s0 sevs).2)
    (hnocancel : cNoCancel cevs = true)
    (hwin : noWinExceed ccfg sid c0 cevs = true)
    (hss : c0.ss = false → (SEv.submitted sevs).length ≤ 1) :
    (CStream.runEv ccfg sid c0 cevs).1.done = some .eof := by
  obtain ⟨c, hc, hcok⟩ := hok
  obtain ⟨a, b, hab⟩ := List.append_of_mem hc
  -- the frames before the close frame
  have hone := Conformance.S2_at_most_one_close scfg sid s0 sevs
  have hset := Conformance.S4_no_settings scfg sid s0 sevs
  have huns := srv_no_unset scfg sid sevs s0
  have hfr : Conformance.sframes (SStream.runEv scfg sid s0 sevs).2 = a ++ c :: b := hab
  rw [hfr] at hone
  have ha : ∀ f ∈ a, Conformance.S.isClose f = false ∧ Conformance.S.isSettings f = false ∧ isUnset f = false := by
    intro f hf
    have hmem : f ∈ Conformance.sframes (SStream.runEv scfg sid s0 sevs).2 := by rw [hfr]; simp [hf]
    refine ⟨(others_not (isClose_of_ok hcok) hone).1 f hf, ?_, huns f hmem⟩
    have := List.all_eq_true.mp hset f hmem
    simpa using this
  -- split the caller's events at the close frame
  obtain ⟨pre1, rest, hsplit, hpre1, hrest⟩ := List.filterMap_eq_append_iff.mp (hfifo.trans hab)
  obtain ⟨pre2, y, post, rfl, hnone, hy, _⟩ := List.filterMap_eq_cons_iff.mp hrest
  rw [← List.append_assoc] at hsplit
  have hpre : C01.fedFramesC (pre1 ++ pre2) = a := by
    rw [C01.fedFramesC, List.filterMap_append, hpre1, List.filterMap_eq_nil_iff.mpr hnone, List.append_nil]
  generalize pre1 ++ pre2 = pre at hsplit hpre
  have hyc : y = .frame c := by
    cases y with
    | frame f => simp only [Option.some.injEq] at hy; rw [hy]
    | call c => cases hy
    | ctx e => cases hy
  subst hyc hsplit
  rw [legalRecvsC_append, Bool.and_eq_true] at hrecv
  obtain ⟨hl1, hl2⟩ := hrecv
  rw [ClientOps.runEv_append] at hfu ⊢
  dsimp only at hfu ⊢
  have hquiet : ∀ e ∈ pre, evQuiet e = true := by
    intro e he
    have hnc := List.all_eq_true.mp hnocancel e (by simp [he])
    cases e with
    | frame f =>
      have hfa : f ∈ a := by rw [← hpre]; exact List.mem_filterMap.mpr ⟨_, he, rfl⟩
      obtain ⟨h1, h2, h3⟩ := ha f hfa
      cases f with
      | close st tr => cases h1
      | settings w rv => cases h2
      | unset => cases h3
      | _ => rfl
    | call c => cases c <;> first | rfl | cases hnc
    | ctx e => cases hnc
  -- the data before the close frame is good
  obtain ⟨ms, st, hparse, hms⟩ := Emission.server_emits_chunkings_partial scfg hcm sid s0 hs0 hs0f sevs hsend hreply
  have hgood : GoodData c0.ss (CEv.fedData pre) := by
    have hdata : Out.emittedData (SStream.runEv scfg sid s0 sevs).2 =
        CEv.fedData pre ++ (c :: b).filterMap dataOfS2C := by
      rw [C01.emittedData_eq_S]
      show (Conformance.sframes (SStream.runEv scfg sid s0 sevs).2).filterMap dataOfS2C = _
      rw [hfr, List.filterMap_append, C01.fedData_eq_C, hpre]
    apply GoodData.prefix (D' := (c :: b).filterMap dataOfS2C)
    rw [← hdata]
    refine ⟨⟨ms, st, hparse⟩, fun h => ?_⟩
    rw [hparse]
    show ms.length ≤ 1
    have := hms.length_le
    have := hss h
    omega
  -- phase 1: the RPC stays open
  have hwin1 : noWinExceed ccfg sid c0 pre = true := by
    rw [noWinExceed_append, Bool.and_eq_true] at hwin
    exact hwin.1
  have hdone0 : c0.done = none := hc0.2.2.2.2.2.1
  obtain ⟨hd1, _, _⟩ := stays_open ccfg sid pre c0 [] [] hc0.inv (CFresh.preInv hc0) hdone0 hl1
    (cfu_prefix hl2 hfu)
    hquiet hwin1 (by simpa using hgood)
  -- the close frame
  cases c with
  | close st tr =>
    have hst : st.code = 0 := by simpa [isCloseOK] using hcok
    rw [ClientOps.runEv_cons]
    apply crun_keeps_done
    have := (ClientShape.close_frame_outcome ccfg sid _ st tr hd1).1
    rw [show statusErr st = none by simp [statusErr, hst]] at this
    exact this
  | settings w rv => cases hcok
  | headers md => cases hcok
  | msg n d => cases hcok
  | more d => cases hcok
  | windowUpdate n => cases hcok
  | unset => cases hcok

/-- hypothesis `hok` of `C01_response_ok_partial` in the form "the handler returned OK" -/
theorem closeOK_of_ret (cfg : SCfg) (sid : Sid) (s0 : SStream α) (pre post : List (SEv α)) (st : Status)
    (hcl : (SStream.runEv cfg sid s0 pre).1.closed = false) (hst : st.code = 0) :
    ∃ f ∈ C01.emittedFramesS (SStream.runEv cfg sid s0 (pre ++ .call (.ret st) :: post)).2, isCloseOK f = true := by
  obtain ⟨f, hf, hfok⟩ := ret_emits_closeOK cfg sid _ st hcl hst
  refine ⟨f, ?_, hfok⟩
  show f ∈ Conformance.sframes (SStream.runEv cfg sid s0 (pre ++ .call (.ret st) :: post)).2
  rw [ServerOps.runEv_append, Conformance.sframes_append, ServerOps.runEv_cons, Conformance.sframes_cons]
  exact List.mem_append_right _ (List.mem_append_left _ hf)

theorem sReplyIsLast_of_noCall : ∀ (evs : List (SEv α)), sNoCallAfterRet evs = true →
    Emission.sReplyIsLast evs = true := by
  intro evs
  induction evs with
  | nil => intro _; rfl
  | cons e es ih =>
    intro h
    simp only [sNoCallAfterRet, Bool.and_eq_true] at h
    simp only [Emission.sReplyIsLast, Bool.and_eq_true]
    refine ⟨?_, ih h.2⟩
    cases hr : Emission.sIsReply e with
    | false => rfl
    | true =>
      have h1 := h.1
      rw [sIsReply_isRet hr] at h1
      simp only [Bool.not_true, Bool.false_or, List.all_eq_true, Bool.not_eq_eq_eq_not, Bool.not_true] at h1
      simp only [Bool.not_true, Bool.false_or, List.all_eq_true, Bool.not_eq_eq_eq_not, Bool.not_true]
      intro e' he'
      cases hs : Emission.sIsSend e' with
      | false => rfl
      | true => have := h1 e' he'; rw [sIsSend_isCall hs] at this; cases this

theorem finishCore_noeof (sid : Sid) (s : SStream α) (err : Option SErr) :
    eofIn (s.finishCore sid err).2.dones = false := by
  rw [(finishCore_out sid s err).1]; rfl

theorem ccSend_noeof (sid : Sid) (s : SStream α) (e : CtxErr) :
    eofIn (ServerOps.ccSend sid s e).2.dones = false := by
  unfold ServerOps.ccSend
  split
  · dsimp only
    split
    · exact finishCore_noeof _ _ _
    · exact eofIn_single _ _ rfl
  · rfl

theorem ccRead_noeof (sid : Sid) (s : SStream α) (e : CtxErr) :
    eofIn (ServerOps.ccRead sid s e).2.dones = false ∧
    ((ServerOps.ccRead sid s e).1.readErr = s.readErr ∨ (ServerOps.ccRead sid s e).1.readErr = some (.ctx e)) := by
  unfold ServerOps.ccRead
  split
  · dsimp only
    split
    · refine ⟨?_, Or.inr ?_⟩
      · show eofIn (_ ++ _) = false
        rw [eofIn_append, finishCore_noeof, eofIn_single _ _ rfl]; rfl
      · exact (Delivery.finishCore_keeps sid _ _).readErr
    · exact ⟨eofIn_single _ _ rfl, Or.inr rfl⟩
  · exact ⟨rfl, Or.inl rfl⟩

theorem cancelCtx_facts (sid : Sid) (s : SStream α) (e : CtxErr) :
    (s.cancelCtx sid e).1.ctxDone.isSome = true ∧
    ((s.cancelCtx sid e).1.readErr = s.readErr ∨ ∃ c, (s.cancelCtx sid e).1.readErr = some (.ctx c)) ∧
    eofIn (s.cancelCtx sid e).2.dones = false := by
  rw [ServerOps.cancelCtx_fst, Delivery.cancelCtx_dones]
  split
  · rename_i h
    exact ⟨h, Or.inl rfl, rfl⟩
  · have h1 := Delivery.ccSend_keeps sid
      ({ s with ctxDone := some e, rcv := if s.fc then s.rcv.cancel else s.rcv.close } : SStream α) e
    have h2 := Delivery.ccRead_fields sid (ServerOps.ccSend sid
      ({ s with ctxDone := some e, rcv := if s.fc then s.rcv.cancel else s.rcv.close } : SStream α) e).1 e
    have h3 := ccRead_noeof sid (ServerOps.ccSend sid
      ({ s with ctxDone := some e, rcv := if s.fc then s.rcv.cancel else s.rcv.close } : SStream α) e).1 e
    refine ⟨by rw [h2.2.1, h1.ctxDone]; rfl, ?_, ?_⟩
    · rcases h3.2 with h | h
      · exact Or.inl (h.trans h1.readErr)
      · exact Or.inr ⟨e, h⟩
    · rw [eofIn_append, ccSend_noeof, h3.1]; rfl

theorem finish_facts (sid : Sid) (s : SStream α) (err : Option SErr) (b : Bool) :
    (s.finish sid err b).1.ctxDone.isSome = true ∧
    ((s.finish sid err b).1.readErr = s.readErr ∨ ∃ c, (s.finish sid err b).1.readErr = some (.ctx c)) ∧
    eofIn (s.finish sid err b).2.dones = false := by
  rw [ServerOps.finish_eq]
  obtain ⟨h1, h2, h3⟩ := cancelCtx_facts sid (s.finishCore sid (ServerOps.finishErr s err b)).1 .canceled
  refine ⟨h1, ?_, ?_⟩
  · rw [(Delivery.finishCore_keeps sid s _).readErr] at h2; exact h2
  · show eofIn (_ ++ _) = false
    rw [eofIn_append, h3, finishCore_noeof]; rfl

/-- what one `resumeRead` of the server does: `live` / `end` / `err` as on the client; the
    `err` case includes the `finishStream` that `RecvMsg` performs -/
def RRS (s : SStream α) (r : SStream α × Out α) : Prop :=
  (r.1.ctxDone = s.ctxDone ∧ r.1.halfClosed = s.halfClosed ∧ r.1.rcv.closed = s.rcv.closed ∧
    r.1.rcv.cancelled = s.rcv.cancelled ∧ r.1.readErr = s.readErr ∧ r.1.cs = s.cs ∧
    eofIn r.2.dones = false ∧
    ∀ acc del, Acct s.rcv.queue false s.pread acc del →
      Acct r.1.rcv.queue false r.1.pread acc (del ++ msgsOfDones r.2.dones)) ∨
  ((s.rcv.closed || s.rcv.cancelled) = true ∧ r.1.ctxDone = s.ctxDone ∧ r.1.halfClosed = s.halfClosed ∧
    r.1.rcv.closed = s.rcv.closed ∧ r.1.rcv.cancelled = s.rcv.cancelled ∧ r.1.cs = s.cs ∧
    r.1.readErr = some (deqErr s) ∧ r.1.pread = none ∧
    (eofIn r.2.dones = true → deqErr s = .eof) ∧
    (deqErr s = .eof → ∀ acc del, Acct s.rcv.queue false s.pread acc del →
      (parse none acc).1 = del ++ msgsOfDones r.2.dones)) ∨
  (r.1.ctxDone.isSome = true ∧ r.1.pread = none ∧ (∃ e, e ≠ .eof ∧ r.1.readErr = some e) ∧ r.1.cs = s.cs ∧
    eofIn r.2.dones = false)

theorem RRS.refl (s : SStream α) : RRS s (s, {}) :=
  Or.inl ⟨rfl, rfl, rfl, rfl, rfl, rfl, rfl, fun acc del h => by simpa using h⟩

theorem failFinish_rrs (sid : Sid) (s s2 : SStream α) (fr : List (Sid × S2C α)) (n : String) (e : SErr)
    (he : e ≠ .eof) (hre : s2.readErr = some e) (hp : s2.pread = none) (hcs : s2.cs = s.cs) :
    RRS s ((s2.finish sid (some e)).1,
      ({ frames := fr, dones := [(sid, n, e.toRes)] } : Out α).add (s2.finish sid (some e)).2) := by
  obtain ⟨h1, h2, h3⟩ := finish_facts sid s2 (some e) false
  have hq := ServerShape.finish_quiet sid s2 (some e) false
  refine Or.inr (Or.inr ⟨h1, (hq.keep hp).1, ?_, hq.cs.trans hcs, ?_⟩)
  · rcases h2 with h | ⟨c, h⟩
    · exact ⟨e, he, h.trans hre⟩
    · exact ⟨.ctx c, by simp, h⟩
  · show eofIn (_ ++ _) = false
    rw [eofIn_append, h3, Bool.or_false]
    cases hx : eofIn [(sid, n, (e.toRes : Res α))] with
    | false => rfl
    | true => exact absurd (eofIn_toRes_imp sid n e hx) he

theorem perrStatus_ne_eof (mn : String) (e : PErr) : perrStatus mn e ≠ .eof := by
  cases e <;> simp [perrStatus]

theorem resumeRead_rrs (sid : Sid) (mn : String) : ∀ (fuel : Nat) (s : SStream α),
    RRS s (s.resumeRead sid mn fuel) := by
  have hend : ∀ {s : SStream α} {p : PRead α} {w q cr st' acc del},
      s.pread = some p → readLoop s.rcv.rwin s.rcv.queue p.rst = (w, q, cr, some (.cont st')) →
      Acct s.rcv.queue false s.pread acc del →
      (parse none acc).1 = del ++ held (some ({ p with rst := st' } : PRead α)) := by
    intro s p w q cr st' acc del hp hr ha
    obtain ⟨_, _, _, ho, hq⟩ := readLoop_spec _ _ _ _ _ _ _ hr
    cases ho
    exact Acct.eof_result ((hp ▸ ha : Acct _ _ (some p) _ _).read_cont (st' := st') hr rfl) hq.1
  refine resumeRead_cases sid mn (P := fun s s' o => RRS s (s', o)) RRS.refl ?_ ?_ ?_ ?_ ?_ ?_
  · intro s p w q cr st' hp hr _
    refine Or.inl ⟨rfl, rfl, rfl, rfl, rfl, rfl, rfl, fun acc del ha => ?_⟩
    show Acct q false (some { lookahead := p.lookahead, rst := st' }) acc (del ++ [])
    rw [List.append_nil]
    exact (hp ▸ ha : Acct _ _ (some p) _ _).read_cont hr rfl
  · intro s p w q cr st' m hp hr hc hl hd
    refine Or.inr (Or.inl ⟨hc, rfl, rfl, rfl, rfl, rfl, by rw [hd], rfl, fun _ => hd, fun _ acc del ha => ?_⟩)
    rw [hend hp hr ha]
    simp only [held, hl]
    rfl
  · intro s p w q cr st' hp hr hc hl
    rw [failWith_ok]
    refine Or.inr (Or.inl ⟨hc, rfl, rfl, rfl, rfl, rfl, rfl, rfl, fun h => eofIn_toRes_imp _ _ _ h,
      fun heof acc del ha => ?_⟩)
    rw [hend hp hr ha, msgsOfDones_toRes]
    rcases hl with hl | hl
    · simp only [held, hl]
    · exact absurd heof hl
  · intro s p w q cr out e _ _ he
    rw [failWith_fin]
    refine failFinish_rrs sid s _ _ _ _ ?_ rfl rfl rfl
    rcases he with ⟨_, rfl⟩ | ⟨pe, rfl⟩
    · nofun
    · exact perrStatus_ne_eof mn pe
  · intro s p w q cr m hp hr hl _
    exact Or.inl ⟨rfl, rfl, rfl, rfl, rfl, rfl, eofIn_single _ _ rfl,
      fun acc del ha => ((hp ▸ ha : Acct _ _ (some p) _ _).read_msg hr rfl hl).1⟩
  · intro s p w q cr m s' o hp hr hl _ h2
    have hacc : ∀ acc del, Acct s.rcv.queue false s.pread acc del →
        Acct q false (some { lookahead := some m, rst := none }) acc del :=
      fun acc del ha => ((hp ▸ ha : Acct _ _ (some p) _ _).read_msg hr rfl hl).2
    rcases h2 with ⟨a1, a2, a3, a4, a5, a6, a7, a8⟩ | ⟨a1, a2, a3, a4, a5, a6, a7, a8, a9, a10⟩ | ⟨a1, a2, a3, a4, a5⟩
    · exact Or.inl ⟨a1, a2, a3, a4, a5, a6, a7, fun acc del ha => a8 acc del (hacc acc del ha)⟩
    · exact Or.inr (Or.inl ⟨a1, a2, a3, a4, a5, a6, a7, a8, a9,
        fun heof acc del ha => a10 heof acc del (hacc acc del ha)⟩)
    · exact Or.inr (Or.inr ⟨a1, a2, a3, a4, a5⟩)

/-- no `RecvMsg` can return `io.EOF` from here: the sticky read error is not
    `io.EOF`, and the context has ended or the request stream is not half-closed
    OK; the receiver is closed (or a read has failed) only if the context has
    ended or the stream is half-closed -/
def NE1 (s : SStream α) : Prop :=
  s.readErr ≠ some .eof ∧ (s.ctxDone.isSome = true ∨ s.halfClosed ≠ some .eof) ∧
  ((s.readErr.isSome = true ∨ s.rcv.closed = true ∨ s.rcv.cancelled = true) →
    (s.ctxDone.isSome = true ∨ s.halfClosed.isSome = true))

/-- the invariant: (1) the reads have reached the end of the half-closed
    request stream (`Done`) and everything accepted was delivered; or (2) the
    request stream is half-closed OK, the context is live and the reads are
    draining the queue; or (3) no read has returned `io.EOF` and none can.
    Ghosts: `acc` the data frames accepted while the receiver was open, `del` the messages
    delivered so far, `saw` whether a `RecvMsg` has returned `io.EOF` so far -/
def SQ (s : SStream α) (acc : List (DFrame α)) (del : List (List α)) (saw : Bool) : Prop :=
  (ServerShape.Done s ∧ (parse none acc).1 = del) ∨
  (saw = false ∧ s.ctxDone = none ∧ s.halfClosed = some .eof ∧ s.rcv.closed = true ∧ s.readErr = none ∧
    Acct s.rcv.queue false s.pread acc del) ∨
  (saw = false ∧ NE1 s)

/-- the contract of a server building block in the request direction: `ne` for phase 1 (no read can
    return `io.EOF`), `sq` for the invariant with its ghosts (`del`: delivered so far, `saw`: some
    `RecvMsg` has returned `io.EOF`) -/
structure TQ (s s' : SStream α) (o : Out α) : Prop where
  ne : NE1 s → NE1 s' ∧ eofIn o.dones = false
  sq : ∀ acc del saw, SQ s acc del saw → SQ s' acc (del ++ msgsOfDones o.dones) (saw || eofIn o.dones)

theorem TQ.refl (s : SStream α) : TQ s s {} :=
  ⟨fun h => ⟨h, rfl⟩, fun acc del saw h => by simpa using h⟩

theorem TQ.seq {s a b : SStream α} {o1 o2 : Out α} (h1 : TQ s a o1) (h2 : TQ a b o2) : TQ s b (o1.add o2) := by
  refine ⟨fun h => ?_, fun acc del saw h => ?_⟩
  · obtain ⟨ha, e1⟩ := h1.ne h
    obtain ⟨hb, e2⟩ := h2.ne ha
    refine ⟨hb, ?_⟩
    show eofIn (_ ++ _) = false
    rw [eofIn_append, e1, e2]; rfl
  · have := h2.sq _ _ _ (h1.sq acc del saw h)
    show SQ b acc (del ++ msgsOfDones (o1.dones ++ o2.dones)) (saw || eofIn (o1.dones ++ o2.dones))
    rw [msgsOfDones_append, eofIn_append, ← List.append_assoc, ← Bool.or_assoc]
    exact this

theorem TQ.congr_out {s s' : SStream α} {o o' : Out α} (h : TQ s s' o)
    (hm : msgsOfDones o'.dones = msgsOfDones o.dones) (he : eofIn o'.dones = eofIn o.dones) : TQ s s' o' :=
  ⟨fun hn => by rw [he]; exact h.ne hn, fun acc del saw hq => by rw [hm, he]; exact h.sq acc del saw hq⟩

theorem TQ.swap {s a b : SStream α} {o1 o2 : Out α} (h1 : TQ s a o1) (h2 : TQ a b o2)
    (hm1 : msgsOfDones o1.dones = []) (hm2 : msgsOfDones o2.dones = []) : TQ s b (o2.add o1) := by
  refine (h1.seq h2).congr_out ?_ ?_
  · show msgsOfDones (_ ++ _) = msgsOfDones (_ ++ _)
    rw [msgsOfDones_append, msgsOfDones_append, hm1, hm2]
  · show eofIn (_ ++ _) = eofIn (_ ++ _)
    rw [eofIn_append, eofIn_append, Bool.or_comm]

theorem msgs_of_delivered {o : Out α} (h : ServerShape.delivered o = 0) : msgsOfDones o.dones = [] := by
  refine List.filterMap_eq_nil_iff.mpr fun d hd => ?_
  have hm := (ServerShape.delivered_eq_zero_iff o).mp h d hd
  cases hr : d.2.2 with
  | msg m => rw [hr] at hm; cases hm
  | _ => rfl

theorem TQ.of_fields {s s' : SStream α} {o : Out α} (hr : s'.readErr = s.readErr) (hp : s'.pread = s.pread)
    (hc : s'.ctxDone = s.ctxDone) (hh : s'.halfClosed = s.halfClosed) (hq : s'.rcv = s.rcv)
    (hm : msgsOfDones o.dones = []) (he : eofIn o.dones = false) : TQ s s' o := by
  have hne : NE1 s → NE1 s' := fun h => by unfold NE1 at *; rw [hr, hc, hh, hq]; exact h
  refine ⟨fun h => ⟨hne h, he⟩, fun acc del saw h => ?_⟩
  rw [hm, he, List.append_nil, Bool.or_false]
  rcases h with ⟨hd, hpa⟩ | ⟨h1, h2, h3, h4, h5, h6⟩ | ⟨h1, h2⟩
  · exact Or.inl ⟨⟨by rw [hr]; exact hd.1, by rw [hp]; exact hd.2⟩, hpa⟩
  · exact Or.inr (Or.inl ⟨h1, by rw [hc]; exact h2, by rw [hh]; exact h3, by rw [hq]; exact h4,
      by rw [hr]; exact h5, by rw [hq, hp]; exact h6⟩)
  · exact Or.inr (Or.inr ⟨h1, hne h2⟩)

theorem TQ.of_fin {s s' : SStream α} {o : Out α} (hc : s'.ctxDone.isSome = true)
    (hr : s'.readErr = s.readErr ∨ ∃ c, s'.readErr = some (.ctx c)) (he : eofIn o.dones = false)
    (hm : msgsOfDones o.dones = []) (hq : ServerShape.Quiet s s') : TQ s s' o := by
  have hne : s.readErr ≠ some .eof → NE1 s' := by
    intro h
    refine ⟨?_, Or.inl hc, fun _ => Or.inl hc⟩
    rcases hr with hr | ⟨c, hr⟩
    · rw [hr]; exact h
    · rw [hr]; simp
  refine ⟨fun h => ⟨hne h.1, he⟩, fun acc del saw h => ?_⟩
  rw [hm, he, List.append_nil, Bool.or_false]
  rcases h with ⟨hd, hpa⟩ | ⟨h1, _, _, _, h5, _⟩ | ⟨h1, h2⟩
  · exact Or.inl ⟨hq.done hd, hpa⟩
  · exact Or.inr (Or.inr ⟨h1, hne (by rw [h5]; simp)⟩)
  · exact Or.inr (Or.inr ⟨h1, hne h2.1⟩)

theorem cancelCtx_tq (sid : Sid) (s : SStream α) (e : CtxErr) : TQ s (s.cancelCtx sid e).1 (s.cancelCtx sid e).2 := by
  obtain ⟨h1, h2, h3⟩ := cancelCtx_facts sid s e
  exact TQ.of_fin h1 h2 h3 (Delivery.cancelCtx_msgs sid s e) (ServerShape.cancelCtx_quiet sid s e)

theorem finish_tq (sid : Sid) (s : SStream α) (err : Option SErr) (b : Bool) :
    TQ s (s.finish sid err b).1 (s.finish sid err b).2 := by
  obtain ⟨h1, h2, h3⟩ := finish_facts sid s err b
  exact TQ.of_fin h1 h2 h3 (Delivery.finish_msgs sid s err b) (ServerShape.finish_quiet sid s err b)

theorem TQ.pre {s s0 s' : SStream α} {o : Out α} (h : TQ s0 s' o) (hr : s0.readErr = s.readErr)
    (hp : s0.pread = s.pread) (hc : s0.ctxDone = s.ctxDone) (hh : s0.halfClosed = s.halfClosed)
    (hq : s0.rcv = s.rcv) : TQ s s' o :=
  (TQ.of_fields (o := {}) hr hp hc hh hq rfl rfl).seq h

theorem TQ.post {s s1 s' : SStream α} {o : Out α} (h : TQ s s1 o) (hr : s'.readErr = s1.readErr)
    (hp : s'.pread = s1.pread) (hc : s'.ctxDone = s1.ctxDone) (hh : s'.halfClosed = s1.halfClosed)
    (hq : s'.rcv = s1.rcv) : TQ s s' o := by
  have := h.seq (TQ.of_fields (o := {}) hr hp hc hh hq rfl rfl)
  rwa [ServerOps.Out.add_empty] at this

theorem deqErr_ne_eof {s : SStream α} (h : s.ctxDone.isSome = true ∨ s.halfClosed ≠ some .eof) :
    deqErr s ≠ .eof := by
  unfold deqErr
  cases hc : s.ctxDone with
  | some c => simp
  | none =>
    rw [hc] at h
    cases hh : s.halfClosed with
    | none => simp
    | some x =>
      rcases h with h | h
      · cases h
      · rw [hh] at h
        simp only
        exact fun hx => h (by rw [hx])

theorem deqErr_eof {s : SStream α} (hc : s.ctxDone = none) (hh : s.halfClosed = some .eof) : deqErr s = .eof := by
  unfold deqErr
  rw [hc, hh]

theorem rrs_tq {s : SStream α} {r : SStream α × Out α} (h : RRS s r)
    (hnone : s.pread = none → r = (s, {})) : TQ s r.1 r.2 := by
  have hne : NE1 s → NE1 r.1 ∧ eofIn r.2.dones = false := by
    intro ⟨n1, n2, n3⟩
    rcases h with ⟨a1, a2, a3, a4, a5, _, a7, _⟩ | ⟨a0, a1, a2, a3, a4, _, a6, _, a8, _⟩ | ⟨a1, _, ⟨e, a2, a3⟩, _, a5⟩
    · exact ⟨⟨by rw [a5]; exact n1, by rw [a1, a2]; exact n2, by rw [a5, a3, a4, a1, a2]; exact n3⟩, a7⟩
    · have hd := deqErr_ne_eof n2
      refine ⟨⟨by rw [a6]; exact fun hh => hd (Option.some.inj hh), by rw [a1, a2]; exact n2, fun _ => ?_⟩, ?_⟩
      · rw [a1, a2]
        apply n3
        simp only [Bool.or_eq_true] at a0
        rcases a0 with h | h
        · exact Or.inr (Or.inl h)
        · exact Or.inr (Or.inr h)
      · cases hx : eofIn r.2.dones with
        | false => rfl
        | true => exact absurd (a8 hx) hd
    · exact ⟨⟨by rw [a3]; exact fun hh => a2 (Option.some.inj hh), Or.inl a1, fun _ => Or.inl a1⟩, a5⟩
  refine ⟨hne, fun acc del saw hq => ?_⟩
  rcases hq with ⟨hd, hpa⟩ | ⟨h1, h2, h3, h4, h5, h6⟩ | ⟨h1, h2⟩
  · rw [hnone hd.2]
    exact Or.inl ⟨hd, by simpa using hpa⟩
  · rw [h1, Bool.false_or]
    rcases h with ⟨a1, a2, a3, a4, a5, _, a7, a8⟩ | ⟨_, a1, a2, a3, a4, _, a6, a7, _, a9⟩ | ⟨a1, _, ⟨e, a2, a3⟩, _, a5⟩
    · exact Or.inr (Or.inl ⟨a7, a1.trans h2, a2.trans h3, a3.trans h4, a5.trans h5, a8 acc del h6⟩)
    · have hde := deqErr_eof h2 h3
      exact Or.inl ⟨⟨by rw [a6]; rfl, a7⟩, a9 hde acc del h6⟩
    · exact Or.inr (Or.inr ⟨a5, by rw [a3]; exact fun hh => a2 (Option.some.inj hh), Or.inl a1, fun _ => Or.inl a1⟩)
  · obtain ⟨hn, he⟩ := hne h2
    rw [he, Bool.or_false]
    exact Or.inr (Or.inr ⟨h1, hn⟩)

theorem resumeRead_tq (sid : Sid) (mn : String) (fuel : Nat) (s : SStream α) :
    TQ s (s.resumeRead sid mn fuel).1 (s.resumeRead sid mn fuel).2 :=
  rrs_tq (resumeRead_rrs sid mn fuel s) (fun h => ServerOps.resumeRead_none sid mn fuel h)

theorem spumpSend_tq (cfg : SCfg) (sid : Sid) (s : SStream α) (snd : Snd α) :
    TQ s (s.pumpSend cfg sid snd).1 (s.pumpSend cfg sid snd).2 := by
  obtain ⟨w, ps, hs⟩ := (pumpSend_sent cfg sid s snd).out.2.2.2
  obtain ⟨_, h2, _⟩ := pumpSend_out cfg sid s snd
  refine TQ.of_fields (by rw [hs]) (by rw [hs]) (by rw [hs]) (by rw [hs]) (by rw [hs])
    (Delivery.pumpSend_msgs cfg sid s snd) ?_
  rcases h2 with h2 | h2 | ⟨e, h2⟩ <;> rw [h2] <;> simp [eofIn]

/-- the completions of `RecvMsg` survive the removal of the reply's own completion -/
theorem eofIn_filter_send (ds : List (Sid × String × Res α)) :
    eofIn (ds.filter (fun d => d.2.1 != "send")) = eofIn ds := by
  simp only [eofIn, List.any_filter]
  congr 1
  funext d
  cases hd : (d.2.1 == "recv")
  · simp
  · have : d.2.1 = "recv" := by simpa using hd
    simp [this]

theorem afterSend_tq (sid : Sid) (s0 s : SStream α) (o : Out α) (h : TQ s0 s o)
    (hm : msgsOfDones o.dones = []) : TQ s0 (s.afterSend sid o).1 (s.afterSend sid o).2 := by
  rw [ServerOps.afterSend_eq]
  split
  · refine ((h.post (s' := ({ s with finishAfterSend := false, hstatus := .returned } : SStream α))
      rfl rfl rfl rfl rfl).seq (finish_tq sid _ (ServerOps.sendErr o) false)).congr_out ?_ ?_
    · show msgsOfDones (o.dones.filter _ ++ _) = msgsOfDones (o.dones ++ _)
      rw [msgsOfDones_append, msgsOfDones_append, hm, msgsOfDones_filter _ _ hm]
    · show eofIn (o.dones.filter _ ++ _) = eofIn (o.dones ++ _)
      rw [eofIn_append, eofIn_append, eofIn_filter_send]
  · exact h

theorem afterDecode_tq (sid : Sid) (s0 s : SStream α) (o : Out α) (h : TQ s0 s o) :
    TQ s0 (s.afterDecode sid o).1 (s.afterDecode sid o).2 := by
  unfold SStream.afterDecode
  split
  · split
    · exact h.post rfl rfl rfl rfl rfl
    · dsimp only
      exact (h.post (s' := ({ s with hstatus := .returned } : SStream α)) rfl rfl rfl rfl rfl).seq
        (finish_tq sid _ _ _)
    · exact h
  · exact h

theorem readAndSettle_tq (sid : Sid) (s : SStream α) : TQ s (s.readAndSettle sid).1 (s.readAndSettle sid).2 := by
  unfold SStream.readAndSettle
  exact afterDecode_tq sid s _ _ (resumeRead_tq sid "" 3 s)

theorem recvSticky_tq (sid : Sid) (s : SStream α) (e : SErr) (he : s.readErr = some e) :
    TQ s s ({ dones := [(sid, opName s, e.toRes)] } : Out α) := by
  have hne : s.readErr ≠ some .eof → eofIn [(sid, opName s, (e.toRes : Res α))] = false := fun hn =>
    Bool.eq_false_iff.mpr fun hx => hn (by rw [he, eofIn_toRes_imp _ _ _ hx])
  refine ⟨fun hn => ⟨hn, hne hn.1⟩, fun acc del saw hq => ?_⟩
  show SQ s acc (del ++ msgsOfDones [(sid, _, SErr.toRes e)]) _
  rw [msgsOfDones_toRes, List.append_nil]
  rcases hq with ⟨hd, hpa⟩ | ⟨_, _, _, _, h5, _⟩ | ⟨h1, h2⟩
  · exact Or.inl ⟨hd, hpa⟩
  · rw [he] at h5; cases h5
  · exact Or.inr (Or.inr ⟨by rw [h1, Bool.false_or]; exact hne h2.1, h2⟩)

theorem recvCtx_tq (sid : Sid) (s : SStream α) (c : CtxErr) (he : s.readErr = none) (hc : s.ctxDone = some c) :
    TQ s ({ s with readErr := some (.ctx c) } : SStream α) ({ dones := [(sid, opName s, .ctx c)] } : Out α) := by
  have hn' : NE1 ({ s with readErr := some (.ctx c) } : SStream α) :=
    ⟨nofun, Or.inl (by show s.ctxDone.isSome = true; rw [hc]; rfl),
     fun _ => Or.inl (by show s.ctxDone.isSome = true; rw [hc]; rfl)⟩
  refine ⟨fun _ => ⟨hn', eofIn_single _ _ rfl⟩, fun acc del saw hq => ?_⟩
  show SQ _ acc (del ++ []) (saw || eofIn [(sid, _, Res.ctx c)])
  rw [List.append_nil, eofIn_single _ _ rfl, Bool.or_false]
  rcases hq with ⟨hd, _⟩ | ⟨_, h2, _⟩ | ⟨h1, _⟩
  · have := hd.1; rw [he] at this; cases this
  · rw [hc] at h2; cases h2
  · exact Or.inr (Or.inr ⟨h1, hn'⟩)

theorem readStarted_tq (s : SStream α) (he : s.readErr = none) (hk : recvOK s.pread = true) :
    TQ s ({ s with pread := some { lookahead := none, rst := none } } : SStream α) {} := by
  refine ⟨fun hn => ⟨hn, rfl⟩, fun acc del saw hq => ?_⟩
  show SQ _ acc (del ++ []) (saw || false)
  rw [List.append_nil, Bool.or_false]
  rcases hq with ⟨hd, _⟩ | ⟨h1, h2, h3, h4, h5, h6⟩ | ⟨h1, h2⟩
  · have := hd.1; rw [he] at this; cases this
  · exact Or.inr (Or.inl ⟨h1, h2, h3, h4, h5, h6.start hk⟩)
  · exact Or.inr (Or.inr ⟨h1, h2⟩)

theorem queued_tq {s s0 : SStream α} (hr : s0.readErr = s.readErr) (hp : s0.pread = s.pread)
    (hc : s0.ctxDone = s.ctxDone) (hh : s0.halfClosed = s.halfClosed) (hcl : s0.rcv.closed = s.rcv.closed)
    (hx : s0.rcv.cancelled = s.rcv.cancelled) (hopen : s.rcv.closed = false) : TQ s s0 {} := by
  have hne : NE1 s → NE1 s0 := fun hn => by unfold NE1 at *; rw [hr, hc, hh, hcl, hx]; exact hn
  refine ⟨fun hn => ⟨hne hn, rfl⟩, fun acc del saw hq => ?_⟩
  show SQ _ acc (del ++ []) (saw || false)
  rw [List.append_nil, Bool.or_false]
  rcases hq with ⟨hd, hpa⟩ | ⟨_, _, _, h4, _, _⟩ | ⟨h1, h2⟩
  · exact Or.inl ⟨⟨by rw [hr]; exact hd.1, by rw [hp]; exact hd.2⟩, hpa⟩
  · rw [hopen] at h4; cases h4
  · exact Or.inr (Or.inr ⟨h1, hne h2⟩)

/-- the half-close frame arrives at a stream with a live context that is not half-closed yet: the
    only event after which a `RecvMsg` can return `io.EOF` -/
def sevSwitch (s : SStream α) : SEv α → Bool
  | .frame .halfClose => s.ctxDone.isNone && s.halfClosed.isNone
  | _ => false

theorem sevSwitch_elim {s : SStream α} {e : SEv α} (h : sevSwitch s e = true) :
    e = .frame .halfClose ∧ s.ctxDone = none ∧ s.halfClosed = none := by
  cases e with
  | frame f =>
    cases f with
    | halfClose =>
      simp only [sevSwitch, Bool.and_eq_true, Option.isNone_iff_eq_none] at h
      exact ⟨rfl, h.1, h.2⟩
    | _ => cases h
  | call c => cases h
  | ctx c => cases h

theorem halfClose_tq (s : SStream α) (hc : s.ctxDone.isSome = true) :
    TQ s ({ s with halfClosed := some .eof, rcv := s.rcv.close } : SStream α) {} := by
  have hne : NE1 s → NE1 ({ s with halfClosed := some .eof, rcv := s.rcv.close } : SStream α) :=
    fun hn => ⟨hn.1, Or.inl hc, fun _ => Or.inl hc⟩
  refine ⟨fun hn => ⟨hne hn, rfl⟩, fun acc del saw hq => ?_⟩
  show SQ _ acc (del ++ []) (saw || false)
  rw [List.append_nil, Bool.or_false]
  rcases hq with ⟨hd, hpa⟩ | ⟨_, h2, _⟩ | ⟨h1, h2⟩
  · exact Or.inl ⟨hd, hpa⟩
  · rw [h2] at hc; cases hc
  · exact Or.inr (Or.inr ⟨h1, hne h2⟩)

theorem Plain.tq {s s' : SStream α} {o : Out α} (hs : SameRead s s') (hp : Plain o) : TQ s s' o := by
  refine TQ.of_fields hs.1 hs.2.1 hs.2.2.1 hs.2.2.2.1 hs.2.2.2.2 ?_ ?_
  · refine List.filterMap_eq_nil_iff.mpr fun d hd => ?_
    rcases hp.2 d hd with h | h | ⟨t, h⟩ <;> rw [h]
  · refine List.any_eq_false.mpr fun d hd => ?_
    rcases hp.2 d hd with h | h | ⟨t, h⟩ <;> rw [h] <;> simp [isEof]

theorem sop_tq {fin : Bool} {cfg : SCfg} {sid : Sid} {s s' : SStream α} {o : Out α}
    (h : SOp (fun s => recvOK s.pread = true) fin cfg sid s s' o) : TQ s s' o := by
  induction h with
  | refl s => exact TQ.refl s
  | seq _ _ ih1 ih2 => exact ih1.seq ih2
  | cancelCtx s e => exact cancelCtx_tq sid s e
  | loopFinish s e _ => exact finish_tq sid s _ _
  | ret s st _ =>
    rw [ServerOps.onCall_ret]
    exact ((finish_tq sid _ _ _).pre (by rfl) (by rfl) (by rfl) (by rfl) (by rfl)).seq
      (TQ.of_fields (o := { events := [s!"returned {sid}"] }) rfl rfl rfl rfl rfl rfl rfl)
  | settle s => exact readAndSettle_tq sid s
  | recvSticky s e he => exact afterDecode_tq sid s s _ (recvSticky_tq sid s e he)
  | recvCtx s c he hc => exact afterDecode_tq sid s _ _ (recvCtx_tq sid s c he hc)
  | readStarted s he _ hk => exact readStarted_tq s he hk
  | accepted s df _ hcl => exact queued_tq rfl rfl rfl rfl rfl rfl hcl
  | queued s df _ hcl => exact queued_tq rfl rfl rfl rfl rfl rfl hcl
  | pump s snd => exact spumpSend_tq cfg sid s snd
  | sendFinish s snd _ => exact afterSend_tq sid s _ _ (spumpSend_tq cfg sid s snd) (Delivery.pumpSend_msgs cfg sid s snd)
  | quiet hs hp => exact Plain.tq hs hp

theorem stepEv_tq (cfg : SCfg) (sid : Sid) (s : SStream α) (e : SEv α) (hk : sevOK s e = true)
    (hf : sevSwitch s e = false) : TQ s (s.stepEv cfg sid e).1 (s.stepEv cfg sid e).2 := by
  by_cases he : e = .frame .halfClose
  · subst he
    show TQ s (s.onFrame cfg sid .halfClose).1 (s.onFrame cfg sid .halfClose).2
    rw [ServerOps.onFrame_halfClose]
    by_cases hh : s.halfClosed.isSome = true
    · rw [if_pos hh]; exact TQ.refl s
    · have hh' := ClientOps.eq_none_of_isSome_false hh
      have hc : s.ctxDone.isSome = true := by
        cases hx : s.ctxDone with
        | some c => rfl
        | none => rw [sevSwitch, hx, hh'] at hf; cases hf
      rw [if_neg hh, ServerOps.halfClose_of_none _ hh']
      exact (halfClose_tq s hc).seq (readAndSettle_tq sid _)
  · exact sop_tq (SOp.stepEv (fin := true) s e he (fun h => by subst h; exact hk) (fun _ => rfl))

/-- some `RecvMsg` of the handler returned `io.EOF`: the handler is told the request stream ended -/
def sawRecvEofS (outs : List (Out α)) : Bool := outs.any (fun o => eofIn o.dones)

theorem sawRecvEofS_cons (o : Out α) (os : List (Out α)) :
    sawRecvEofS (o :: os) = (eofIn o.dones || sawRecvEofS os) := rfl

theorem sawRecvEofS_append (a b : List (Out α)) : sawRecvEofS (a ++ b) = (sawRecvEofS a || sawRecvEofS b) :=
  List.any_append

theorem eofIn_flatMapS (outs : List (Out α)) : eofIn (outs.flatMap (·.dones)) = sawRecvEofS outs :=
  List.any_flatMap

theorem msgsOfDones_flatMapS (outs : List (Out α)) :
    msgsOfDones (outs.flatMap (·.dones)) = Out.deliveredMsgs outs :=
  List.filterMap_flatMap

theorem TQ.dones {s s' : SStream α} {o : Out α} (h : TQ s s' o) : TQ s s' { dones := o.dones } := ⟨h.ne, h.sq⟩

theorem run_tq (cfg : SCfg) (sid : Sid) (evs : List (SEv α)) (s : SStream α)
    (hl : legalRecvsS cfg sid s evs = true) :
    TQ s (SStream.runEv cfg sid s evs).1 { dones := (SStream.runEv cfg sid s evs).2.flatMap (·.dones) } ∨
    ∃ pre post, evs = pre ++ .frame .halfClose :: post ∧ (SStream.runEv cfg sid s pre).1.ctxDone = none ∧
      (SStream.runEv cfg sid s pre).1.halfClosed = none ∧
      legalRecvsS cfg sid (SStream.runEv cfg sid s pre).1 (.frame .halfClose :: post) = true ∧
      TQ s (SStream.runEv cfg sid s pre).1 { dones := (SStream.runEv cfg sid s pre).2.flatMap (·.dones) } := by
  rcases run_until (step := fun s e => s.stepEv cfg sid e) (run := SStream.runEv cfg sid) (fr := (·.dones))
      (R := fun s s' ds => TQ s s' { dones := ds }) (L := fun s evs => legalRecvsS cfg sid s evs = true)
      (X := sevSwitch) (fun _ => rfl) (fun _ _ _ => rfl) TQ.refl (fun h1 h2 => TQ.seq h1 h2)
      (fun s e es h => (legalRecvsS_cons cfg sid s e es h).2)
      (fun s e es h hx => (stepEv_tq cfg sid s e (legalRecvsS_cons cfg sid s e es h).1 hx).dones) evs s hl with
    h | ⟨pre, e, post, h1, hx, hl', h⟩
  · exact Or.inl h
  · obtain ⟨rfl, hc, hh⟩ := sevSwitch_elim hx
    exact Or.inr ⟨pre, post, h1, hc, hh, hl', h⟩

theorem legalRecvsS_append (cfg : SCfg) (sid : Sid) (pre post : List (SEv α)) (s : SStream α) :
    legalRecvsS cfg sid s (pre ++ post) =
      (legalRecvsS cfg sid s pre && legalRecvsS cfg sid (SStream.runEv cfg sid s pre).1 post) :=
  guard_append (step := fun s e => s.stepEv cfg sid e) (run := SStream.runEv cfg sid) (fun _ => rfl)
    (fun _ _ _ => rfl) (fun _ => rfl) (fun _ _ _ => rfl) post pre s

theorem Fresh.ne1 {s0 : SStream α} (h : Fresh s0) : NE1 s0 := by
  obtain ⟨_, hc, hx, he, hh, _, _⟩ := h
  refine ⟨by rw [he]; simp, Or.inr (by rw [hh]; simp), ?_⟩
  rw [he, hc, hx]
  intro h
  rcases h with h | h | h <;> cases h

theorem acct_of_live {s : SStream α} {fed : List (DFrame α)} {del : List (List α)} (hsi : SInv s fed del)
    (hn : NE1 s) (hctx : s.ctxDone = none) (hhc : s.halfClosed = none) :
    s.readErr = none ∧ Acct s.rcv.queue false s.pread fed del := by
  have hno : ∀ {p : Prop}, p → (p → s.ctxDone.isSome = true ∨ s.halfClosed.isSome = true) → False := by
    intro p hp h
    rcases h hp with h | h
    · rw [hctx] at h; cases h
    · rw [hhc] at h; cases h
  have hre : s.readErr = none := by
    cases hr : s.readErr with
    | none => rfl
    | some e => exact (hno (Or.inl (by rw [hr]; rfl)) hn.2.2).elim
  have hcl : s.rcv.closed = false := by
    cases hc : s.rcv.closed with
    | false => rfl
    | true => exact (hno (Or.inr (Or.inl hc)) hn.2.2).elim
  refine ⟨hre, ?_⟩
  unfold SInv at hsi
  rw [hre, hctx, hcl] at hsi
  rcases hsi with ⟨_, hb, _⟩ | ⟨_, hacc⟩
  · cases hb
  · exact hacc

theorem halfClose_switch (cfg : SCfg) (sid : Sid) (s1 : SStream α) (hctx : s1.ctxDone = none)
    (hhc : s1.halfClosed = none) (hre : s1.readErr = none) {acc : List (DFrame α)} {del : List (List α)}
    (hacct : Acct s1.rcv.queue false s1.pread acc del) :
    SQ (s1.stepEv cfg sid (.frame .halfClose)).1 acc
      (del ++ msgsOfDones (s1.stepEv cfg sid (.frame .halfClose)).2.dones)
      (false || eofIn (s1.stepEv cfg sid (.frame .halfClose)).2.dones) := by
  have hstep : s1.stepEv cfg sid (.frame .halfClose) =
      (({ s1 with halfClosed := some .eof, rcv := s1.rcv.close } : SStream α).readAndSettle sid) := by
    show s1.onFrame cfg sid .halfClose = _
    rw [ServerOps.onFrame_halfClose, if_neg (by rw [hhc]; exact Bool.false_ne_true), ServerOps.halfClose_of_none _ hhc]
  rw [hstep]
  exact (readAndSettle_tq sid _).sq _ _ _ (Or.inr (Or.inl ⟨rfl, hctx, rfl, rfl, hre, hacct⟩))

theorem sfu_prefix {cfg : SCfg} {sid : Sid} {s : SStream α} {pre post : List (SEv α)}
    (hl : legalRecvsS cfg sid (SStream.runEv cfg sid s pre).1 post = true)
    (hfu : s.fc = true ∨ (SStream.runEv cfg sid (SStream.runEv cfg sid s pre).1 post).1.unsupported = false) :
    s.fc = true ∨ (SStream.runEv cfg sid s pre).1.unsupported = false :=
  hfu.imp_right fun h => Bool.eq_false_iff.mpr fun hu => by
    rw [Delivery.runEv_unsupported cfg sid _ _ hl hu] at h; cases h

theorem fedFramesS_at (pre post : List (SEv α)) (f : C2S α) :
    C01.fedFramesS (pre ++ .frame f :: post) = C01.fedFramesS pre ++ f :: C01.fedFramesS post :=
  List.filterMap_append.trans (congrArg (C01.fedFramesS pre ++ ·) (List.filterMap_cons_some (a := SEv.frame f) rfl))

/-- **Server completeness (delivery).**  Some `RecvMsg` of the handler of a freshly created server
    stream returned `io.EOF`.  Then a half-close frame was fed to the stream, and if no half-close frame
    was fed after it, the handler has obtained ALL complete messages of the data frames fed before it
    (in order, once). -/
theorem server_eof_complete (cfg : SCfg) (sid : Sid) (s0 : SStream α) (h0 : Fresh s0)
    (sevs : List (SEv α)) (hl : legalRecvsS cfg sid s0 sevs = true)
    (hfu : s0.fc = true ∨ (SStream.runEv cfg sid s0 sevs).1.unsupported = false)
    (heof : sawRecvEofS (SStream.runEv cfg sid s0 sevs).2 = true) :
    ∃ pre post, sevs = pre ++ .frame .halfClose :: post ∧
      ((∀ f ∈ C01.fedFramesS post, Conformance.C.isHalfClose f = false) →
        Out.deliveredMsgs (SStream.runEv cfg sid s0 sevs).2 = (parse none (SEv.fedData pre)).1) := by
  -- phase 1: no read can return `io.EOF`
  rcases run_tq cfg sid sevs s0 hl with h | ⟨pre, post, rfl, hctx, hhc, hl2, h⟩
  · have := (h.ne (Fresh.ne1 h0)).2
    rw [show eofIn _ = _ from eofIn_flatMapS _, heof] at this
    cases this
  obtain ⟨hn1, hsaw1⟩ := h.ne (Fresh.ne1 h0)
  refine ⟨pre, post, rfl, fun hpost => ?_⟩
  rw [legalRecvsS_append, Bool.and_eq_true] at hl
  rw [ServerOps.runEv_append] at hfu heof ⊢
  dsimp only at hfu heof ⊢
  rw [sawRecvEofS_append, ← eofIn_flatMapS, show eofIn _ = false from hsaw1, Bool.false_or, ServerOps.runEv_cons,
    sawRecvEofS_cons] at heof
  -- the accounting at its end, the half-close frame, then phase 2
  have hsi := Delivery.runEv_inv cfg sid pre s0 [] [] h0.inv hl.1 (sfu_prefix hl.2 hfu)
  simp only [List.nil_append] at hsi
  obtain ⟨hre, hacct⟩ := acct_of_live hsi hn1 hctx hhc
  have hq1 := halfClose_switch cfg sid _ hctx hhc hre hacct
  rcases run_tq cfg sid post _ (legalRecvsS_cons cfg sid _ _ post hl2).2 with h2 | ⟨pre2, post2, rfl, _⟩
  · have hq2 := h2.sq _ _ _ hq1
    rw [show msgsOfDones _ = _ from msgsOfDones_flatMapS _, show eofIn (List.flatMap _ _) = _ from eofIn_flatMapS _,
      Bool.false_or, heof] at hq2
    rcases hq2 with ⟨_, hfin⟩ | ⟨hx, _⟩ | ⟨hx, _⟩
    · rw [hfin, ServerOps.runEv_cons]
      simp only [Out.deliveredMsgs, List.flatMap_append, List.flatMap_cons, List.append_assoc]
    · cases hx
    · cases hx
  · have := hpost .halfClose (by rw [fedFramesS_at]; exact List.mem_append_right _ (List.mem_cons_self ..))
    cases this

theorem isHalfClose_eq {f : C2S α} (h : Conformance.C.isHalfClose f = true) : f = .halfClose := by
  cases f <;> first | rfl | cases h

theorem dataOf_notData {f : C2S α} (h : Conformance.C.isData f = false) : dataOfC2S f = none := by
  cases f <;> first | rfl | cases h

/-- **Client completeness (emission).**  If a client stream has put its
    half-close frame on the wire — and the caller kept its contract: one send at
    a time, none after a failed one, none after `CloseSend`, `CloseSend` only
    when no send is in progress, and no send of it failed — then the data frames
    it emitted are exactly the chunkings of ALL the messages submitted, there is
    only one half-close frame, and no data frame follows it. -/
theorem client_halfClose_complete (cfg : CCfg) (hcm : 0 < cfg.chunkMax) (sid : Sid) (c0 : CStream α)
    (hp : c0.psend = none) (hh : c0.halfClosed = false) (cevs : List (CEv α))
    (hl : CStream.legalSends cfg sid c0 false cevs = true)
    (hcs : Conformance.legalCloseSend cfg sid c0 false cevs = true)
    (hnf : Emission.cAnyFailed (CStream.runEv cfg sid c0 cevs).2 = false)
    (hhc : ∃ f ∈ Conformance.cframes (CStream.runEv cfg sid c0 cevs).2, Conformance.C.isHalfClose f = true) :
    parse none (COut.emittedData (CStream.runEv cfg sid c0 cevs).2) = (CEv.submitted cevs, .ok none) ∧
    ∃ a b, Conformance.cframes (CStream.runEv cfg sid c0 cevs).2 = a ++ C2S.halfClose :: b ∧
      (∀ f ∈ a, Conformance.C.isHalfClose f = false) ∧
      (∀ f ∈ b, Conformance.C.isHalfClose f = false ∧ dataOfC2S f = none) := by
  obtain ⟨f, hf, hfh⟩ := hhc
  obtain ⟨a, b, hab⟩ := List.append_of_mem hf
  have hfe := isHalfClose_eq hfh
  subst hfe
  have hone := Conformance.C1_at_most_one_halfClose cfg sid c0 cevs
  have hflag := Conformance.C1_halfClose_iff_flag cfg sid c0 hh cevs
  rw [hab] at hone hflag
  obtain ⟨hna, hnb⟩ := others_not (p := Conformance.C.isHalfClose) rfl hone
  -- the stream ends half-closed, hence with no send pending
  have hfin : (CStream.runEv cfg sid c0 cevs).1.halfClosed = true := by
    cases hx : (CStream.runEv cfg sid c0 cevs).1.halfClosed with
    | true => rfl
    | false =>
      rw [hx, List.filter_append, List.filter_cons_of_pos rfl, List.length_append, List.length_cons] at hflag
      simp only [Bool.toNat_false] at hflag
      omega
  have hps := (Conformance.C3_aux cfg sid cevs c0 false ⟨fun h => (by cases h), fun h => (by rw [hh] at h; cases h)⟩ hcs).2 hfin
  obtain ⟨ms, st, hparse, _, hfull⟩ := Emission.client_emits_chunkings_full cfg hcm sid c0 hp cevs hl
  obtain ⟨h1, h2⟩ := hfull hps hnf
  refine ⟨by rw [hparse, h1, h2], a, b, hab, hna, fun g hg => ⟨hnb g hg, ?_⟩⟩
  exact dataOf_notData (Conformance.C3_no_data_after_halfClose cfg sid c0 hh cevs hcs a _ b hab rfl g hg)

theorem C01_request_complete (ccfg : CCfg) (scfg : SCfg) (hcm : 0 < ccfg.chunkMax) (sid : Sid)
    (c0 : CStream α) (s0 : SStream α) (hc0 : c0.psend = none) (hc0h : c0.halfClosed = false) (hs0 : Fresh s0)
    (cevs : List (CEv α)) (sevs : List (SEv α))
    (hsend : CStream.legalSends ccfg sid c0 false cevs = true)
    (hcs : Conformance.legalCloseSend ccfg sid c0 false cevs = true)
    (hnf : Emission.cAnyFailed (CStream.runEv ccfg sid c0 cevs).2 = false)
    (hrecv : legalRecvsS scfg sid s0 sevs = true)
    (hfu : s0.fc = true ∨ (SStream.runEv scfg sid s0 sevs).1.unsupported = false)
    (hfifo : C01.fedFramesS sevs = C01.emittedFramesC (CStream.runEv ccfg sid c0 cevs).2)
    (heof : sawRecvEofS (SStream.runEv scfg sid s0 sevs).2 = true) :
    Out.deliveredMsgs (SStream.runEv scfg sid s0 sevs).2 = CEv.submitted cevs := by
  -- the handler's stream was fed a half-close frame, so the caller's stream has emitted one
  obtain ⟨pre, post, hsplit, hdel⟩ := server_eof_complete scfg sid s0 hs0 sevs hrecv hfu heof
  have hfed := fedFramesS_at pre post .halfClose
  rw [← hsplit, hfifo] at hfed
  obtain ⟨hparse, a, b, hshape, ha, hb⟩ := client_halfClose_complete ccfg hcm sid c0 hc0 hc0h cevs hsend hcs hnf
    ⟨_, by rw [show Conformance.cframes _ = _ from hfed]; exact List.mem_append_right _ (List.mem_cons_self ..), rfl⟩
  -- it is the only one, and no data frame follows it
  obtain ⟨hpre, _, hpost⟩ := split_unique (p := Conformance.C.isHalfClose) (hfed.symm.trans hshape) rfl ha
    (fun f hf => (hb f hf).1)
  have hdata : COut.emittedData (CStream.runEv ccfg sid c0 cevs).2 = a.filterMap dataOfC2S := by
    rw [C01.emittedData_eq_C, show C01.emittedFramesC _ = _ from hshape, List.filterMap_append,
      List.filterMap_cons_none rfl, List.filterMap_eq_nil_iff.mpr (fun f hf => (hb f hf).2), List.append_nil]
  rw [hdel (fun f hf => (hb f (hpost ▸ hf)).1), C01.fedData_eq_S, hpre, ← hdata, hparse]

section Examples

/-- a server-streaming method on the server, fresh -/
def sExA : SStream Nat :=
  { cs := false, ss := true, unary := false, fc := true, rcv := RcvQ.init 10, win := 10, hstatus := .running }
/-- ... and on the client -/
def cExA : CStream Nat := { cs := false, ss := true, fc := true, rcv := RcvQ.init 10, win := 10 }

example : SFreshR sExA := ⟨rfl, rfl, rfl, rfl, rfl⟩
example : CFresh cExA := ⟨rfl, rfl, rfl, rfl, rfl, rfl, rfl⟩

/-- two messages, the first in two chunks (`chunkMax = 2`), then the handler returns OK -/
def sevsA : List (SEv Nat) := [.call (.send [1, 2, 3]), .call (.send [4]), .call (.ret (mkStatus 0 ""))]
/-- the caller reads three times; the third read returns `io.EOF` -/
def cevsA : List (CEv Nat) :=
  [.frame (.headers []), .call .recv, .frame (.msg 3 [1, 2]), .frame (.more [3]), .frame (.msg 1 [4]), .call .recv,
   .frame (.close (mkStatus 0 "") []), .call .recv]

example : C01.fedFramesC cevsA = C01.emittedFramesS (SStream.runEv { chunkMax := 2 } 1 sExA sevsA).2 := by rfl

example :
    SStream.legalSends { chunkMax := 2 } 1 sExA false sevsA = true ∧ sNoCallAfterRet sevsA = true ∧
    Emission.sReplyIsLast sevsA = true ∧
    Emission.sAnyFailed (SStream.runEv { chunkMax := 2 } 1 sExA sevsA).2 = false ∧
    legalRecvsC {} 1 cExA cevsA = true ∧ noWinExceed {} 1 cExA cevsA = true ∧ cNoCancel cevsA = true ∧
    sawRecvEof (CStream.runEv {} 1 cExA cevsA).2 = true ∧
    COut.deliveredMsgs (CStream.runEv {} 1 cExA cevsA).2 = [[1, 2, 3], [4]] ∧
    SEv.submitted sevsA = [[1, 2, 3], [4]] ∧
    (CStream.runEv {} 1 cExA cevsA).1.done = some .eof := by
  decide +kernel

example : COut.deliveredMsgs (CStream.runEv {} 1 cExA cevsA).2 = SEv.submitted sevsA :=
  C01_response_complete {} { chunkMax := 2 } (by decide +kernel) 1 cExA sExA ⟨rfl, rfl, rfl, rfl, rfl⟩
    ⟨rfl, rfl, rfl, rfl, rfl, rfl, rfl⟩ cevsA sevsA (by decide +kernel) (by decide +kernel) (by decide +kernel) (by decide +kernel)
    (Or.inl rfl) (by rfl) (by decide +kernel)

/-- a unary method on the server: `createStream` has started the decode read -/
def sExU : SStream Nat :=
  { cs := false, ss := false, unary := true, fc := true, rcv := RcvQ.init 10, win := 10, hstatus := .decoding,
    pread := some { lookahead := none, rst := none } }
def cExU : CStream Nat := { cs := false, ss := false, fc := true, rcv := RcvQ.init 10, win := 10 }

example : SFreshR sExU := ⟨rfl, rfl, rfl, rfl, rfl⟩

/-- the request arrives, the unary handler replies (three bytes, two chunks) -/
def sevsU : List (SEv Nat) := [.frame (.msg 2 [7, 8]), .frame .halfClose, .call (.reply [1, 2, 3])]
/-- the caller: `Invoke` = send, close-send, receive; the first read (with its
    eager look-ahead) returns the reply when the close frame arrives, a second read returns `io.EOF` -/
def cevsU : List (CEv Nat) :=
  [.call (.send [7, 8]), .call .closeSend, .call .recv, .frame (.windowUpdate 2), .frame (.headers []),
   .frame (.msg 3 [1, 2]), .frame (.more [3]), .frame (.close (mkStatus 0 "") []), .call .recv]

example : C01.fedFramesC cevsU = C01.emittedFramesS (SStream.runEv { chunkMax := 2 } 1 sExU sevsU).2 := by rfl

example :
    SStream.legalSends { chunkMax := 2 } 1 sExU false sevsU = true ∧ sNoCallAfterRet sevsU = true ∧
    Emission.sAnyFailed (SStream.runEv { chunkMax := 2 } 1 sExU sevsU).2 = false ∧
    legalRecvsC {} 1 cExU cevsU = true ∧ noWinExceed {} 1 cExU cevsU = true ∧ cNoCancel cevsU = true ∧
    sawRecvEof (CStream.runEv {} 1 cExU cevsU).2 = true ∧
    COut.deliveredMsgs (CStream.runEv {} 1 cExU cevsU).2 = [[1, 2, 3]] ∧ SEv.submitted sevsU = [[1, 2, 3]] ∧
    (CStream.runEv {} 1 cExU cevsU).1.done = some .eof := by
  decide +kernel

/-- the same reply blocked on a send window of 2 bytes and completed by a window update -/
def sevsU2 : List (SEv Nat) :=
  [.frame (.msg 2 [7, 8]), .frame .halfClose, .call (.reply [1, 2, 3]), .frame (.windowUpdate 2)]

example : C01.fedFramesC cevsU =
    C01.emittedFramesS (SStream.runEv { chunkMax := 2 } 1 ({ sExU with win := 2 } : SStream Nat) sevsU2).2 := by rfl

example : COut.deliveredMsgs (CStream.runEv {} 1 cExU cevsU).2 = SEv.submitted sevsU2 :=
  C01_response_complete {} { chunkMax := 2 } (by decide +kernel) 1 cExU ({ sExU with win := 2 } : SStream Nat)
    ⟨rfl, rfl, rfl, rfl, rfl⟩ ⟨rfl, rfl, rfl, rfl, rfl, rfl, rfl⟩ cevsU sevsU2 (by decide +kernel) (by decide +kernel) (by decide +kernel)
    (by decide +kernel) (Or.inl rfl) (by rfl) (by decide +kernel)

-- COUNTEREXAMPLE to `C01_response_ok_partial` without `noWinExceed`: the sender's window is 10, the
-- caller advertised 1
def cExW : CStream Nat := { cs := false, ss := true, fc := true, rcv := RcvQ.init 1, win := 10 }
def sevsW : List (SEv Nat) := [.call (.send [1, 2, 3]), .call (.ret (mkStatus 0 ""))]
def cevsW : List (CEv Nat) := [.frame (.headers []), .frame (.msg 3 [1, 2, 3]), .frame (.close (mkStatus 0 "") [])]

example : C01.fedFramesC cevsW = C01.emittedFramesS (SStream.runEv {} 1 sExA sevsW).2 := by rfl
example :
    SStream.legalSends {} 1 sExA false sevsW = true ∧ Emission.sReplyIsLast sevsW = true ∧
    legalRecvsC {} 1 cExW cevsW = true ∧ cNoCancel cevsW = true ∧
    noWinExceed {} 1 cExW cevsW = false ∧
    (CStream.runEv {} 1 cExW cevsW).1.done = some (.status (mkStatus 8 "flow control window exceeded")) := by
  decide +kernel

-- COUNTEREXAMPLE to `C01_response_ok_partial` without `hss`: the caller's method descriptor says "one
-- response" (`ss = false`), the handler streams two
def sevsM : List (SEv Nat) := [.call (.send [1]), .call (.send [2]), .call (.ret (mkStatus 0 ""))]
def cevsM : List (CEv Nat) :=
  [.call .recv, .frame (.headers []), .frame (.msg 1 [1]), .frame (.msg 1 [2]), .frame (.close (mkStatus 0 "") [])]

example : C01.fedFramesC cevsM = C01.emittedFramesS (SStream.runEv {} 1 sExA sevsM).2 := by rfl
example :
    SStream.legalSends {} 1 sExA false sevsM = true ∧ Emission.sReplyIsLast sevsM = true ∧
    legalRecvsC {} 1 cExU cevsM = true ∧ cNoCancel cevsM = true ∧ noWinExceed {} 1 cExU cevsM = true ∧
    (SEv.submitted sevsM).length = 2 ∧
    (CStream.runEv {} 1 cExU cevsM).1.done =
      some (.status (mkStatus 13 "Server sent multiple responses for non-server-stream method")) := by
  decide +kernel

-- WHY `sNoCallAfterRet`: a handler that sends after it returned OK puts `headers, close(OK), msg` on the wire
def sevsN : List (SEv Nat) := [.call (.ret (mkStatus 0 "")), .call (.send [1])]
def cevsN : List (CEv Nat) :=
  [.frame (.headers []), .frame (.close (mkStatus 0 "") []), .frame (.msg 1 [1]), .call .recv]

example : C01.fedFramesC cevsN = C01.emittedFramesS (SStream.runEv {} 1 sExA sevsN).2 := by rfl
example :
    SStream.legalSends {} 1 sExA false sevsN = true ∧ sNoCallAfterRet sevsN = false ∧
    Emission.sAnyFailed (SStream.runEv {} 1 sExA sevsN).2 = false ∧ legalRecvsC {} 1 cExA cevsN = true ∧
    sawRecvEof (CStream.runEv {} 1 cExA cevsN).2 = true ∧
    COut.deliveredMsgs (CStream.runEv {} 1 cExA cevsN).2 = [] ∧ SEv.submitted sevsN = [[1]] := by
  decide +kernel

-- WHY `sAnyFailed = false`: the handler returns OK while its `SendMsg` is blocked on a window of 1
def sevsF : List (SEv Nat) := [.call (.send [1, 2, 3]), .call (.ret (mkStatus 0 ""))]
def cevsF : List (CEv Nat) :=
  [.call .recv, .frame (.headers []), .frame (.msg 3 [1]), .frame (.close (mkStatus 0 "") [])]

example : C01.fedFramesC cevsF =
    C01.emittedFramesS (SStream.runEv {} 1 ({ sExA with win := 1 } : SStream Nat) sevsF).2 := by rfl
example :
    SStream.legalSends {} 1 ({ sExA with win := 1 } : SStream Nat) false sevsF = true ∧
    sNoCallAfterRet sevsF = true ∧
    Emission.sAnyFailed (SStream.runEv {} 1 ({ sExA with win := 1 } : SStream Nat) sevsF).2 = true ∧
    legalRecvsC {} 1 cExA cevsF = true ∧ sawRecvEof (CStream.runEv {} 1 cExA cevsF).2 = true ∧
    COut.deliveredMsgs (CStream.runEv {} 1 cExA cevsF).2 = [] ∧ SEv.submitted sevsF = [[1, 2, 3]] := by
  decide +kernel

def cExQ : CStream Nat := { cs := true, ss := true, fc := true, rcv := RcvQ.init 10, win := 10 }
def sExQ : SStream Nat :=
  { cs := true, ss := true, unary := false, fc := true, rcv := RcvQ.init 10, win := 10, hstatus := .running }

/-- the caller sends two messages (the first in two chunks, `chunkMax = 2`) and half-closes -/
def cevsQ : List (CEv Nat) := [.call (.send [1, 2, 3]), .call (.send [4]), .call .closeSend]
/-- the handler reads three times; the third read returns `io.EOF` -/
def sevsQ : List (SEv Nat) :=
  [.call .recv, .frame (.msg 3 [1, 2]), .frame (.more [3]), .frame (.msg 1 [4]), .call .recv, .frame .halfClose,
   .call .recv]

example : C01.fedFramesS sevsQ = C01.emittedFramesC (CStream.runEv { chunkMax := 2 } 1 cExQ cevsQ).2 := by rfl

example :
    CStream.legalSends { chunkMax := 2 } 1 cExQ false cevsQ = true ∧
    Conformance.legalCloseSend { chunkMax := 2 } 1 cExQ false cevsQ = true ∧
    Emission.cAnyFailed (CStream.runEv { chunkMax := 2 } 1 cExQ cevsQ).2 = false ∧
    legalRecvsS {} 1 sExQ sevsQ = true ∧ sawRecvEofS (SStream.runEv {} 1 sExQ sevsQ).2 = true ∧
    Out.deliveredMsgs (SStream.runEv {} 1 sExQ sevsQ).2 = [[1, 2, 3], [4]] ∧
    CEv.submitted cevsQ = [[1, 2, 3], [4]] := by
  decide +kernel

example : Out.deliveredMsgs (SStream.runEv {} 1 sExQ sevsQ).2 = CEv.submitted cevsQ :=
  C01_request_complete { chunkMax := 2 } {} (by decide +kernel) 1 cExQ sExQ rfl rfl
    ⟨rfl, rfl, rfl, rfl, rfl, rfl, Or.inl rfl⟩ cevsQ sevsQ (by decide +kernel) (by decide +kernel) (by decide +kernel) (by decide +kernel)
    (Or.inl rfl) (by rfl) (by decide +kernel)

-- the same over revision zero (no flow control): the model never gives up on this run
example :
    let s : SStream Nat := { sExQ with fc := false }
    let c : CStream Nat := { cExQ with fc := false }
    (SStream.runEv {} 1 s sevsQ).1.unsupported = false ∧ legalRecvsS {} 1 s sevsQ = true ∧
    sawRecvEofS (SStream.runEv {} 1 s sevsQ).2 = true ∧
    CStream.legalSends { chunkMax := 2 } 1 c false cevsQ = true ∧
    Out.deliveredMsgs (SStream.runEv {} 1 s sevsQ).2 = CEv.submitted cevsQ := by
  decide +kernel

end Examples

end Proofs.Complete

#print axioms Proofs.Complete.C01_response_complete
#print axioms Proofs.Complete.C01_response_ok_partial
#print axioms Proofs.Complete.client_eof_complete
#print axioms Proofs.Complete.server_closeOK_complete
#print axioms Proofs.Complete.closeOK_of_ret
#print axioms Proofs.Complete.C01_request_complete
#print axioms Proofs.Complete.server_eof_complete
#print axioms Proofs.Complete.client_halfClose_complete
#print axioms Proofs.Complete.ok_cause
