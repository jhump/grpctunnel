import TunnelModel.LifeAtomic
import Proofs.Lemmas.Run
/-!
  `ReverseTunnelServer`: Serve / Stop / GracefulStop under every interleaving of their critical
  sections (`TunnelModel.LifeAtomic`), for every number `n` of Serve calls, `a` of Stop calls, `b` of
  GracefulStop calls and every schedule `as` of their atomic actions and of the peers' hang-ups.
  `step g f` / `run g f` have two flags.  `g` (`guarded`): `true` = `addInstance` checks `state` and
  enrols in one critical section, as the code does; `false` = the seeded variant that reads `state`
  before taking the lock (`check i`, then `add i`).  `f` (`stopGuardNotActive`): `false` = `Stop` skips
  only when `closed`, as the code does; `true` = the seeded variant whose guard is `state != active`.
  `run true false` is called the correct model below: `run true false (init n a b) as = some s` says
  that `s` is reachable in the code as it is.

  Everything about reachable states is read off one inductive invariant, `Inv`.  `Step` is `step`
  spelled out as a relation, and every per-step lemma takes a `Step` apart — by `induction` where the
  action is a variable: `Step` has no recursive constructor, so that is `cases` without the
  unification of the indices, which is what makes `cases` on it slow.  What only moves forward
  (`state`, the program counters of the Stop and GracefulStop calls) is one relation `Le` that every
  step of every variant of the model respects.

  * The model has an explicit `openTunnel i ok` step (the network call) in front of `enroll i`.
  * `peerHangup i` is enabled while `serving`, at most ONCE per tunnel (flag `peer`); otherwise no
    schedule bound could hold.  It is an action of the environment: `Inv.stop_ends_every_tunnel` never
    uses it.
  * Finding D9 (`Inv.gracefulStop_blocked_until_peer_or_stop`): the side condition `state = closing`
    says "no Stop has run its critical section yet" (a Stop past it forces `closed`,
    `Inv.stop_closed`); with `closed` the tunnel has been hung up and ends on its own
    (`stop_after_gracefulStop`) — hence the `stopCS` exception.
  * `Inv.stop_returns_only_after_serves` holds for GracefulStop as well (its `gsWait` comes after its
    `gsCS`, hence in a shut-down state): after a GracefulStop has returned no Serve call is ever
    running again.
  * `wgDone` is the truncated `wg - 1`; that it never underflows follows from `Inv.wg_count`
    (`wg.Done()` never panics).
-/
namespace Proofs.LifeAtomic
open TunnelModel.LifeAtomic Proofs.Run

theorem forall_get_set {α : Type} {P : α → Prop} {l : List α} {i i' : Nat} {x' : α}
    (h : ∀ x, l[i]? = some x → P x) (hx' : i = i' → P x') :
    ∀ y, (l.set i' x')[i]? = some y → P y := by
  intro y hy
  rcases get_set hy with ⟨e, e'⟩ | ⟨_, hy'⟩
  · rw [e']; exact hx' e
  · exact h y hy'

theorem get_of_get_set {α : Type} {l : List α} {i i' : Nat} {x x' : α}
    (h : (l.set i' x')[i]? = some x) (hne : x ≠ x') : l[i]? = some x := by
  rcases get_set h with ⟨_, e⟩ | ⟨_, h'⟩
  · exact absurd e hne
  · exact h'

theorem get_set_other {α : Type} {l : List α} {i i' : Nat} {x y z : α} (hi : l[i]? = some x)
    (hi' : l[i']? = some y) (hne : x ≠ y) : (l.set i' z)[i]? = some x := by
  have : i ≠ i' := by
    intro e; subst e; rw [hi] at hi'; cases hi'; exact hne rfl
  rw [get_set_ne this]; exact hi

theorem nRunning_eq_sum (l : List Serve) :
    nRunning l = (l.map fun x => if x.pc.running then 1 else 0).sum := by
  induction l with
  | nil => rfl
  | cons x r ih => rw [nRunning, ih]; rfl

theorem nRunning_set {l : List Serve} {i : Nat} {x : Serve} (x' : Serve) (h : l[i]? = some x) :
    nRunning (l.set i x') + (if x.pc.running then 1 else 0)
      = nRunning l + (if x'.pc.running then 1 else 0) := by
  rw [nRunning_eq_sum, nRunning_eq_sum]
  exact sum_map_set _ x' h

theorem nRunning_eq_zero {l : List Serve} :
    nRunning l = 0 ↔ ∀ (i : Nat) (x : Serve), l[i]? = some x → x.pc.running = false := by
  rw [nRunning_eq_sum, sum_map_eq_zero]
  constructor
  · intro h i x hi
    have := h x (List.mem_of_getElem? hi)
    cases hr : x.pc.running with
    | false => rfl
    | true => simp [hr] at this
  · intro h x hx
    obtain ⟨i, hi⟩ := List.mem_iff_getElem?.mp hx
    show (if x.pc.running = true then 1 else 0) = 0
    rw [h i x hi]; rfl

/-- `step` as a relation: one constructor per outcome of an action -/
inductive Step (g f : Bool) (s : St) : Act → St → Prop
  | openTunnel (i : Nat) (ok p : Bool) (h : s.serves[i]? = some ⟨.start, p⟩) :
      Step g f s (.openTunnel i ok)
        { s with serves := s.serves.set i ⟨if ok then .opened else .failedOpen, p⟩ }
  | admitOk (i : Nat) (p : Bool) (hg : g = true) (h : s.serves[i]? = some ⟨.opened, p⟩)
      (ha : s.state = .active) :
      Step g f s (.enroll i)
        { s with wg := s.wg + 1, instances := i :: s.instances, serves := s.serves.set i ⟨.serving, p⟩ }
  | admitRefused (i : Nat) (p : Bool) (hg : g = true) (h : s.serves[i]? = some ⟨.opened, p⟩)
      (ha : s.state ≠ .active) :
      Step g f s (.enroll i) { s with serves := s.serves.set i ⟨.refused, p⟩ }
  | check (i : Nat) (p : Bool) (hg : g = false) (h : s.serves[i]? = some ⟨.opened, p⟩) :
      Step g f s (.check i)
        { s with serves := s.serves.set i ⟨if s.state = .active then .checked else .refused, p⟩ }
  | add (i : Nat) (p : Bool) (hg : g = false) (h : s.serves[i]? = some ⟨.checked, p⟩) :
      Step g f s (.add i)
        { s with wg := s.wg + 1, instances := i :: s.instances, serves := s.serves.set i ⟨.serving, p⟩ }
  | peerHangup (i : Nat) (h : s.serves[i]? = some ⟨.serving, false⟩) :
      Step g f s (.peerHangup i) { s with serves := s.serves.set i ⟨.serving, true⟩ }
  | tunnelEnds (i : Nat) (p : Bool) (h : s.serves[i]? = some ⟨.serving, p⟩)
      (hu : p = true ∨ i ∈ s.hungUp) :
      Step g f s (.tunnelEnds i) { s with serves := s.serves.set i ⟨.ended, p⟩ }
  | wgDone (i : Nat) (p : Bool) (h : s.serves[i]? = some ⟨.ended, p⟩) :
      Step g f s (.wgDone i) { s with wg := s.wg - 1, serves := s.serves.set i ⟨.returned, p⟩ }
  | stopSkip (j : Nat) (h : s.stops[j]? = some .start) (hk : stopSkips f s.state = true) :
      Step g f s (.stopCS j) { s with stops := s.stops.set j .waiting }
  | stopClose (j : Nat) (h : s.stops[j]? = some .start) (hk : stopSkips f s.state = false) :
      Step g f s (.stopCS j)
        { s with state := .closed, hungUp := s.instances ++ s.hungUp, stops := s.stops.set j .waiting }
  | stopWait (j : Nat) (h : s.stops[j]? = some .waiting) (hw : s.wg = 0) :
      Step g f s (.stopWait j) { s with stops := s.stops.set j .returned }
  | gsCS (k : Nat) (h : s.gstops[k]? = some .start) :
      Step g f s (.gsCS k)
        { s with state := if s.state = .active then .closing else s.state, gstops := s.gstops.set k .waiting }
  | gsWait (k : Nat) (h : s.gstops[k]? = some .waiting) (hw : s.wg = 0) :
      Step g f s (.gsWait k) { s with gstops := s.gstops.set k .returned }

theorem step_spec {g f : Bool} {s s' : St} {a : Act} (hs : step g f s a = some s') : Step g f s a s' := by
  cases a <;> dsimp only [step] at hs
  case openTunnel i ok =>
    split at hs
    next p h => cases hs; exact .openTunnel i ok p h
    · cases hs
  case enroll i =>
    cases g with
    | false => cases hs
    | true =>
      rw [if_pos rfl] at hs
      split at hs
      next p h =>
        split at hs
        next ha => cases hs; exact .admitOk i p rfl h ha
        next ha => cases hs; exact .admitRefused i p rfl h ha
      · cases hs
  case check i =>
    cases g with
    | true => cases hs
    | false =>
      rw [if_neg nofun] at hs
      split at hs
      next p h => cases hs; exact .check i p rfl h
      · cases hs
  case add i =>
    cases g with
    | true => cases hs
    | false =>
      rw [if_neg nofun] at hs
      split at hs
      next p h => cases hs; exact .add i p rfl h
      · cases hs
  case peerHangup i =>
    split at hs
    next h => cases hs; exact .peerHangup i h
    · cases hs
  case tunnelEnds i =>
    split at hs
    next p h =>
      split at hs
      next hu =>
        cases hs
        rw [Bool.or_eq_true, List.contains_iff_mem] at hu
        exact .tunnelEnds i p h hu
      · cases hs
    · cases hs
  case wgDone i =>
    split at hs
    next p h => cases hs; exact .wgDone i p h
    · cases hs
  case stopCS j =>
    split at hs
    next h =>
      split at hs
      next hk => cases hs; exact .stopSkip j h hk
      next hk => cases hs; exact .stopClose j h (Bool.eq_false_iff.mpr hk)
    · cases hs
  case stopWait j =>
    split at hs
    next h =>
      split at hs
      next hw => cases hs; exact .stopWait j h hw
      · cases hs
    · cases hs
  case gsCS k =>
    split at hs
    next h => cases hs; exact .gsCS k h
    · cases hs
  case gsWait k =>
    split at hs
    next h =>
      split at hs
      next hw => cases hs; exact .gsWait k h hw
      · cases hs
    · cases hs

theorem step_of_Step {g f : Bool} {s s' : St} {a : Act} (h : Step g f s a s') : step g f s a = some s' := by
  cases h <;> dsimp only [step]
  case openTunnel i ok p h => rw [h]
  case admitOk i p hg h ha => rw [if_pos hg, h]; exact if_pos ha
  case admitRefused i p hg h ha => rw [if_pos hg, h]; exact if_neg ha
  case check i p hg h => rw [if_neg (by rw [hg]; nofun), h]
  case add i p hg h => rw [if_neg (by rw [hg]; nofun), h]
  case peerHangup i h => rw [h]
  case tunnelEnds i p h hu =>
    rw [h]
    rw [← List.contains_iff_mem, ← Bool.or_eq_true] at hu
    exact if_pos hu
  case wgDone i p h => rw [h]
  case stopSkip j h hk => rw [h]; exact if_pos hk
  case stopClose j h hk => rw [h]; exact if_neg (by rw [hk]; nofun)
  case stopWait j h hw => rw [h]; exact if_pos hw
  case gsCS k h => rw [h]
  case gsWait k h hw => rw [h]; exact if_pos hw

theorem isSome_of_Step {g f : Bool} {s s' : St} {a : Act} (h : Step g f s a s') :
    (step g f s a).isSome := by
  rw [step_of_Step h]; rfl

/-- `wg.Wait()` returns iff the counter is zero (all variants) -/
theorem gsWait_enabled_iff {g f : Bool} {s : St} {k : Nat} (hk : s.gstops[k]? = some .waiting) :
    (step g f s (.gsWait k)).isSome ↔ s.wg = 0 := by
  constructor
  · intro h
    obtain ⟨s', hs⟩ := Option.isSome_iff_exists.mp h
    cases step_spec hs with
    | gsWait _ _ hw => exact hw
  · exact fun hw => isSome_of_Step (.gsWait k hk hw)

theorem step_eq_none {g f : Bool} {s : St} {a : Act} (h : ∀ s', ¬ Step g f s a s') :
    step g f s a = none := by
  cases hs : step g f s a with
  | none => rfl
  | some s' => exact absurd (step_spec hs) (h s')

theorem isRun (g f : Bool) : IsRun (step g f) (run g f) :=
  ⟨fun _ => rfl, fun s a as => by simp only [run]; cases step g f s a <;> rfl⟩

theorem gsCS_state (st : SState) :
    ((if st = .active then SState.closing else st) = .closed ↔ st = .closed) ∧
    (if st = .active then SState.closing else st) ≠ .active ∧
    st.rank ≤ (if st = .active then SState.closing else st).rank := by
  cases st <;> decide

structure Inv (s : St) : Prop where
  /-- `wg` = number of Serve calls in `serving` or `ended` -/
  wg_count : s.wg = nRunning s.serves
  /-- `instances` = the Serve calls in `serving` / `ended` / `returned` -/
  admitted_inst : ∀ (i : Nat) (x : Serve), s.serves[i]? = some x → x.pc.admitted = true → i ∈ s.instances
  inst_admitted : ∀ i ∈ s.instances, ∃ x, s.serves[i]? = some x ∧ x.pc.admitted = true
  /-- `CloseSend` is only ever called on instances … -/
  hung_inst : ∀ i ∈ s.hungUp, i ∈ s.instances
  /-- … and only by the critical section of `Stop` -/
  hung_closed : ∀ i ∈ s.hungUp, s.state = .closed
  /-- THE KEY: once `closed`, every instance has been hung up (nobody is admitted after the
      critical section of `Stop`, everybody admitted before it was hung up by it) -/
  closed_hung : s.state = .closed → ∀ i ∈ s.instances, i ∈ s.hungUp
  /-- the unlocked-check program point does not exist in the correct model -/
  no_checked : ∀ (i : Nat) (x : Serve), s.serves[i]? = some x → x.pc ≠ .checked
  /-- a Stop past its critical section: `closed` -/
  stop_closed : ∀ (j : Nat) (pc : WPc), s.stops[j]? = some pc → pc ≠ .start → s.state = .closed
  /-- a GracefulStop past its critical section: `closing` or `closed` -/
  gs_shut : ∀ (k : Nat) (pc : WPc), s.gstops[k]? = some pc → pc ≠ .start → s.state ≠ .active
  stop_ret : ∀ (j : Nat), s.stops[j]? = some .returned → s.wg = 0
  gs_ret : ∀ (k : Nat), s.gstops[k]? = some .returned → s.wg = 0

theorem Inv.wg_zero_iff {s : St} (I : Inv s) :
    s.wg = 0 ↔ ∀ (i : Nat) (x : Serve), s.serves[i]? = some x → x.pc.running = false := by
  rw [I.wg_count]; exact nRunning_eq_zero

theorem Inv.wg_ne_zero {s : St} (I : Inv s) {i : Nat} {x : Serve} (hi : s.serves[i]? = some x)
    (hr : x.pc.running = true) : s.wg ≠ 0 := by
  intro hw
  rw [I.wg_zero_iff.mp hw i x hi] at hr
  cases hr

theorem Inv.not_running {s : St} (I : Inv s) (hw : s.wg = 0) {i : Nat} {x : Serve}
    (hi : s.serves[i]? = some x) : x.pc ≠ .serving ∧ x.pc ≠ .ended :=
  ⟨fun e => I.wg_ne_zero hi (by rw [e]; rfl) hw, fun e => I.wg_ne_zero hi (by rw [e]; rfl) hw⟩

theorem Inv.closed_serving_hung {s : St} (I : Inv s) (hc : s.state = .closed) {i : Nat} {p : Bool}
    (hi : s.serves[i]? = some ⟨.serving, p⟩) : i ∈ s.hungUp :=
  I.closed_hung hc i (I.admitted_inst i _ hi rfl)

theorem inv_init (n a b : Nat) : Inv (init n a b) where
  wg_count := (nRunning_eq_zero.mpr fun i x h => by cases eq_of_get_replicate h; rfl).symm
  admitted_inst := by intro i x h ha; cases eq_of_get_replicate h; cases ha
  inst_admitted := by intro i hi; cases hi
  hung_inst := by intro i hi; cases hi
  hung_closed := by intro i hi; cases hi
  closed_hung := by intro h; cases h
  no_checked := by intro i x h; cases eq_of_get_replicate h; intro e; cases e
  stop_closed := by intro j pc h hne; cases eq_of_get_replicate h; exact absurd rfl hne
  gs_shut := by intro k pc h hne; cases eq_of_get_replicate h; exact absurd rfl hne
  stop_ret := by intro j h; cases eq_of_get_replicate h
  gs_ret := by intro k h; cases eq_of_get_replicate h

/-- an action that replaces the record of Serve `i` by one that is admitted iff the old one was,
    and adjusts `wg` (never upwards) by what the two records hold of it -/
theorem inv_serve_update {s : St} {i w : Nat} {x x' : Serve} (I : Inv s) (hx : s.serves[i]? = some x)
    (hwg : w + (if x.pc.running then 1 else 0) = s.wg + (if x'.pc.running then 1 else 0))
    (hle : w ≤ s.wg) (hadm : x'.pc.admitted = x.pc.admitted) (hchk : x'.pc ≠ .checked) :
    Inv { s with wg := w, serves := s.serves.set i x' } := { I with
  wg_count := by
    have := nRunning_set x' hx
    have := I.wg_count
    show w = nRunning (s.serves.set i x')
    omega
  admitted_inst := fun i' => forall_get_set (I.admitted_inst i')
    fun e ha => e ▸ I.admitted_inst i x hx (hadm ▸ ha)
  inst_admitted := by
    intro i' hi'
    obtain ⟨y, hy, ha⟩ := I.inst_admitted i' hi'
    by_cases e : i' = i
    · subst e
      rw [hx] at hy
      cases hy
      exact ⟨x', get_set_self hx, hadm.trans ha⟩
    · exact ⟨y, (get_set_ne e).trans hy, ha⟩
  no_checked := fun i' => forall_get_set (I.no_checked i') fun _ => hchk
  stop_ret := fun j hj => Nat.le_zero.mp (I.stop_ret j hj ▸ hle)
  gs_ret := fun k hk => Nat.le_zero.mp (I.gs_ret k hk ▸ hle) }

/-- `enroll i` in the `active` state: the one step that admits -/
theorem inv_admitOk {s : St} {i : Nat} {p : Bool} (I : Inv s) (h : s.serves[i]? = some ⟨.opened, p⟩)
    (ha : s.state = .active) :
    Inv { s with wg := s.wg + 1, instances := i :: s.instances, serves := s.serves.set i ⟨.serving, p⟩ } :=
  { I with
  wg_count := by
    show s.wg + 1 = nRunning (s.serves.set i ⟨.serving, p⟩)
    rw [I.wg_count]
    exact (nRunning_set ⟨.serving, p⟩ h).symm
  admitted_inst := fun i' => forall_get_set
    (fun y hy hadm => List.mem_cons_of_mem _ (I.admitted_inst i' y hy hadm))
    fun e _ => e ▸ List.mem_cons_self
  inst_admitted := by
    intro i' hi'
    by_cases e : i' = i
    · subst e
      exact ⟨_, get_set_self h, rfl⟩
    · rcases List.mem_cons.mp hi' with h' | h'
      · exact absurd h' e
      · obtain ⟨y, hy, hadm⟩ := I.inst_admitted i' h'
        exact ⟨y, (get_set_ne e).trans hy, hadm⟩
  hung_inst := fun i' hi' => List.mem_cons_of_mem _ (I.hung_inst i' hi')
  closed_hung := by intro hc; rw [ha] at hc; cases hc
  no_checked := fun i' => forall_get_set (I.no_checked i') fun _ => nofun
  stop_ret := by
    intro j hj
    have := I.stop_closed j _ hj nofun
    rw [ha] at this; cases this
  gs_ret := fun k hk => absurd ha (I.gs_shut k _ hk nofun) }

theorem inv_step {s s' : St} {a : Act} (I : Inv s) (hs : step true false s a = some s') : Inv s' := by
  induction step_spec hs with
  | openTunnel i ok p h => cases ok <;> exact inv_serve_update I h rfl (Nat.le_refl _) rfl nofun
  | admitOk i p _ h ha => exact inv_admitOk I h ha
  | admitRefused i p _ h _ => exact inv_serve_update I h rfl (Nat.le_refl _) rfl nofun
  | check i p hg _ => cases hg
  | add i p hg _ => cases hg
  | peerHangup i h => exact inv_serve_update I h rfl (Nat.le_refl _) rfl nofun
  | tunnelEnds i p h _ => exact inv_serve_update I h rfl (Nat.le_refl _) rfl nofun
  | wgDone i p h =>
    -- `wg.Done()` does not underflow: this call still holds a unit
    have hpos : 1 ≤ s.wg := Nat.pos_of_ne_zero (I.wg_ne_zero h rfl)
    exact inv_serve_update I h (Nat.sub_add_cancel hpos) (Nat.sub_le _ _) rfl nofun
  | stopSkip j h hk =>
    have hc : s.state = .closed := by simpa [stopSkips] using hk
    exact { I with
      stop_closed := fun _ _ _ _ => hc
      stop_ret := fun j' hj' => I.stop_ret j' (get_of_get_set hj' nofun) }
  | stopClose j h _ =>
    exact { I with
      hung_inst := fun i hi => (List.mem_append.mp hi).elim id (I.hung_inst i)
      hung_closed := fun _ _ => rfl
      closed_hung := fun _ i hi => List.mem_append.mpr (Or.inl hi)
      stop_closed := fun _ _ _ _ => rfl
      gs_shut := fun _ _ _ _ => nofun
      stop_ret := fun j' hj' => I.stop_ret j' (get_of_get_set hj' nofun) }
  | stopWait j h hw =>
    exact { I with stop_closed := fun _ _ _ _ => I.stop_closed j _ h nofun, stop_ret := fun _ _ => hw }
  | gsCS k h =>
    obtain ⟨hc, hna, _⟩ := gsCS_state s.state
    exact { I with
      hung_closed := fun i hi => hc.mpr (I.hung_closed i hi)
      closed_hung := fun h' => I.closed_hung (hc.mp h')
      stop_closed := fun j pc hj hne => hc.mpr (I.stop_closed j pc hj hne)
      gs_shut := fun _ _ _ _ => hna
      gs_ret := fun k' hk' => I.gs_ret k' (get_of_get_set hk' nofun) }
  | gsWait k h hw =>
    exact { I with gs_shut := fun _ _ _ _ => I.gs_shut k _ h nofun, gs_ret := fun _ _ => hw }

theorem inv_run {as : List Act} {s s' : St} (I : Inv s) (hr : run true false s as = some s') : Inv s' :=
  (isRun true false).preserves inv_step I hr

theorem inv_reachable (n a b : Nat) (as : List Act) {s : St}
    (hr : run true false (init n a b) as = some s) : Inv s :=
  inv_run (inv_init n a b) hr

/-- every program counter of `l` is at the same point in `l'`, or further on -/
def WLe (l l' : List WPc) : Prop :=
  ∀ (j : Nat) (pc : WPc), l[j]? = some pc → ∃ pc', l'[j]? = some pc' ∧ pc'.rank ≤ pc.rank

theorem WLe.refl (l : List WPc) : WLe l l := fun _ pc h => ⟨pc, h, Nat.le_refl _⟩

theorem WLe.trans {l₁ l₂ l₃ : List WPc} (h₁ : WLe l₁ l₂) (h₂ : WLe l₂ l₃) : WLe l₁ l₃ := by
  intro j pc h
  obtain ⟨pc₂, g₂, le₂⟩ := h₁ j pc h
  obtain ⟨pc₃, g₃, le₃⟩ := h₂ j pc₂ g₂
  exact ⟨pc₃, g₃, Nat.le_trans le₃ le₂⟩

theorem WLe.set {l : List WPc} {j : Nat} {old new : WPc} (hold : l[j]? = some old)
    (hle : new.rank ≤ old.rank) : WLe l (l.set j new) := by
  intro j' pc h
  by_cases e : j' = j
  · subst e
    rw [hold] at h
    cases h
    exact ⟨new, get_set_self hold, hle⟩
  · exact ⟨pc, (get_set_ne e).trans h, Nat.le_refl _⟩

/-- the call is past its critical section -/
def Passed (l : List WPc) (j : Nat) : Prop := l[j]? = some .waiting ∨ l[j]? = some .returned

theorem WLe.returned {l l' : List WPc} (h : WLe l l') {j : Nat} (hj : l[j]? = some .returned) :
    l'[j]? = some .returned := by
  obtain ⟨pc', h', le⟩ := h j _ hj
  cases pc'
  · exact absurd le (by decide)
  · exact absurd le (by decide)
  · exact h'

theorem WLe.passed {l l' : List WPc} (h : WLe l l') {j : Nat} (hj : Passed l j) : Passed l' j := by
  rcases hj with hj | hj
  · obtain ⟨pc', h', le⟩ := h j _ hj
    cases pc'
    · exact absurd le (by decide)
    · exact Or.inl h'
    · exact Or.inr h'
  · exact Or.inr (h.returned hj)

/-- `state` only moves up (active < closing < closed), the program counters of the Stop and
    GracefulStop calls only move forward -/
structure Le (s s' : St) : Prop where
  state : s.state.rank ≤ s'.state.rank
  stops : WLe s.stops s'.stops
  gstops : WLe s.gstops s'.gstops

theorem Le.refl (s : St) : Le s s := ⟨Nat.le_refl _, .refl _, .refl _⟩

theorem Le.trans {s₁ s₂ s₃ : St} (h₁ : Le s₁ s₂) (h₂ : Le s₂ s₃) : Le s₁ s₃ :=
  ⟨Nat.le_trans h₁.state h₂.state, h₁.stops.trans h₂.stops, h₁.gstops.trans h₂.gstops⟩

theorem rank_le_closed (st : SState) : st.rank ≤ SState.closed.rank := by
  cases st <;> decide

theorem shut_iff_rank (st : SState) : st ≠ .active ↔ 1 ≤ st.rank := by
  cases st <;> decide

theorem le_step {g f : Bool} {s s' : St} {a : Act} (hs : step g f s a = some s') : Le s s' := by
  induction step_spec hs with
  | stopSkip j h _ => exact ⟨Nat.le_refl _, .set h (by decide), .refl _⟩
  | stopClose j h _ => exact ⟨rank_le_closed _, .set h (by decide), .refl _⟩
  | stopWait j h _ => exact ⟨Nat.le_refl _, .set h (by decide), .refl _⟩
  | gsCS k h => exact ⟨(gsCS_state s.state).2.2, .refl _, .set h (by decide)⟩
  | gsWait k h _ => exact ⟨Nat.le_refl _, .refl _, .set h (by decide)⟩
  | _ => exact ⟨Nat.le_refl _, .refl _, .refl _⟩

theorem le_run {g f : Bool} {as : List Act} {s s' : St} (hr : run g f s as = some s') : Le s s' :=
  (isRun g f).rel Le.refl Le.trans le_step hr

theorem Le.shut {s s' : St} (h : Le s s') (hs : s.state ≠ .active) : s'.state ≠ .active :=
  (shut_iff_rank _).mpr (Nat.le_trans ((shut_iff_rank _).mp hs) h.state)

theorem closed_stable {g f : Bool} (as : List Act) {s s' : St} (hr : run g f s as = some s')
    (h : s.state = .closed) : s'.state = .closed := by
  have := (le_run hr).state
  rw [h] at this
  revert this
  cases s'.state <;> decide

theorem Inv.returned_drained {s : St} (I : Inv s)
    (h : (∃ j : Nat, s.stops[j]? = some WPc.returned) ∨ ∃ k : Nat, s.gstops[k]? = some WPc.returned)
    {as' : List Act} {s' : St} (hr' : run true false s as' = some s') {i : Nat} {x : Serve}
    (hi : s'.serves[i]? = some x) : x.pc ≠ .serving ∧ x.pc ≠ .ended := by
  have I' := inv_run I hr'
  have L := le_run hr'
  rcases h with ⟨j, hj⟩ | ⟨k, hk⟩
  · exact I'.not_running (I'.stop_ret j (L.stops.returned hj)) hi
  · exact I'.not_running (I'.gs_ret k (L.gstops.returned hk)) hi

/-- Some Stop call has `returned`: every Serve call is `start`, `opened`, `failedOpen`, `refused` or
    `returned`, and after any extension `as'` of the schedule no Serve call is `serving` or `ended`.
    Nobody is admitted after a `Stop` has returned. -/
theorem Inv.stop_returns_only_after_serves {s : St} (I : Inv s) {j : Nat} (hj : s.stops[j]? = some .returned) :
    (∀ (i : Nat) (x : Serve), s.serves[i]? = some x →
        x.pc = .start ∨ x.pc = .opened ∨ x.pc = .failedOpen ∨ x.pc = .refused ∨ x.pc = .returned) ∧
    (∀ (as' : List Act) (s' : St), run true false s as' = some s' →
        ∀ (i : Nat) (x : Serve), s'.serves[i]? = some x → x.pc ≠ .serving ∧ x.pc ≠ .ended) := by
  constructor
  · intro i x hi
    have h1 := I.not_running (I.stop_ret j hj) hi
    have h2 := I.no_checked i x hi
    rcases x with ⟨pc, p⟩
    cases pc <;> simp at h1 h2 ⊢
  · exact fun as' s' hr' i x hi => I.returned_drained (.inl ⟨j, hj⟩) hr' hi

/-- the same for GracefulStop: once one has returned, no Serve call is running, now or later -/
theorem gracefulStop_returns_only_after_serves (n a b : Nat) (as : List Act) {s : St}
    (hr : run true false (init n a b) as = some s) {k : Nat} (hk : s.gstops[k]? = some .returned) :
    ∀ (as' : List Act) (s' : St), run true false s as' = some s' →
      ∀ (i : Nat) (x : Serve), s'.serves[i]? = some x → x.pc ≠ .serving ∧ x.pc ≠ .ended :=
  fun _ _ hr' _ _ hi => (inv_reachable n a b as hr).returned_drained (.inr ⟨k, hk⟩) hr' hi

theorem shut_not_serving_step {f : Bool} {i : Nat} {s s' : St} {a : Act}
    (h : s.state ≠ .active ∧ ∀ x, s.serves[i]? = some x → x.pc ≠ .serving)
    (hs : step true f s a = some s') :
    s'.state ≠ .active ∧ ∀ x, s'.serves[i]? = some x → x.pc ≠ .serving := by
  obtain ⟨hst, hi⟩ := h
  refine ⟨(le_step hs).shut hst, ?_⟩
  induction step_spec hs with
  | admitOk i' p _ _ ha => exact absurd ha hst
  | check i' p hg _ => cases hg
  | add i' p hg _ => cases hg
  | peerHangup i' h => exact forall_get_set hi fun e => absurd rfl (hi _ (e ▸ h))
  | openTunnel i' ok p h => exact forall_get_set hi fun _ => by cases ok <;> nofun
  | admitRefused i' p _ h _ => exact forall_get_set hi fun _ => nofun
  | tunnelEnds i' p h _ => exact forall_get_set hi fun _ => nofun
  | wgDone i' p h => exact forall_get_set hi fun _ => nofun
  | _ => exact hi

/-- Once `state ≥ closing` — after any `stopCS` or `gsCS` that changed it — a Serve call
    that is not `serving` at that point never becomes `serving`.  (Holds from ANY state of the
    model with the locked `addInstance`, reachable or not, and for both Stop variants.) -/
theorem no_admission_after_shutdown {f : Bool} {s : St} (hshut : s.state ≠ .active)
    {i : Nat} (hi : ∀ x, s.serves[i]? = some x → x.pc ≠ .serving)
    (as' : List Act) {s' : St} (hr' : run true f s as' = some s') :
    ∀ y, s'.serves[i]? = some y → y.pc ≠ .serving :=
  ((isRun true f).preserves shut_not_serving_step ⟨hshut, hi⟩ hr').2

/-- … and every later `enroll` refuses: it returns (false, Unavailable) -/
theorem admit_refuses_after_shutdown {f : Bool} {s s' : St} {i : Nat} (hshut : s.state ≠ .active)
    (hs : step true f s (.enroll i) = some s') :
    ∃ p, s'.serves[i]? = some ⟨.refused, p⟩ ∧ s'.wg = s.wg ∧ s'.instances = s.instances := by
  cases step_spec hs with
  | admitOk i p _ _ ha => exact absurd ha hshut
  | admitRefused i p _ h _ => exact ⟨p, get_set_self h, rfl, rfl⟩

theorem Inv.closed_of_passed {s : St} (I : Inv s) {j : Nat} (hj : Passed s.stops j) :
    s.state = .closed := by
  rcases hj with hj | hj
  · exact I.stop_closed j _ hj nofun
  · exact I.stop_closed j _ hj nofun

/-- once `closed`, a `serving` tunnel ends on its own: it has been hung up -/
theorem Inv.tunnelEnds_enabled {s : St} (I : Inv s) (hc : s.state = .closed) {i : Nat} {p : Bool}
    (hi : s.serves[i]? = some ⟨.serving, p⟩) : (step true false s (.tunnelEnds i)).isSome :=
  isSome_of_Step (.tunnelEnds i p hi (Or.inr (I.closed_serving_hung hc hi)))

/-- Once a Stop call is past its critical section, every running Serve call can take its next
    step ON ITS OWN: a `serving` one has been hung up, so `tunnelEnds` is enabled (no
    `peerHangup` needed); an `ended` one can run its `wg.Done()`. -/
theorem Inv.stop_ends_every_tunnel {s : St} (I : Inv s) {j : Nat} (hj : Passed s.stops j)
    {i : Nat} {x : Serve} (hi : s.serves[i]? = some x) (hrun : x.pc.running = true) :
    (x.pc = .serving ∧ (step true false s (.tunnelEnds i)).isSome) ∨
    (x.pc = .ended ∧ (step true false s (.wgDone i)).isSome) := by
  obtain ⟨pc, p⟩ := x
  -- `hrun` leaves the two program counters that hold a unit of the wait group
  cases pc <;> cases hrun
  · exact Or.inl ⟨rfl, I.tunnelEnds_enabled (I.closed_of_passed hj) hi⟩
  · exact Or.inr ⟨rfl, isSome_of_Step (.wgDone i p hi)⟩

/-- Hence a Stop call past its critical section never waits for anything but these steps and its
    own `stopWait`: in a state in which none of them is enabled (in particular in a
    state where NOTHING is enabled: the end of a maximal schedule, which is finite by
    `schedule_bounded`), it has returned. -/
theorem stop_returned_at_quiescence (n a b : Nat) (as : List Act) {s : St}
    (hr : run true false (init n a b) as = some s) {j : Nat} (hj : Passed s.stops j)
    (hq : ∀ i, step true false s (.tunnelEnds i) = none ∧ step true false s (.wgDone i) = none)
    (hq' : step true false s (.stopWait j) = none) : s.stops[j]? = some .returned := by
  have I := inv_reachable n a b as hr
  rcases hj with hj | hj
  · -- nobody is running, since a running Serve call would have a step enabled; so `wg = 0`
    have hw : s.wg = 0 := I.wg_zero_iff.mpr fun i x hi => by
      cases hrun : x.pc.running with
      | false => rfl
      | true =>
        rcases I.stop_ends_every_tunnel (Or.inl hj) hi hrun with ⟨_, h⟩ | ⟨_, h⟩
        · rw [(hq i).1] at h; cases h
        · rw [(hq i).2] at h; cases h
    rw [step_of_Step (.stopWait j hj hw)] at hq'
    cases hq'
  · exact hj

theorem totalS_eq_sum (l : List Serve) : totalS l = (l.map Serve.rank).sum := by
  induction l with
  | nil => rfl
  | cons x r ih => rw [totalS, ih]; rfl

theorem totalW_eq_sum (l : List WPc) : totalW l = (l.map WPc.rank).sum := by
  induction l with
  | nil => rfl
  | cons x r ih => rw [totalW, ih]; rfl

theorem remaining_eq (s : St) : remaining s =
    (s.serves.map Serve.rank).sum + (s.stops.map WPc.rank).sum + (s.gstops.map WPc.rank).sum := by
  rw [remaining, totalS_eq_sum, totalW_eq_sum, totalW_eq_sum]

theorem remaining_step {g f : Bool} {s s' : St} {a : Act} (hs : step g f s a = some s') :
    remaining s' < remaining s := by
  rw [remaining_eq, remaining_eq]
  have S {i : Nat} {x x' : Serve} (h : s.serves[i]? = some x) (hlt : x'.rank < x.rank) :=
    Nat.add_lt_add_right (Nat.add_lt_add_right (sum_map_set_lt Serve.rank h hlt)
      (s.stops.map WPc.rank).sum) (s.gstops.map WPc.rank).sum
  have W1 {j : Nat} {x x' : WPc} (h : s.stops[j]? = some x) (hlt : x'.rank < x.rank) :=
    Nat.add_lt_add_right (Nat.add_lt_add_left (sum_map_set_lt WPc.rank h hlt)
      (s.serves.map Serve.rank).sum) (s.gstops.map WPc.rank).sum
  have W2 {k : Nat} {x x' : WPc} (h : s.gstops[k]? = some x) (hlt : x'.rank < x.rank) :=
    Nat.add_lt_add_left (sum_map_set_lt WPc.rank h hlt)
      ((s.serves.map Serve.rank).sum + (s.stops.map WPc.rank).sum)
  induction step_spec hs with
  | openTunnel i ok p h => exact S h (by cases ok <;> cases p <;> decide)
  | admitOk i p _ h _ => exact S h (by cases p <;> decide)
  | admitRefused i p _ h _ => exact S h (by cases p <;> decide)
  | check i p _ h => exact S h (by cases p <;> cases s.state <;> decide)
  | add i p _ h => exact S h (by cases p <;> decide)
  | peerHangup i h => exact S h (by decide)
  | tunnelEnds i p h _ => exact S h (by cases p <;> decide)
  | wgDone i p h => exact S h (by cases p <;> decide)
  | stopSkip j h _ => exact W1 h (by decide)
  | stopClose j h _ => exact W1 h (by decide)
  | stopWait j h _ => exact W1 h (by decide)
  | gsCS k h => exact W2 h (by decide)
  | gsWait k h _ => exact W2 h (by decide)

theorem remaining_init (n a b : Nat) : remaining (init n a b) = 6 * n + 2 * a + 2 * b := by
  simp only [remaining_eq, init, List.map_replicate, List.sum_replicate_nat]
  rw [Nat.mul_comm n, Nat.mul_comm a, Nat.mul_comm b]
  rfl

theorem remaining_run {g f : Bool} {as : List Act} {s s' : St} (hr : run g f s as = some s') :
    as.length + remaining s' ≤ remaining s :=
  (isRun g f).length_le (P := fun _ => True) (fun _ _ => trivial) (fun _ => remaining_step) trivial hr

/-- `remaining` — the number of actions the calls and the peers can still perform — decreases
    with every action, so a schedule has at most `6n + 2a + 2b` actions: a Serve call 5
    (`openTunnel`, `check`, `add`, `tunnelEnds`, `wgDone`; 4 in the correct model) plus its
    `peerHangup`, a Stop / GracefulStop call 2. -/
theorem schedule_bounded {g f : Bool} (n a b : Nat) (as : List Act) {s : St}
    (hr : run g f (init n a b) as = some s) : as.length + remaining s ≤ 6 * n + 2 * a + 2 * b :=
  remaining_init n a b ▸ remaining_run hr

theorem gs_returned_step {g f : Bool} {s s' : St} {a : Act} (hs : step g f s a = some s') {k : Nat}
    (h0 : s.gstops[k]? ≠ some .returned) (h1 : s'.gstops[k]? = some .returned) : a = .gsWait k := by
  induction step_spec hs with
  | gsCS k' h => exact absurd (get_of_get_set h1 nofun) h0
  | gsWait k' h _ =>
    rcases get_set h1 with ⟨e, _⟩ | ⟨_, h'⟩
    · rw [e]
    · exact absurd h' h0
  | _ => exact absurd h1 h0

/-- a `returned` GracefulStop went through its `gsWait`: the schedule splits there -/
theorem gs_returned_has_gsWait {g f : Bool} {k : Nat} {as : List Act} {s s' : St}
    (hr : run g f s as = some s') (h0 : s.gstops[k]? ≠ some .returned)
    (h1 : s'.gstops[k]? = some .returned) :
    ∃ as1 as2 s1 s2, as = as1 ++ .gsWait k :: as2 ∧ run g f s as1 = some s1 ∧
      step g f s1 (.gsWait k) = some s2 := by
  induction as generalizing s with
  | nil => cases hr; exact absurd h1 h0
  | cons a as ih =>
    obtain ⟨s1, hs, hr'⟩ := (isRun g f).cons_some hr
    by_cases hk : s1.gstops[k]? = some .returned
    · cases gs_returned_step hs h0 hk
      exact ⟨[], as, s, s1, rfl, rfl, hs⟩
    · obtain ⟨as1, as2, t1, t2, e, hr1, ht⟩ := ih hr' hk
      exact ⟨a :: as1, as2, t1, t2, by rw [e]; rfl, by rw [(isRun g f).cons, hs]; exact hr1, ht⟩

/-- A GracefulStop call is `returned` only if the schedule contains its `gsWait`, and in
    the state in which that `gsWait` was taken `wg = 0` held (no Serve call `serving` / `ended`,
    server shut down); it still holds now.  While the call is `waiting`, its `gsWait` is enabled
    IFF `wg = 0` IFF no Serve call is `serving` / `ended`. -/
theorem gracefulStop_returns_iff_drained (n a b : Nat) (as : List Act) {s : St}
    (hr : run true false (init n a b) as = some s) {k : Nat} :
    (s.gstops[k]? = some .returned →
      (∃ as1 as2 s1, as = as1 ++ .gsWait k :: as2 ∧ run true false (init n a b) as1 = some s1 ∧
        s1.wg = 0 ∧ s1.state ≠ .active ∧
        ∀ (i : Nat) (x : Serve), s1.serves[i]? = some x → x.pc.running = false) ∧
      s.wg = 0 ∧ s.state ≠ .active ∧
      ∀ (i : Nat) (x : Serve), s.serves[i]? = some x → x.pc.running = false) ∧
    (s.gstops[k]? = some .waiting →
      ((step true false s (.gsWait k)).isSome ↔ s.wg = 0) ∧
      (s.wg = 0 ↔ ∀ (i : Nat) (x : Serve), s.serves[i]? = some x → x.pc.running = false)) := by
  have I := inv_reachable n a b as hr
  constructor
  · intro hk
    have h0 : (init n a b).gstops[k]? ≠ some .returned := fun h => by cases eq_of_get_replicate h
    obtain ⟨as1, as2, s1, s2, e, hr1, hs⟩ := gs_returned_has_gsWait hr h0 hk
    have I1 := inv_reachable n a b as1 hr1
    have hw := I.gs_ret k hk
    cases step_spec hs with
    | gsWait _ h1 hw1 =>
      exact ⟨⟨as1, as2, s1, e, hr1, hw1, I1.gs_shut k _ h1 nofun, I1.wg_zero_iff.mp hw1⟩,
        hw, I.gs_shut k _ hk nofun, I.wg_zero_iff.mp hw⟩
  · exact fun hk => ⟨gsWait_enabled_iff hk, I.wg_zero_iff⟩

/-- the blocked configuration of D9 is left only by `peerHangup i` or a `stopCS` -/
theorem gracefulStop_blocked_step {s s' : St} {act : Act} (I : Inv s)
    (hs : step true false s act = some s') {k i : Nat}
    (h : s.state = .closing ∧ s.gstops[k]? = some .waiting ∧ s.serves[i]? = some ⟨.serving, false⟩)
    (ha : act ≠ .peerHangup i) (ha' : ∀ j, act ≠ .stopCS j) :
    s'.state = .closing ∧ s'.gstops[k]? = some .waiting ∧ s'.serves[i]? = some ⟨.serving, false⟩ := by
  obtain ⟨hst, hk, hi⟩ := h
  induction step_spec hs with
  | openTunnel i' ok p h => exact ⟨hst, hk, get_set_other hi h nofun⟩
  | admitOk i' p _ _ hact => rw [hst] at hact; cases hact
  | admitRefused i' p _ h _ => exact ⟨hst, hk, get_set_other hi h nofun⟩
  | check i' p hg _ => cases hg
  | add i' p hg _ => cases hg
  | peerHangup i' h =>
    have : i ≠ i' := fun e => ha (by rw [e])
    exact ⟨hst, hk, (get_set_ne this).trans hi⟩
  | tunnelEnds i' p h hu =>
    -- not tunnel `i`: its peer is silent, and nothing is hung up before `closed`
    rcases hu with rfl | hu
    · exact ⟨hst, hk, get_set_other hi h nofun⟩
    · have := I.hung_closed _ hu
      rw [hst] at this; cases this
  | wgDone i' p h => exact ⟨hst, hk, get_set_other hi h nofun⟩
  | stopSkip j _ _ => exact absurd rfl (ha' j)
  | stopClose j _ _ => exact absurd rfl (ha' j)
  | stopWait j _ _ => exact ⟨hst, hk, hi⟩
  | gsCS k' h => exact ⟨by rw [hst]; rfl, get_set_other hk h nofun, hi⟩
  | gsWait k' h hw => exact absurd hw (I.wg_ne_zero hi rfl)

/-- **Finding D9, general form.** In a state of the correct model satisfying the invariant in which the
    server is `closing` (a GracefulStop, no Stop), GracefulStop `k` is `waiting` and Serve `i` is
    `serving` a tunnel whose peer is silent: as long as the schedule contains neither
    `peerHangup i` nor a `stopCS`, NOTHING ends that tunnel and GracefulStop `k` stays `waiting`
    — whatever else happens, for ever.  GracefulStop does not close idle tunnels; it waits until
    the PEER does. -/
theorem Inv.gracefulStop_blocked_until_peer_or_stop {s : St} (I : Inv s) {k i : Nat}
    (hst : s.state = .closing) (hk : s.gstops[k]? = some .waiting)
    (hi : s.serves[i]? = some ⟨.serving, false⟩) :
    ∀ (as' : List Act) (s' : St), run true false s as' = some s' →
      (∀ act ∈ as', act ≠ .peerHangup i ∧ ∀ j, act ≠ .stopCS j) →
      s'.state = .closing ∧ s'.gstops[k]? = some .waiting ∧ s'.serves[i]? = some ⟨.serving, false⟩ ∧
      step true false s' (.gsWait k) = none ∧ step true false s' (.tunnelEnds i) = none := by
  intro as' s' hr' hall
  obtain ⟨I', hst', hk', hi'⟩ := (isRun true false).preserves_of_forall
    (P := fun s => Inv s ∧ s.state = .closing ∧ s.gstops[k]? = some .waiting ∧
      s.serves[i]? = some ⟨.serving, false⟩)
    (fun hA h hs => ⟨inv_step h.1 hs, gracefulStop_blocked_step h.1 hs h.2 hA.1 hA.2⟩)
    hall ⟨I, hst, hk, hi⟩ hr'
  refine ⟨hst', hk', hi', ?_, ?_⟩
  · -- `gsWait` needs `wg = 0`
    refine step_eq_none fun s'' hS => ?_
    cases hS with
    | gsWait _ _ hw => exact I'.wg_ne_zero hi' rfl hw
  · -- `tunnelEnds` needs a hang-up, from the peer or by a Stop (and then the state is `closed`)
    refine step_eq_none fun s'' hS => ?_
    cases hS with
    | tunnelEnds _ p h hu =>
      rw [hi'] at h
      cases h
      rcases hu with hu | hu
      · cases hu
      · have := I'.hung_closed _ hu
        rw [hst'] at this; cases this

/-- Any schedule in which `gsCS k` is followed, some time later, by `stopCS j` (the `stopCS` is
    NOT a no-op after a GracefulStop): both calls are past their critical sections, so the state is
    `closed`, every instance hung up — every tunnel still `serving` ends on its own —, each of the
    two is `returned` only when `wg = 0`, and once `wg = 0` each of them can return.  Only the two
    `Passed` facts depend on the order. -/
theorem stop_after_gracefulStop (n a b : Nat) (as1 as2 as3 : List Act) (j k : Nat) {s : St}
    (hr : run true false (init n a b) (as1 ++ .gsCS k :: (as2 ++ .stopCS j :: as3)) = some s) :
    Passed s.stops j ∧ Passed s.gstops k ∧
    s.state = .closed ∧ (∀ i ∈ s.instances, i ∈ s.hungUp) ∧
    (∀ (i : Nat) (p : Bool), s.serves[i]? = some ⟨.serving, p⟩ →
      (step true false s (.tunnelEnds i)).isSome) ∧
    (s.stops[j]? = some .returned → s.wg = 0) ∧ (s.gstops[k]? = some .returned → s.wg = 0) ∧
    (s.wg = 0 → (s.stops[j]? = some .waiting → (step true false s (.stopWait j)).isSome) ∧
                (s.gstops[k]? = some .waiting → (step true false s (.gsWait k)).isSome)) := by
  have R := isRun true false
  obtain ⟨s1, _, hr1⟩ := R.append_some hr
  obtain ⟨s2, hs2, hr2⟩ := R.cons_some hr1
  obtain ⟨s3, hr3, hr4⟩ := R.append_some hr2
  obtain ⟨s4, hs4, hr5⟩ := R.cons_some hr4
  have hk2 : Passed s2.gstops k := by
    cases step_spec hs2 with
    | gsCS k h => exact Or.inl (get_set_self h)
  have hj4 : Passed s4.stops j := by
    cases step_spec hs4 with
    | stopSkip j h _ => exact Or.inl (get_set_self h)
    | stopClose j h _ => exact Or.inl (get_set_self h)
  have hj : Passed s.stops j := (le_run hr5).stops.passed hj4
  have I := inv_reachable n a b _ hr
  have hc := I.closed_of_passed hj
  exact ⟨hj, (le_run hr2).gstops.passed hk2, hc, I.closed_hung hc, fun _ _ hi => I.tunnelEnds_enabled hc hi,
    I.stop_ret j, I.gs_ret k,
    fun hw => ⟨fun h => isSome_of_Step (.stopWait j h hw), fun h => isSome_of_Step (.gsWait k h hw)⟩⟩

theorem mem_allActs_S {n a b i : Nat} {act : Act} (hi : i < n)
    (h : act ∈ [Act.openTunnel i true, .openTunnel i false, .enroll i, .check i, .add i,
                .peerHangup i, .tunnelEnds i, .wgDone i]) : act ∈ allActs n a b := by
  simp only [allActs, List.mem_append, List.mem_flatMap, List.mem_range]
  exact Or.inl (Or.inl ⟨i, hi, h⟩)

theorem mem_allActs_T {n a b j : Nat} {act : Act} (hj : j < a)
    (h : act ∈ [Act.stopCS j, .stopWait j]) : act ∈ allActs n a b := by
  simp only [allActs, List.mem_append, List.mem_flatMap, List.mem_range]
  exact Or.inl (Or.inr ⟨j, hj, h⟩)

theorem mem_allActs_G {n a b k : Nat} {act : Act} (hk : k < b)
    (h : act ∈ [Act.gsCS k, .gsWait k]) : act ∈ allActs n a b := by
  simp only [allActs, List.mem_append, List.mem_flatMap, List.mem_range]
  exact Or.inr ⟨k, hk, h⟩

theorem mem_allActs_of_step {g f : Bool} {s s' : St} {act : Act} (hs : step g f s act = some s') :
    act ∈ allActs s.serves.length s.stops.length s.gstops.length := by
  induction step_spec hs with
  | openTunnel i ok p h => exact mem_allActs_S (lt_of_get h) (by cases ok <;> simp)
  | admitOk i p _ h _ => exact mem_allActs_S (lt_of_get h) (by simp)
  | admitRefused i p _ h _ => exact mem_allActs_S (lt_of_get h) (by simp)
  | check i p _ h => exact mem_allActs_S (lt_of_get h) (by simp)
  | add i p _ h => exact mem_allActs_S (lt_of_get h) (by simp)
  | peerHangup i h => exact mem_allActs_S (lt_of_get h) (by simp)
  | tunnelEnds i p h _ => exact mem_allActs_S (lt_of_get h) (by simp)
  | wgDone i p h => exact mem_allActs_S (lt_of_get h) (by simp)
  | stopSkip j h _ => exact mem_allActs_T (lt_of_get h) (by simp)
  | stopClose j h _ => exact mem_allActs_T (lt_of_get h) (by simp)
  | stopWait j h _ => exact mem_allActs_T (lt_of_get h) (by simp)
  | gsCS k h => exact mem_allActs_G (lt_of_get h) (by simp)
  | gsWait k h _ => exact mem_allActs_G (lt_of_get h) (by simp)

/-- `enabled g f s` lists ALL the enabled actions of `s` -/
theorem mem_enabled {g f : Bool} {s : St} {act : Act} :
    act ∈ enabled g f s ↔ (step g f s act).isSome := by
  simp only [enabled, List.mem_filter]
  constructor
  · exact fun h => h.2
  · intro h
    obtain ⟨s', hs⟩ := Option.isSome_iff_exists.mp h
    exact ⟨mem_allActs_of_step hs, h⟩

/-- what the examples look at -/
structure Obs where
  state : SState
  wg : Nat
  hungUp : List Nat
  serves : List Serve
  stops : List WPc
  gstops : List WPc
  enabled : List Act          -- ALL the enabled actions (`mem_enabled`)
  deriving DecidableEq, Repr

def obs (g f : Bool) (s : St) : Obs :=
  ⟨s.state, s.wg, s.hungUp, s.serves, s.stops, s.gstops, enabled g f s⟩

/-- **Finding D9 on a concrete schedule.** One Serve call, one GracefulStop, one Stop.  The tunnel is
    idle (`serving`, nothing in flight, peer silent), GracefulStop is past its critical section and
    `waiting`: the ONLY enabled actions are the peer's hang-up and the critical section of the
    Stop call.  GracefulStop waits until the PEER hangs up idle tunnels. -/
theorem gracefulStop_waits_for_peer :
    (run true false (init 1 1 1) [.openTunnel 0 true, .enroll 0, .gsCS 0]).map (obs true false) =
      some { state := .closing, wg := 1, hungUp := [], serves := [⟨.serving, false⟩],
             stops := [.start], gstops := [.waiting], enabled := [.peerHangup 0, .stopCS 0] } := by
  decide +kernel

/-- … and without a Stop call only the peer can end it -/
theorem gracefulStop_waits_for_peer_alone :
    (run true false (init 1 0 1) [.openTunnel 0 true, .enroll 0, .gsCS 0]).map (obs true false) =
      some { state := .closing, wg := 1, hungUp := [], serves := [⟨.serving, false⟩],
             stops := [], gstops := [.waiting], enabled := [.peerHangup 0] } := by
  decide +kernel

/-- the peer hangs up: the tunnel ends, GracefulStop returns -/
example :
    (run true false (init 1 0 1) [.openTunnel 0 true, .enroll 0, .gsCS 0, .peerHangup 0, .tunnelEnds 0,
                                  .wgDone 0, .gsWait 0]).map (obs true false) =
      some { state := .closing, wg := 0, hungUp := [], serves := [⟨.returned, true⟩],
             stops := [], gstops := [.returned], enabled := [] } := by
  decide +kernel

/-- **The state check and the registration must be ONE critical section.**  With the faulty
    `addInstance` that reads `state` before taking the lock: Serve 0 sees `active`; Stop runs its
    critical section (no instance yet: nothing to hang up) and returns (`wg = 0`); Serve 0 then
    registers.  Stop has `returned`, Serve 0 is `serving`, not hung up — and it stays so: the only
    enabled action is the peer's hang-up.  `Inv.stop_returns_only_after_serves` and
    `Inv.closed_hung` fail. -/
theorem faulty_unlocked_check_admits_after_stop :
    (run false false (init 1 1 0) [.openTunnel 0 true, .check 0, .stopCS 0, .stopWait 0, .add 0]).map
        (obs false false) =
      some { state := .closed, wg := 1, hungUp := [], serves := [⟨.serving, false⟩],
             stops := [.returned], gstops := [], enabled := [.peerHangup 0] } := by
  decide +kernel

/-- the correct model refuses `check` / `add` … -/
theorem guarded_refuses_check :
    run true false (init 1 1 0) [.openTunnel 0 true, .check 0] = none ∧
    ∀ s, step true false s (.add 0) = none := by
  refine ⟨by decide +kernel, fun s => by simp [step]⟩

/-- … and on the same schedule with the one-critical-section `enroll` in the place of `add`,
    Serve 0 is `refused` … -/
theorem guarded_same_schedule_refused :
    (run true false (init 1 1 0) [.openTunnel 0 true, .stopCS 0, .stopWait 0, .enroll 0]).map
        (obs true false) =
      some { state := .closed, wg := 0, hungUp := [], serves := [⟨.refused, false⟩],
             stops := [.returned], gstops := [], enabled := [] } := by
  decide +kernel

/-- … or, with `enroll` in the place of `check`, Stop hangs the tunnel up and waits for it -/
theorem guarded_same_schedule_hung_up :
    (run true false (init 1 1 0) [.openTunnel 0 true, .enroll 0, .stopCS 0]).map (obs true false) =
      some { state := .closed, wg := 1, hungUp := [0], serves := [⟨.serving, false⟩],
             stops := [.waiting], gstops := [], enabled := [.peerHangup 0, .tunnelEnds 0] } ∧
    run true false (init 1 1 0) [.openTunnel 0 true, .enroll 0, .stopCS 0, .stopWait 0] = none := by
  decide +kernel

/-- **The guard of `Stop` must be `state == closed`, not `state != active`.**  With the
    guard copied from `GracefulStop`: after a GracefulStop, Stop's critical section does nothing
    — no `CloseSend` — and Stop is `waiting` for ever: the only enabled action is the peer's
    hang-up.  `Inv.stop_ends_every_tunnel` and `stop_after_gracefulStop` fail. -/
theorem faulty_stop_guard_hangs :
    (run true true (init 1 1 1) [.openTunnel 0 true, .enroll 0, .gsCS 0, .stopCS 0]).map (obs true true) =
      some { state := .closing, wg := 1, hungUp := [], serves := [⟨.serving, false⟩],
             stops := [.waiting], gstops := [.waiting], enabled := [.peerHangup 0] } := by
  decide +kernel

/-- the correct model on the same schedule: `stopCS` after `gsCS` closes and hangs the instance
    up; the tunnel ends on its own, then Stop and GracefulStop return -/
theorem correct_stop_guard_same_schedule :
    (run true false (init 1 1 1) [.openTunnel 0 true, .enroll 0, .gsCS 0, .stopCS 0]).map (obs true false) =
      some { state := .closed, wg := 1, hungUp := [0], serves := [⟨.serving, false⟩],
             stops := [.waiting], gstops := [.waiting], enabled := [.peerHangup 0, .tunnelEnds 0] } ∧
    (run true false (init 1 1 1) [.openTunnel 0 true, .enroll 0, .gsCS 0, .stopCS 0, .tunnelEnds 0,
                                  .wgDone 0, .stopWait 0, .gsWait 0]).map (obs true false) =
      some { state := .closed, wg := 0, hungUp := [0], serves := [⟨.returned, false⟩],
             stops := [.returned], gstops := [.returned], enabled := [] } := by
  decide +kernel

/-- Non-vacuity: three Serve calls — 0 fails to open, 1 is served and ended by Stop,
    2 comes after the GracefulStop and is refused —, one GracefulStop, one Stop; 11 actions, at
    the end every call has returned and nothing is enabled. -/
def fullRun : List Act :=
  [.openTunnel 0 false, .openTunnel 1 true, .enroll 1, .gsCS 0, .openTunnel 2 true, .enroll 2,
   .stopCS 0, .tunnelEnds 1, .wgDone 1, .stopWait 0, .gsWait 0]

example :
    (run true false (init 3 1 1) fullRun).map (obs true false) =
      some { state := .closed, wg := 0, hungUp := [1],
             serves := [⟨.failedOpen, false⟩, ⟨.returned, false⟩, ⟨.refused, false⟩],
             stops := [.returned], gstops := [.returned], enabled := [] } := by
  decide +kernel

example : (run true false (init 3 1 1) fullRun).map allReturned = some true := by decide +kernel

/-- the hypotheses of `Inv.stop_returns_only_after_serves` and `Inv.stop_ends_every_tunnel` are
    satisfiable: a state with Stop `returned`; a state with Stop `waiting` and a running Serve
    call, in which `tunnelEnds 1` is enabled -/
example : (run true false (init 3 1 1) fullRun).bind (·.stops[0]?) = some .returned := by decide +kernel

example :
    (run true false (init 3 1 1) (fullRun.take 7)).map (obs true false) =
      some { state := .closed, wg := 1, hungUp := [1],
             serves := [⟨.failedOpen, false⟩, ⟨.serving, false⟩, ⟨.refused, false⟩],
             stops := [.waiting], gstops := [.waiting], enabled := [.peerHangup 1, .tunnelEnds 1] } := by
  decide +kernel

/-- nothing happens twice, nobody jumps the queue -/
example : run true false (init 1 1 1) [.enroll 0] = none := by decide +kernel
example : run true false (init 1 1 1) [.openTunnel 0 true, .enroll 0, .tunnelEnds 0] = none := by decide +kernel
example : run true false (init 1 1 1) [.openTunnel 0 true, .enroll 0, .peerHangup 0, .peerHangup 0] = none := by decide +kernel
example : run true false (init 1 1 1) [.openTunnel 0 true, .enroll 0, .stopCS 0, .stopWait 0] = none := by decide +kernel
example : run true false (init 1 1 1) [.stopWait 0] = none := by decide +kernel
example : run true false (init 1 1 1) [.stopCS 0, .stopCS 0] = none := by decide +kernel

end Proofs.LifeAtomic
