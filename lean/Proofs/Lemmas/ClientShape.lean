import Proofs.Lemmas.ClientOps
/-!
  C16 (caller side) and the C07/C02 single-outcome facts for the client half of a stream
  (`CStream`); the server's counterpart is `ServerShape`.

  C16 is stated for an arbitrary initial stream state with `ss = false` (a non-streaming response;
  no freshness or well-formedness assumption) and arbitrary lists of stream-level operations `COp`:
  any frame from any peer, any application call, any context end.

  C07/C02 rest on the invariant `WF`, which every operation keeps.  A statement that needs less than
  `WF` has the weaker hypothesis, and the end of the file has the counterexample without it.

  The operations are chains of elementary steps (`Proofs.ClientOps`).  Every step except "start a
  read" is a `Block`, and `Block.seq` composes them (unlike the server, `finishStream` here wakes the
  pending read and can deliver the held-back message).
-/
namespace Proofs.ClientShape
open TunnelModel.LFrame TunnelModel.Framing

variable {α : Type}

def isMsg : Res α → Bool
  | .msg _ => true
  | _ => false

def delivered (o : COut α) : Nat := (o.dones.filter (fun d => isMsg d.2.2)).length

theorem delivered_add (a b : COut α) : delivered (a.add b) = delivered a + delivered b := by
  simp [delivered, COut.add, List.filter_append]

theorem delivered_of_dones_nil (o : COut α) (h : o.dones = []) : delivered o = 0 := by
  simp [delivered, h]

@[simp] theorem delivered_empty : delivered ({} : COut α) = 0 := rfl

@[simp] theorem delivered_mk_nil (fr : List (Sid × C2S α)) (ev : List String) :
    delivered ({ frames := fr, dones := [], events := ev } : COut α) = 0 := rfl

theorem delivered_single (fr : List (Sid × C2S α)) (ev : List String) (sid : Sid) (n : String) (r : Res α) :
    delivered ({ frames := fr, dones := [(sid, n, r)], events := ev } : COut α) = if isMsg r then 1 else 0 := by
  cases h : isMsg r <;> simp [delivered, h]

@[simp] theorem isMsg_toRes (e : SErr) : isMsg (e.toRes : Res α) = false := by
  cases e <;> rfl

@[simp] theorem isMsg_ctx (e : CtxErr) : isMsg (Res.ctx e : Res α) = false := rfl
@[simp] theorem isMsg_ok : isMsg (Res.ok : Res α) = false := rfl
@[simp] theorem isMsg_md (m : MD) : isMsg (Res.md m : Res α) = false := rfl
@[simp] theorem isMsg_status (c : Nat) : isMsg (Res.status c : Res α) = false := rfl
@[simp] theorem isMsg_other (t : String) : isMsg (Res.other t : Res α) = false := rfl
@[simp] theorem isMsg_msg (m : List α) : isMsg (Res.msg m : Res α) = true := rfl

open Proofs.ClientOps (ctxEnds_eq ctxEnds_done finish_done finPre finish_eq finish_won cancelStream_done
  cancelStream_eq afterRead_eq ctxCancelled_done ctxCancelled_eq dataFrame onFrame_msg onFrame_more onFrame_close
  onFrame_settings onFrame_unset resumeRead_none resumeRead_shape resumeRead_done)

/-- the response message has been handed over, or the read side has failed -/
def Done (s : CStream α) : Prop := s.readErr.isSome = true ∧ s.pread = none

/-- the contract of a step that may wake a pending read but never starts one -/
structure Block (s : CStream α) (r : CStream α × COut α) : Prop where
  ss : r.1.ss = s.ss
  le_one : s.ss = false → delivered r.2 ≤ 1
  then_done : s.ss = false → delivered r.2 = 1 → Done r.1
  noread : s.pread = none → delivered r.2 = 0 ∧ r.1.pread = none ∧ r.1.readErr = s.readErr

theorem Block.of_quiet {s : CStream α} {r : CStream α × COut α} (hss : r.1.ss = s.ss)
    (hk : s.pread = none → r.1.pread = none ∧ r.1.readErr = s.readErr) (ho : delivered r.2 = 0) :
    Block s r :=
  ⟨hss, fun _ => by omega, fun _ h1 => by omega, fun hp => ⟨ho, hk hp⟩⟩

theorem Block.of_fields {s : CStream α} {r : CStream α × COut α} (hss : r.1.ss = s.ss)
    (hp : r.1.pread = s.pread) (he : r.1.readErr = s.readErr) (ho : delivered r.2 = 0) : Block s r :=
  Block.of_quiet hss (fun h => ⟨hp.trans h, he⟩) ho

theorem Block.id (s : CStream α) : Block s (s, {}) := Block.of_fields rfl rfl rfl rfl

theorem Block.pre {s s0 : CStream α} {r : CStream α × COut α} (h : Block s0 r)
    (hss : s0.ss = s.ss) (hp : s0.pread = s.pread) (he : s0.readErr = s.readErr) : Block s r :=
  ⟨h.ss.trans hss, fun hc => h.le_one (hss.trans hc), fun hc h1 => h.then_done (hss.trans hc) h1,
   fun hn => by
    have := h.noread (hp.trans hn)
    exact ⟨this.1, this.2.1, this.2.2.trans he⟩⟩

theorem seq_core {s a b : CStream α} {o1 o2 : COut α} (hss : a.ss = s.ss)
    (le1 : s.ss = false → delivered o1 ≤ 1) (td1 : s.ss = false → delivered o1 = 1 → Done a)
    (le2 : a.ss = false → delivered o2 ≤ 1) (td2 : a.ss = false → delivered o2 = 1 → Done b)
    (stay : Done a → delivered o2 = 0 ∧ Done b) :
    (s.ss = false → delivered (o1.add o2) ≤ 1) ∧ (s.ss = false → delivered (o1.add o2) = 1 → Done b) := by
  refine ⟨fun hc => ?_, fun hc hd => ?_⟩
  · have ha := le1 hc
    have hb := le2 (hss.trans hc)
    rw [delivered_add]
    by_cases h : delivered o1 = 1
    · have := (stay (td1 hc h)).1
      omega
    · omega
  · have ha := le1 hc
    rw [delivered_add] at hd
    by_cases h : delivered o1 = 1
    · exact (stay (td1 hc h)).2
    · exact td2 (hss.trans hc) (by omega)

theorem Block.stay {s : CStream α} {r : CStream α × COut α} (h : Block s r) (hd : Done s) :
    delivered r.2 = 0 ∧ Done r.1 :=
  have := h.noread hd.2
  ⟨this.1, by rw [this.2.2]; exact hd.1, this.2.1⟩

theorem Block.seq {s a b : CStream α} {o1 o2 : COut α} (h1 : Block s (a, o1)) (h2 : Block a (b, o2)) :
    Block s (b, o1.add o2) := by
  have hc := seq_core h1.ss h1.le_one h1.then_done h2.le_one h2.then_done h2.stay
  refine ⟨h2.ss.trans h1.ss, hc.1, hc.2, fun hn => ?_⟩
  have ha := h1.noread hn
  have hb := h2.noread ha.2.1
  refine ⟨?_, hb.2.1, hb.2.2.trans ha.2.2⟩
  show delivered (o1.add o2) = 0
  rw [delivered_add, show delivered o1 = 0 from ha.1, show delivered o2 = 0 from hb.1]

theorem delivered_eq_zero_iff (o : COut α) : delivered o = 0 ↔ ∀ d ∈ o.dones, isMsg d.2.2 = false := by
  simp [delivered, List.filter_eq_nil_iff]

/-- a read pass: a pending read rules out `noread` -/
theorem Block.of_reading {s : CStream α} {r : CStream α × COut α} {p : PRead α} (hp : s.pread = some p)
    (hss : r.1.ss = s.ss) (le : s.ss = false → delivered r.2 ≤ 1) (td : s.ss = false → delivered r.2 = 1 → Done r.1) :
    Block s r :=
  ⟨hss, le, td, fun hn => by rw [hp] at hn; cases hn⟩

theorem delivered_recv (fr : List (Sid × C2S α)) (sid : Sid) (e : SErr) :
    delivered ({ frames := fr, dones := [(sid, "recv", e.toRes)] } : COut α) = 0 := by
  rw [delivered_single, isMsg_toRes]; rfl

theorem readPass_block {sid : Sid} {s s' : CStream α} {o : COut α} (h : ClientOps.ReadPass sid s s' o) :
    Block s (s', o) := by
  have quiet {p : PRead α} {s' : CStream α} {o : COut α} (hp : s.pread = some p) (hss : s'.ss = s.ss)
      (ho : delivered o = 0) : Block s (s', o) :=
    .of_reading hp hss (fun _ => by rw [ho]; exact Nat.zero_le 1) (fun _ h1 => by rw [ho] at h1; cases h1)
  cases h with
  | blocked hp => exact quiet hp rfl rfl
  | endedMsg hp => exact .of_reading hp rfl (fun _ => Nat.le_refl 1) (fun _ _ => ⟨rfl, rfl⟩)
  | ended hp => exact quiet hp rfl (delivered_recv ..)
  | second hp => exact quiet hp rfl (delivered_recv ..)
  | msg hp _ _ hss => exact .of_reading hp rfl (fun h => by rw [hss] at h; cases h) (fun h => by rw [hss] at h; cases h)
  | look hp => exact quiet hp rfl rfl
  | perr hp => exact quiet hp rfl (delivered_recv ..)

theorem ctxEnds_quiet (sid : Sid) (s : CStream α) (e : CtxErr) (b : Bool) :
    delivered ({ dones := (match s.psend with | some _ => [(sid, "send", Res.ctx e)] | none => []) ++
                  (if s.pheader then
                     [(sid, "header", if s.gotHeaders then Res.md s.headers
                                      else if b then .other "RACE:ctx-or-nil-headers" else .ctx e)]
                   else []) } : COut α) = 0 := by
  refine (delivered_eq_zero_iff _).mpr (fun d hd => ?_)
  rcases List.mem_append.mp hd with hd | hd
  · split at hd
    · rw [List.mem_singleton.mp hd]; rfl
    · cases hd
  · split at hd
    · rw [List.mem_singleton.mp hd]
      dsimp only
      split
      · rfl
      · split <;> rfl
    · cases hd

theorem header_quiet (sid : Sid) (c : Bool) (md : MD) :
    delivered ({ dones := if c then [(sid, "header", Res.md md)] else [] } : COut α) = 0 := by
  cases c <;> rfl

theorem tatom_block {sid : Sid} {s s' : CStream α} {o : COut α} (h : ClientOps.TAtom sid s s' o) :
    Block s (s', o) := by
  cases h with
  | ctxEnds e _ => exact Block.of_fields rfl rfl rfl (ctxEnds_quiet ..)
  | finPre err tr _ => exact Block.of_fields rfl rfl rfl (header_quiet ..)
  | cancelTail => exact Block.of_fields rfl rfl rfl rfl
  | read r => exact readPass_block r

theorem tchain_block {sid : Sid} {s s' : CStream α} {o : COut α}
    (h : ClientOps.Chain (ClientOps.TAtom sid) s s' o) : Block s (s', o) :=
  h.fold (R := fun s s' o => Block s (s', o)) Block.id Block.seq tatom_block

theorem resumeRead_block (sid : Sid) (fuel : Nat) (s : CStream α) :
    Block s ((s.resumeRead sid fuel).1, (s.resumeRead sid fuel).2.1) :=
  tchain_block ((ClientOps.resumeRead_chain sid fuel s).mono .read)

theorem ctxEnds_block (sid : Sid) (s : CStream α) (e : CtxErr) (b : Bool) : Block s (s.ctxEnds sid e b) := by
  cases h : s.ctxDone with
  | some c => rw [ctxEnds_done sid s e b (ClientOps.isSome_of_eq_some h)]; exact Block.id s
  | none => rw [ctxEnds_eq sid s e b h]; exact Block.of_fields rfl rfl rfl (ctxEnds_quiet ..)

theorem finish_block (sid : Sid) (s : CStream α) (err : Option SErr) (tr : MD) :
    Block s ((s.finish sid err tr).1, (s.finish sid err tr).2.1) :=
  tchain_block (ClientOps.finish_chain sid s err tr)

theorem cancelStream_block (sid : Sid) (s : CStream α) (err : SErr) : Block s (s.cancelStream sid err) :=
  tchain_block (ClientOps.cancelStream_chain sid s err)

theorem afterRead_block (sid : Sid) (fuel : Nat) (s : CStream α) :
    Block s (CStream.afterRead sid (s.resumeRead sid fuel)) :=
  tchain_block (ClientOps.afterRead_chain id _ ((ClientOps.resumeRead_chain sid fuel s).mono .read))

theorem ctxCancelled_block (sid : Sid) (s : CStream α) (e : CtxErr) : Block s (s.ctxCancelled sid e) :=
  tchain_block (ClientOps.ctxCancelled_chain sid s e)

theorem sent_block {sid : Sid} {s s' : CStream α} {o : COut α} (h : ClientOps.Sent sid s s' o) :
    Block s (s', o) := by
  cases h <;> exact Block.of_fields rfl rfl rfl rfl

theorem pumpSend_block (cfg : CCfg) (sid : Sid) (s : CStream α) (snd : Snd α) :
    Block s (s.pumpSend cfg sid snd) :=
  sent_block (ClientOps.pumpSend_sent cfg sid s snd)

theorem upd_block {sid : Sid} {s s' : CStream α} {o : COut α} (h : ClientOps.Upd sid s s' o) :
    Block s (s', o) := by
  cases h with
  | headers md _ => exact Block.of_fields rfl rfl rfl (header_quiet ..)
  | _ => exact Block.of_fields rfl rfl rfl rfl

theorem dataFrame_block (sid : Sid) (s : CStream α) (df : DFrame α) : Block s (dataFrame sid s df) := by
  unfold ClientOps.dataFrame
  by_cases hfc : s.fc = true
  · rw [if_pos hfc]
    rcases s.rcv.accept df with ⟨r, a⟩
    cases a with
    | dropped => exact Block.id s
    | windowExceeded => exact finish_block sid s _ _
    | ok => exact (afterRead_block sid 3 _).pre rfl rfl rfl
  · rw [if_neg hfc]
    split
    · exact Block.id s
    · split
      · exact Block.of_fields rfl rfl rfl rfl
      · exact (afterRead_block sid 3 _).pre rfl rfl rfl

theorem onFrame_block (cfg : CCfg) (sid : Sid) (s : CStream α) (f : S2C α) :
    Block s (s.onFrame cfg sid f) := by
  cases f with
  | settings w rv => exact finish_block sid s _ _
  | headers md =>
    cases hg : s.gotHeaders with
    | true => rw [ClientOps.onFrame_headers_eq, hg, if_pos rfl]; exact Block.id s
    | false => rw [ClientOps.onFrame_headers cfg sid s md hg]; exact upd_block (.headers s md hg)
  | msg size d => exact dataFrame_block sid s _
  | more d => exact dataFrame_block sid s _
  | close st tr => exact finish_block sid s _ _
  | windowUpdate n =>
    rw [ClientOps.onFrame_windowUpdate_eq]
    split
    · exact Block.id s
    · split
      · exact Block.of_fields rfl rfl rfl rfl
      · exact (pumpSend_block cfg sid _ _).pre rfl rfl rfl
  | unset => exact finish_block sid s _ _

/-- the weaker contract that starting a read satisfies too -/
structure StepSpec (s : CStream α) (r : CStream α × COut α) : Prop where
  ss : r.1.ss = s.ss
  le_one : s.ss = false → delivered r.2 ≤ 1
  then_done : s.ss = false → delivered r.2 = 1 → Done r.1
  done_stays : Done s → delivered r.2 = 0 ∧ Done r.1


theorem Block.spec {s : CStream α} {r : CStream α × COut α} (h : Block s r) : StepSpec s r :=
  ⟨h.ss, h.le_one, h.then_done, h.stay⟩

theorem StepSpec.id (s : CStream α) : StepSpec s (s, {}) := (Block.id s).spec

theorem StepSpec.seq {s a b : CStream α} {o1 o2 : COut α} (h1 : StepSpec s (a, o1)) (h2 : StepSpec a (b, o2)) :
    StepSpec s (b, o1.add o2) := by
  have hc := seq_core h1.ss h1.le_one h1.then_done h2.le_one h2.then_done h2.done_stays
  refine ⟨h2.ss.trans h1.ss, hc.1, hc.2, fun hd => ?_⟩
  have ha := h1.done_stays hd
  have hb := h2.done_stays ha.2
  refine ⟨?_, hb.2⟩
  show delivered (o1.add o2) = 0
  rw [delivered_add, show delivered o1 = 0 from ha.1, show delivered o2 = 0 from hb.1]

/-- starting a read is not a `Block`, but from a `Done` state it cannot happen -/
theorem atom_spec {sid : Sid} {s s' : CStream α} {o : COut α} (h : ClientOps.Atom sid s s' o) :
    StepSpec s (s', o) := by
  cases h with
  | tear h => exact (tatom_block h).spec
  | prep h =>
    cases h with
    | recv hre =>
      exact ⟨rfl, fun _ => Nat.zero_le 1, fun _ h1 => (by cases h1),
        fun hd => absurd hd.1 (by rw [hre]; exact Bool.false_ne_true)⟩
    | _ => exact Block.spec (.of_fields rfl rfl rfl rfl)
  | sent cfg snd => exact (pumpSend_block cfg sid s snd).spec
  | upd h => exact (upd_block h).spec
  | completes h =>
    rename_i r
    have hr : isMsg r = false := by cases h <;> first | rfl | exact isMsg_toRes _
    exact Block.spec (.of_fields rfl rfl rfl (by rw [delivered_single, hr]; rfl))

theorem chain_spec {sid : Sid} {s s' : CStream α} {o : COut α}
    (h : ClientOps.Chain (ClientOps.Atom sid) s s' o) : StepSpec s (s', o) :=
  h.fold (R := fun s s' o => StepSpec s (s', o)) StepSpec.id StepSpec.seq atom_spec

theorem onFrame_spec (cfg : CCfg) (sid : Sid) (s : CStream α) (f : S2C α) :
    StepSpec s (s.onFrame cfg sid f) := chain_spec (ClientOps.onFrame_chain cfg sid s f)

theorem onCall_spec (cfg : CCfg) (sid : Sid) (s : CStream α) (c : CCall α) :
    StepSpec s (s.onCall cfg sid c) := chain_spec (ClientOps.onCall_chain cfg sid s c)

/-- everything that can happen to one stream object: a frame of any kind from
    any peer, a call by the application, the end of the stream context (cancel,
    deadline, channel close) -/
inductive COp (α : Type) where
  | frame (f : S2C α)
  | call (c : CCall α)
  | ctx (e : CtxErr)

def stepOp (cfg : CCfg) (sid : Sid) (s : CStream α) : COp α → CStream α × COut α
  | .frame f => s.onFrame cfg sid f
  | .call c => s.onCall cfg sid c
  | .ctx e => s.ctxCancelled sid e

/-- the second component counts the response messages delivered to the caller -/
def runOps (cfg : CCfg) (sid : Sid) : CStream α → List (COp α) → CStream α × Nat
  | s, [] => (s, 0)
  | s, op :: ops =>
    let r := stepOp cfg sid s op
    let r2 := runOps cfg sid r.1 ops
    (r2.1, delivered r.2 + r2.2)

/-- `COp` and `stepOp` are the model's `CEv` and `CStream.stepEv` -/
def COp.toEv : COp α → CEv α
  | .frame f => .frame f
  | .call c => .call c
  | .ctx e => .ctx e

theorem stepOp_eq (cfg : CCfg) (sid : Sid) (s : CStream α) (op : COp α) :
    stepOp cfg sid s op = s.stepEv cfg sid op.toEv := by
  cases op <;> rfl

theorem runOps_append (cfg : CCfg) (sid : Sid) (ops1 ops2 : List (COp α)) : ∀ (s : CStream α),
    runOps cfg sid s (ops1 ++ ops2) =
      ((runOps cfg sid (runOps cfg sid s ops1).1 ops2).1,
       (runOps cfg sid s ops1).2 + (runOps cfg sid (runOps cfg sid s ops1).1 ops2).2) := by
  induction ops1 with
  | nil => intro s; simp [runOps]
  | cons op ops ih =>
    intro s
    simp only [List.cons_append, runOps, ih, Nat.add_assoc]

theorem runOps_eq (cfg : CCfg) (sid : Sid) (ops : List (COp α)) : ∀ (s : CStream α),
    runOps cfg sid s ops =
      ((CStream.runEv cfg sid s (ops.map COp.toEv)).1,
       delivered (ClientOps.total (CStream.runEv cfg sid s (ops.map COp.toEv)).2)) := by
  induction ops with
  | nil => intro s; rfl
  | cons op ops ih =>
    intro s
    simp only [runOps, ih, stepOp_eq, List.map_cons, ClientOps.runEv_cons, ClientOps.total, List.foldr_cons,
      delivered_add]

theorem runOps_spec (cfg : CCfg) (sid : Sid) (ops : List (COp α)) (s : CStream α) :
    ∃ o, (runOps cfg sid s ops).2 = delivered o ∧ StepSpec s ((runOps cfg sid s ops).1, o) := by
  rw [runOps_eq]
  exact ⟨_, rfl, chain_spec (ClientOps.runEv_chain cfg sid _ s)⟩

theorem runOps_done (cfg : CCfg) (sid : Sid) (ops : List (COp α)) : ∀ (s : CStream α), Done s →
    (runOps cfg sid s ops).2 = 0 ∧ Done (runOps cfg sid s ops).1 := by
  intro s hd
  obtain ⟨o, ho, hs⟩ := runOps_spec cfg sid ops s
  rw [ho]
  exact hs.done_stays hd

theorem runOps_ss (cfg : CCfg) (sid : Sid) (ops : List (COp α)) : ∀ (s : CStream α),
    (runOps cfg sid s ops).1.ss = s.ss := fun s =>
  have ⟨_, _, hs⟩ := runOps_spec cfg sid ops s
  hs.ss

/-- **C16 (client), at most one response.**  On a stream whose method has a
    non-streaming response, whatever the peers send, whatever the application
    calls and whenever its context ends, at most one response message is ever
    delivered to the caller.  (No assumption on the initial state other than
    `ss = false`.) -/
theorem C16_client_at_most_one (cfg : CCfg) (sid : Sid) (s0 : CStream α) (h0 : s0.ss = false)
    (ops : List (COp α)) : (runOps cfg sid s0 ops).2 ≤ 1 := by
  obtain ⟨o, ho, hs⟩ := runOps_spec cfg sid ops s0
  rw [ho]
  exact hs.le_one h0

/-- **C16 (client), delivery ends the response stream.**  Once the message has
    been delivered the read side is `Done`: the sticky read error is set and no
    read is pending. -/
theorem C16_client_delivered_then_done (cfg : CCfg) (sid : Sid) (s0 : CStream α) (h0 : s0.ss = false)
    (ops : List (COp α)) (h1 : (runOps cfg sid s0 ops).2 = 1) :
    (runOps cfg sid s0 ops).1.readErr.isSome = true ∧ (runOps cfg sid s0 ops).1.pread = none := by
  obtain ⟨o, ho, hs⟩ := runOps_spec cfg sid ops s0
  exact hs.then_done h0 (ho ▸ h1)

theorem recv_when_done (cfg : CCfg) (sid : Sid) (s : CStream α) (hd : Done s) :
    ∃ e, s.readErr = some e ∧
      s.onCall cfg sid .recv = (s, { dones := [(sid, "recv", e.toRes)] }) := by
  obtain ⟨e, he⟩ := Option.isSome_iff_exists.mp hd.1
  exact ⟨e, he, by simp only [CStream.onCall, he]⟩

/-- **C16 (client), reads after the response fail.**  Once the (single)
    response message has been delivered in a run `ops1`, then after any further
    operations `ops2`: nothing more is delivered, the read side stays `Done`
    (sticky), and a `RecvMsg` issued then returns the sticky read error, not a
    message. -/
theorem C16_client_reads_fail_after_delivery (cfg : CCfg) (sid : Sid) (s0 : CStream α) (h0 : s0.ss = false)
    (ops1 ops2 : List (COp α)) (h1 : (runOps cfg sid s0 ops1).2 = 1) :
    let s := (runOps cfg sid (runOps cfg sid s0 ops1).1 ops2).1
    (runOps cfg sid (runOps cfg sid s0 ops1).1 ops2).2 = 0 ∧
    s.readErr.isSome = true ∧ s.pread = none ∧
    ∃ e, s.readErr = some e ∧ s.onCall cfg sid .recv = (s, { dones := [(sid, "recv", e.toRes)] }) := by
  have hd := C16_client_delivered_then_done cfg sid s0 h0 ops1 h1
  have h2 := runOps_done cfg sid ops2 _ hd
  exact ⟨h2.1, h2.2.1, h2.2.2, recv_when_done cfg sid _ h2.2⟩


theorem resumeRead_quiet (sid : Sid) (fuel : Nat) (s : CStream α) (hd : s.done.isSome = true) :
    (s.resumeRead sid fuel).2.1.frames = [] := by
  refine (ClientOps.Chain.fold (R := fun s s' o => s'.done = s.done ∧ (s.done.isSome = true → o.frames = []))
    (fun s => ⟨rfl, fun _ => rfl⟩) ?_ ?_ (ClientOps.resumeRead_chain sid fuel s)).2 hd
  · rintro a b c o₁ o₂ ⟨hd₁, h₁⟩ ⟨hd₂, h₂⟩
    refine ⟨hd₂.trans hd₁, fun hd => ?_⟩
    show o₁.frames ++ o₂.frames = []
    rw [h₁ hd, h₂ (hd₁ ▸ hd)]
    rfl
  · intro s s' o h
    obtain ⟨_, _, _, cr, _, _, _, -, -, rfl, hfr, -⟩ := h.shape
    refine ⟨rfl, fun hd => ?_⟩
    rw [hfr, ClientOps.readFrames, Option.isNone_eq_false_iff.mpr hd, Bool.and_false]
    rfl

theorem resumeRead_queue (sid : Sid) (fuel : Nat) (s : CStream α) :
    ∃ pre, s.rcv.queue = pre ++ (s.resumeRead sid fuel).1.rcv.queue := by
  refine ClientOps.Chain.fold_state (R := fun s s' => ∃ pre, s.rcv.queue = pre ++ s'.rcv.queue)
    (fun s => ⟨[], rfl⟩) ?_ ?_ (ClientOps.resumeRead_chain sid fuel s)
  · rintro a b c ⟨p₁, h₁⟩ ⟨p₂, h₂⟩
    exact ⟨p₁ ++ p₂, by rw [List.append_assoc, ← h₂, ← h₁]⟩
  · intro s s' o h
    obtain ⟨_, _, _, _, _, _, _, -, hr, rfl, -⟩ := h.shape
    obtain ⟨pre, _, hq, -⟩ := ReadLoop.readLoop_eq hr
    exact ⟨pre, hq⟩

theorem resumeRead_closed_la (sid : Sid) (fuel : Nat) (s : CStream α) (p : PRead α) (m : List α)
    (hp : s.pread = some p) (hl : p.lookahead = some m)
    (hc : (s.rcv.closed || s.rcv.cancelled) = true) :
    (s.resumeRead sid (fuel + 1)).1.pread = none := by
  rcases hr : readLoop s.rcv.rwin s.rcv.queue p.rst with ⟨w, q, cr, out⟩
  obtain ⟨_, r, _, _, rfl, _⟩ := ReadLoop.readLoop_eq hr
  cases r with
  | cont st' =>
    by_cases hd : s.done.getD .eof = .eof
    · rw [ClientOps.resumeRead_ended_msg hp hr hc hl hd]
    · rw [ClientOps.resumeRead_ended hp hr hc (.inr hd)]
  | msg m2 => rw [ClientOps.resumeRead_second hp hr hl]
  | err e => rw [ClientOps.resumeRead_perr hp hr]

/-- two passes suffice -/
theorem resumeRead_closed (sid : Sid) (fuel : Nat) (s : CStream α)
    (hc : (s.rcv.closed || s.rcv.cancelled) = true) :
    (s.resumeRead sid (fuel + 2)).1.pread = none := by
  cases hp : s.pread with
  | none => rw [resumeRead_none sid _ s hp]; exact hp
  | some p =>
    cases hl : p.lookahead with
    | some m => exact resumeRead_closed_la sid (fuel + 1) s p m hp hl hc
    | none =>
      rcases hr : readLoop s.rcv.rwin s.rcv.queue p.rst with ⟨w, q, cr, out⟩
      obtain ⟨_, r, _, _, rfl, _⟩ := ReadLoop.readLoop_eq hr
      cases r with
      | cont st' => rw [ClientOps.resumeRead_ended hp hr hc (.inl hl)]
      | msg m =>
        cases hss : s.ss with
        | true => rw [ClientOps.resumeRead_msg hp hr hl hss]
        | false =>
          rw [ClientOps.resumeRead_look hp hr hl hss]
          exact resumeRead_closed_la sid fuel _ _ m rfl rfl hc
      | err e => rw [ClientOps.resumeRead_perr hp hr]

theorem ctxEnds_frames (sid : Sid) (s : CStream α) (e : CtxErr) (b : Bool) :
    (s.ctxEnds sid e b).2.frames = [] := by
  cases h : s.ctxDone with
  | some c => rw [ctxEnds_done sid s e b (ClientOps.isSome_of_eq_some h)]
  | none => rw [ctxEnds_eq sid s e b h]

/-- `finishStream` itself never puts a frame on the wire (the window updates of
    the read it wakes are suppressed because the RPC is done) -/
theorem finish_frames (sid : Sid) (s : CStream α) (err : Option SErr) (tr : MD) :
    (s.finish sid err tr).2.1.frames = [] := by
  cases h : s.done with
  | some c => rw [finish_done sid s err tr (ClientOps.isSome_of_eq_some h)]
  | none =>
    rw [finish_eq sid s err tr h]
    show ([] ++ _) ++ _ = []
    rw [resumeRead_quiet sid 3 (finPre s err tr) rfl, ctxEnds_frames]
    rfl

theorem finish_shape (sid : Sid) (s : CStream α) (err : Option SErr) (tr : MD) (h : s.done = none) :
    ∃ w q r' c ps, (s.finish sid err tr).1 =
      { s with done := some (mapFinishErr err), inTable := false, trailers := tr, gotHeaders := true,
               doneSignal := true,
               rcv := { rwin := w, queue := q, closed := true, cancelled := s.rcv.cancelled },
               pread := none, readErr := r', ctxDone := some c, psend := ps, pheader := false } ∧
      (s.ctxDone = none → ps = none ∧ c = .canceled) ∧
      (s.ctxDone.isSome = true → ps = s.psend ∧ some c = s.ctxDone) ∧
      (∃ pre, s.rcv.queue = pre ++ q) ∧
      (s.pread = none → q = s.rcv.queue ∧ w = s.rcv.rwin ∧ r' = s.readErr) := by
  rw [finish_eq sid s err tr h]
  have hcl : ((finPre s err tr).resumeRead sid 3).1.pread = none :=
    resumeRead_closed sid 1 _ (by simp [finPre, RcvQ.close])
  obtain ⟨pre, hpre⟩ := resumeRead_queue sid 3 (finPre s err tr)
  have hnr : s.pread = none → ((finPre s err tr).resumeRead sid 3).1 = finPre s err tr :=
    fun hn => by rw [resumeRead_none sid 3 (finPre s err tr) hn]
  obtain ⟨w, q, p', r', hs⟩ := resumeRead_shape sid 3 (finPre s err tr)
  rw [hs] at hcl hpre hnr ⊢
  dsimp only at hcl
  subst hcl
  have hq : s.pread = none → q = s.rcv.queue ∧ w = s.rcv.rwin ∧ r' = s.readErr := fun hn =>
    have := hnr hn
    ⟨congrArg (fun x => x.rcv.queue) this, congrArg (fun x => x.rcv.rwin) this, congrArg (fun x => x.readErr) this⟩
  cases hc : s.ctxDone with
  | none =>
    rw [ctxEnds_eq _ _ _ _ (by exact hc)]
    exact ⟨w, q, r', .canceled, none, rfl, fun _ => ⟨rfl, rfl⟩, fun h => (by cases h), ⟨pre, hpre⟩, hq⟩
  | some c =>
    rw [ctxEnds_done _ _ _ _ (by exact ClientOps.isSome_of_eq_some hc)]
    refine ⟨w, q, r', c, s.psend, ?_, fun h => (by cases h), fun _ => ⟨rfl, rfl⟩, ⟨pre, hpre⟩, hq⟩
    rw [← hc]
    rfl

theorem cancelStream_frames (sid : Sid) (s : CStream α) (err : SErr) (h : s.done = none) :
    (s.cancelStream sid err).2.frames = [(sid, .cancel)] := by
  rw [cancelStream_eq sid s err h]
  simp [COut.add, finish_frames]

theorem cancelStream_shape (sid : Sid) (s : CStream α) (err : SErr) (h : s.done = none) :
    ∃ w q r' c ps, (s.cancelStream sid err).1 =
      { s with done := some (mapFinishErr (some err)), inTable := false, trailers := [], gotHeaders := true,
               doneSignal := true,
               rcv := { rwin := w, queue := if s.fc then [] else q, closed := true,
                        cancelled := s.fc || s.rcv.cancelled },
               pread := none, readErr := r', ctxDone := some c, psend := ps, pheader := false } ∧
      (s.ctxDone = none → ps = none ∧ c = .canceled) ∧
      (s.ctxDone.isSome = true → ps = s.psend ∧ some c = s.ctxDone) ∧
      (s.pread = none → r' = s.readErr) := by
  rw [cancelStream_eq sid s err h]
  obtain ⟨w, q, r', c, ps, hs, h1, h2, _, h4⟩ := finish_shape sid s (some err) [] h
  refine ⟨w, q, r', c, ps, ?_, h1, h2, fun hn => (h4 hn).2.2⟩
  rw [hs]
  cases s.fc <;> simp [RcvQ.cancel, RcvQ.close]

/-- **C16 (client), a second response fails the RPC.**  If the eager look-ahead
    read of a non-server-stream method (first message `m` complete) finds a
    complete second message in the queue, the pending `RecvMsg` is completed
    with `Internal`, nothing is delivered, the sticky read error is set, and
    `RecvMsg` goes on to `cancelStream`: if the RPC had no terminal result yet
    it becomes that `Internal` status and exactly one cancel frame is emitted
    (after the window updates of the read); if it already had one, that result
    stays and nothing else happens. -/
theorem C16_second_response_fails (sid : Sid) (fuel : Nat) (s : CStream α) (p : PRead α) (m m2 : List α)
    (w : Nat) (q : List (DFrame α)) (cs' : List Nat)
    (hp : s.pread = some p) (hl : p.lookahead = some m)
    (hr : readLoop s.rcv.rwin s.rcv.queue p.rst = (w, q, cs', some (.msg m2))) :
    let e : SErr := .status (mkStatus codeInternal "Server sent multiple responses for non-server-stream method")
    let cf : List (Sid × C2S α) :=
      if s.fc && s.done.isNone then cs'.map (fun n => (sid, C2S.windowUpdate n)) else []
    let r := s.resumeRead sid (fuel + 1)
    let a := CStream.afterRead sid r
    -- the read itself
    (r.2.1.dones = [(sid, "recv", .status codeInternal)] ∧ delivered r.2.1 = 0 ∧ r.2.1.frames = cf ∧
     r.1.readErr = some e ∧ r.1.pread = none ∧ r.1.done = s.done ∧ r.2.2 = some e) ∧
    -- what `RecvMsg` does with it
    (a.1.readErr = some e ∧ a.1.pread = none ∧ delivered a.2 = 0 ∧
     (∃ rest, a.2.dones = (sid, "recv", .status codeInternal) :: rest)) ∧
    (s.done = none →
      a.1.done = some e ∧ a.2.frames = cf ++ [(sid, .cancel)] ∧
      a.1.inTable = false ∧ a.1.doneSignal = true ∧ a.1.rcv.closed = true) ∧
    (∀ d, s.done = some d → a = (r.1, r.2.1) ∧ a.1.done = some d ∧ a.2.frames = []) := by
  intro e cf r a
  have hr' : r = ({ s with rcv := { s.rcv with rwin := if s.fc then w else s.rcv.rwin, queue := q },
                           pread := none, readErr := some e },
                  { frames := cf, dones := [(sid, "recv", e.toRes)] }, some e) :=
    ClientOps.resumeRead_second hp hr hl
  have ha : a = ((r.1.cancelStream sid e).1, r.2.1.add (r.1.cancelStream sid e).2) := by
    show CStream.afterRead sid r = _
    rw [afterRead_eq, hr']
  have hb := cancelStream_block sid r.1 e
  have hnr : r.1.pread = none := by rw [hr']
  have hb' := hb.noread hnr
  refine ⟨?_, ?_, fun hd => ?_, fun d hd => ?_⟩
  · rw [hr']
    exact ⟨rfl, rfl, rfl, rfl, rfl, rfl, rfl⟩
  · rw [ha]
    refine ⟨?_, hb'.2.1, ?_, ⟨(r.1.cancelStream sid e).2.dones, ?_⟩⟩
    · show (r.1.cancelStream sid e).1.readErr = some e
      rw [hb'.2.2, hr']
    · show delivered (r.2.1.add (r.1.cancelStream sid e).2) = 0
      rw [delivered_add, hb'.1, hr']
      rfl
    · show (r.2.1.add (r.1.cancelStream sid e).2).dones = _
      rw [hr']
      rfl
  · have hd' : r.1.done = none := by rw [hr']; exact hd
    obtain ⟨w', q', r', c, ps, hs, -⟩ := cancelStream_shape sid r.1 e hd'
    have hf := cancelStream_frames sid r.1 e hd'
    rw [ha]
    dsimp only
    refine ⟨by rw [hs]; rfl, ?_, by rw [hs], by rw [hs], by rw [hs]⟩
    simp only [COut.add, hf]
    rw [hr']
  · have hd' : r.1.done.isSome = true := by rw [hr']; simp [hd]
    have hc := cancelStream_done sid r.1 e hd'
    have ha' : a = (r.1, r.2.1) := by
      rw [ha, hc]
      simp [COut.add]
    refine ⟨ha', ?_, ?_⟩
    · rw [ha', hr']; exact hd
    · rw [ha', hr']
      simp [cf, hd]

theorem Sent.shape {sid : Sid} {s s' : CStream α} {o : COut α} (h : ClientOps.Sent sid s s' o) :
    ∃ w ps, s' = { s with win := w, psend := ps } ∧ (s.ctxDone.isSome = true → ps = none) := by
  cases h with
  | pending fs w snd' hc => exact ⟨_, _, rfl, fun h => by rw [hc] at h; cases h⟩
  | _ => exact ⟨_, _, rfl, fun _ => rfl⟩

theorem pumpSend_shape (cfg : CCfg) (sid : Sid) (s : CStream α) (snd : Snd α) :
    ∃ w ps, (s.pumpSend cfg sid snd).1 = { s with win := w, psend := ps } ∧
      (s.ctxDone.isSome = true → ps = none) :=
  Sent.shape (ClientOps.pumpSend_sent cfg sid s snd)

theorem pumpSend_done (cfg : CCfg) (sid : Sid) (s : CStream α) (snd : Snd α) :
    (s.pumpSend cfg sid snd).1.done = s.done := by
  obtain ⟨w, ps, h, -⟩ := pumpSend_shape cfg sid s snd
  rw [h]

theorem atom_keeps_done {sid : Sid} {s s' : CStream α} {o : COut α} (h : ClientOps.Atom sid s s' o)
    (e : SErr) (hd : s.done = some e) : s'.done = some e := by
  cases h with
  | tear h =>
    cases h with
    | finPre err tr hn => rw [hn] at hd; cases hd
    | read r => obtain ⟨_, _, _, _, _, _, _, -, -, rfl, -⟩ := r.shape; exact hd
    | _ => exact hd
  | prep h => cases h <;> exact hd
  | sent cfg snd => rw [pumpSend_done]; exact hd
  | upd h => cases h <;> exact hd
  | completes => exact hd

theorem chain_keeps_done {sid : Sid} {s s' : CStream α} {o : COut α}
    (h : ClientOps.Chain (ClientOps.Atom sid) s s' o) (e : SErr) : s.done = some e → s'.done = some e :=
  h.fold_state (R := fun s s' => s.done = some e → s'.done = some e) (fun _ h => h)
    (fun h₁ h₂ h => h₂ (h₁ h)) (fun a => atom_keeps_done a e)

theorem ctxCancelled_keeps_done (sid : Sid) (s : CStream α) (c : CtxErr) (e : SErr)
    (h : s.done = some e) : (s.ctxCancelled sid c).1.done = some e :=
  chain_keeps_done ((ClientOps.ctxCancelled_chain sid s c).mono .tear) e h

theorem onFrame_keeps_done (cfg : CCfg) (sid : Sid) (s : CStream α) (f : S2C α) (e : SErr)
    (h : s.done = some e) : (s.onFrame cfg sid f).1.done = some e :=
  chain_keeps_done (ClientOps.onFrame_chain cfg sid s f) e h

theorem onCall_keeps_done (cfg : CCfg) (sid : Sid) (s : CStream α) (c : CCall α) (e : SErr)
    (h : s.done = some e) : (s.onCall cfg sid c).1.done = some e :=
  chain_keeps_done (ClientOps.onCall_chain cfg sid s c) e h

/-- **the terminal result is written once** -/
theorem done_written_once (cfg : CCfg) (sid : Sid) (s : CStream α) (e : SErr) (h : s.done = some e) :
    (∀ err tr, (s.finish sid err tr).1.done = some e) ∧
    (∀ err, (s.cancelStream sid err).1.done = some e) ∧
    (∀ c, (s.ctxCancelled sid c).1.done = some e) ∧
    (∀ f, (s.onFrame cfg sid f).1.done = some e) ∧
    (∀ c, (s.onCall cfg sid c).1.done = some e) :=
  have hd := ClientOps.isSome_of_eq_some h
  ⟨fun err tr => by rw [finish_done sid s err tr hd]; exact h,
   fun err => by rw [cancelStream_done sid s err hd]; exact h,
   fun c => ctxCancelled_keeps_done sid s c e h, fun f => onFrame_keeps_done cfg sid s f e h,
   fun c => onCall_keeps_done cfg sid s c e h⟩


theorem done_written_once_run (cfg : CCfg) (sid : Sid) (ops : List (COp α)) : ∀ (s0 : CStream α) (e : SErr),
    s0.done = some e → (runOps cfg sid s0 ops).1.done = some e := by
  intro s e h
  rw [runOps_eq]
  exact chain_keeps_done (ClientOps.runEv_chain cfg sid _ s) e h

/-- everything in `WF` except "no read is pending": insensitive to the fields a
    read touches (`rcv.rwin`, `rcv.queue`, `pread`, `readErr`) -/
def WFpre (s : CStream α) : Prop :=
  s.ctxDone.isSome = s.done.isSome ∧
  (s.done.isSome = true →
    s.rcv.closed = true ∧ s.psend.isNone = true ∧ s.pheader = false ∧
    s.gotHeaders = true ∧ s.doneSignal = true ∧ s.inTable = false)

/-- **well-formedness of a client stream**: the stream context is done exactly
    when the RPC has its terminal result (`finishStream` cancels the context,
    the context watcher finishes the stream), and then everything is settled:
    the receiver is closed, no call is blocked, the headers and the done signal
    are published, and the stream is out of the channel's table. -/
def WF (s : CStream α) : Prop :=
  s.ctxDone.isSome = s.done.isSome ∧
  (s.done.isSome = true →
    s.rcv.closed = true ∧ s.pread.isNone = true ∧ s.psend.isNone = true ∧ s.pheader = false ∧
    s.gotHeaders = true ∧ s.doneSignal = true ∧ s.inTable = false)

instance (s : CStream α) : Decidable (WF s) := by unfold WF; infer_instance

theorem WF.pre {s : CStream α} (h : WF s) : WFpre s :=
  ⟨h.1, fun hd => by have := h.2 hd; exact ⟨this.1, this.2.2.1, this.2.2.2.1, this.2.2.2.2⟩⟩

structure Settled (s : CStream α) : Prop where
  done : s.done.isSome = true
  ctx : s.ctxDone.isSome = true
  closed : s.rcv.closed = true
  pread : s.pread = none
  psend : s.psend = none
  pheader : s.pheader = false
  gotHeaders : s.gotHeaders = true
  doneSignal : s.doneSignal = true
  out : s.inTable = false

theorem Settled.wf {s : CStream α} (h : Settled s) : WF s :=
  ⟨h.ctx.trans h.done.symm, fun _ =>
    ⟨h.closed, by rw [h.pread]; rfl, by rw [h.psend]; rfl, h.pheader, h.gotHeaders, h.doneSignal, h.out⟩⟩

theorem WF.settled {s : CStream α} (h : WF s) (hd : s.done.isSome = true) : Settled s :=
  have h2 := h.2 hd
  ⟨hd, h.1.trans hd, h2.1, Option.isNone_iff_eq_none.mp h2.2.1, Option.isNone_iff_eq_none.mp h2.2.2.1,
   h2.2.2.2.1, h2.2.2.2.2.1, h2.2.2.2.2.2.1, h2.2.2.2.2.2.2⟩

theorem WF.of_open {s : CStream α} (hd : s.done = none) (hc : s.ctxDone = none) : WF s :=
  ⟨by rw [hd, hc]; rfl, fun h => by rw [hd] at h; cases h⟩

theorem WF_iff (s : CStream α) : WF s ↔ (s.done = none ∧ s.ctxDone = none) ∨ Settled s := by
  refine ⟨fun h => ?_, fun h => h.elim (fun h => WF.of_open h.1 h.2) Settled.wf⟩
  cases hd : s.done with
  | some d => exact .inr (h.settled (ClientOps.isSome_of_eq_some hd))
  | none => exact .inl ⟨rfl, ClientOps.eq_none_of_isSome_false (by rw [h.1, hd]; exact Bool.false_ne_true)⟩

theorem WF.open_of {s : CStream α} (h : WF s) (hn : ¬ Settled s) : s.done = none ∧ s.ctxDone = none :=
  ((WF_iff s).mp h).resolve_right hn

theorem WF.pread_none {s : CStream α} (h : WF s) (hd : s.done.isSome = true) : s.pread = none :=
  (h.settled hd).pread

theorem WF.open_ctx {s : CStream α} (h : WF s) (hd : s.done = none) : s.ctxDone = none :=
  (h.open_of (fun st => absurd st.done (by rw [hd]; exact Bool.false_ne_true))).2

theorem WFpre.open_ctx {s : CStream α} (h : WFpre s) (hd : s.done = none) : s.ctxDone = none :=
  ClientOps.eq_none_of_isSome_false (by rw [h.1, hd]; exact Bool.false_ne_true)

theorem WF.done_ctx {s : CStream α} (h : WF s) (hc : s.ctxDone = none) : s.done = none :=
  (h.open_of (fun st => absurd st.ctx (by rw [hc]; exact Bool.false_ne_true))).1

theorem finish_WF (sid : Sid) (s : CStream α) (err : Option SErr) (tr : MD) (h : WF s) :
    WF (s.finish sid err tr).1 := by
  cases hd : s.done with
  | some c => rw [finish_done sid s err tr (by simp [hd])]; exact h
  | none =>
    obtain ⟨w, q, r', c, ps, hs, h1, -⟩ := finish_shape sid s err tr hd
    have hps := (h1 (h.open_ctx hd)).1
    subst hps
    rw [hs]
    simp [WF]

theorem cancelStream_WF (sid : Sid) (s : CStream α) (err : SErr) (h : WF s) :
    WF (s.cancelStream sid err).1 := by
  cases hd : s.done with
  | some c => rw [cancelStream_done sid s err (by simp [hd])]; exact h
  | none =>
    obtain ⟨w, q, r', c, ps, hs, h1, -⟩ := cancelStream_shape sid s err hd
    have hps := (h1 (h.open_ctx hd)).1
    subst hps
    rw [hs]
    simp [WF]

theorem ctxCancelled_WF (sid : Sid) (s : CStream α) (e : CtxErr) (h : WF s) :
    WF (s.ctxCancelled sid e).1 := by
  cases hc : s.ctxDone with
  | some c => rw [ctxCancelled_done sid s e (by simp [hc])]; exact h
  | none =>
    have hd := h.done_ctx hc
    rw [ctxCancelled_eq sid s e hc, ctxEnds_eq sid s e _ hc]
    obtain ⟨w, q, r', c, ps, hs, -, h2, -⟩ := cancelStream_shape sid
      ({ s with ctxDone := some e, psend := none, pheader := false } : CStream α) (.ctx e) hd
    have hps := (h2 rfl).1
    subst hps
    dsimp only
    rw [hs]
    simp [WF]

/-- on a finished stream the receiver is closed, so the read completes at once: `WF` from `WFpre` -/
theorem afterRead_WF (sid : Sid) (fuel : Nat) (s : CStream α) (h : WFpre s) :
    WF (CStream.afterRead sid (s.resumeRead sid (fuel + 2))).1 := by
  have hr : WF (s.resumeRead sid (fuel + 2)).1 := by
    have hcl : s.done.isSome = true → (s.resumeRead sid (fuel + 2)).1.pread = none := fun hd =>
      resumeRead_closed sid fuel s (by simp [(h.2 hd).1])
    obtain ⟨w, q, p', r', hs⟩ := resumeRead_shape sid (fuel + 2) s
    rw [hs] at hcl ⊢
    refine ⟨h.1, fun hd => ?_⟩
    have := h.2 hd
    have hp : p' = none := hcl hd
    subst hp
    exact ⟨this.1, rfl, this.2⟩
  rw [afterRead_eq]
  split
  · exact hr
  · exact cancelStream_WF sid _ _ hr

theorem pumpSend_WF (cfg : CCfg) (sid : Sid) (s : CStream α) (snd : Snd α) (h : WFpre s)
    (hp : s.done.isSome = true → s.pread.isNone = true) : WF (s.pumpSend cfg sid snd).1 := by
  obtain ⟨w, ps, hs, hps⟩ := pumpSend_shape cfg sid s snd
  rw [hs]
  refine ⟨h.1, fun hd => ?_⟩
  have := h.2 hd
  have hps' : ps = none := hps (by rw [h.1]; exact hd)
  subst hps'
  exact ⟨this.1, hp hd, rfl, this.2.2⟩

theorem accept_ok (r r' : RcvQ α) (f : DFrame α) (h : r.accept f = (r', .ok)) : r.closed = false := by
  unfold RcvQ.accept at h
  split at h
  · cases h
  · exact (Bool.not_eq_true _).mp ‹_›

theorem op_WF {sid : Sid} {s s' : CStream α} {o : COut α} (h : ClientOps.Op true sid s s' o) (hw : WF s) :
    WF s' := by
  cases h with
  | finish => exact finish_WF sid s _ _ hw
  | ctx => exact ctxCancelled_WF sid s _ hw
  | read hp =>
    refine afterRead_WF sid 1 _ ?_
    cases hp with
    | accepted df r _ hacc =>
      have ho := hw.open_of (fun st => Bool.noConfusion ((accept_ok _ _ _ hacc).symm.trans st.closed))
      exact (WF.of_open (s := { s with rcv := r }) ho.1 ho.2).pre
    | queued df _ hcl =>
      have ho := hw.open_of (fun st => Bool.noConfusion (hcl.symm.trans st.closed))
      exact (WF.of_open (s := { s with rcv := { s.rcv with queue := [df] } }) ho.1 ho.2).pre
    | recv => exact hw.pre
  | sent _ cfg snd => exact pumpSend_WF cfg sid _ _ hw.pre (fun hd => (hw.2 hd).2.1)
  | upd h =>
    cases h with
    | headers md hg =>
      have ho := hw.open_of (fun st => Bool.noConfusion (hg.symm.trans st.gotHeaders))
      exact WF.of_open (s := { s with gotHeaders := true, headers := md, pheader := false }) ho.1 ho.2
    | pheader _ hc => exact WF.of_open (s := { s with pheader := true }) (hw.done_ctx hc) hc
    | _ => exact hw
  | completes => exact hw

theorem onCall_WF (cfg : CCfg) (sid : Sid) (s : CStream α) (c : CCall α) (h : WF s) :
    WF (s.onCall cfg sid c).1 := (ClientOps.onCall_ops cfg sid s c (fun _ => rfl)).inv op_WF h

theorem runOps_WF (cfg : CCfg) (sid : Sid) (ops : List (COp α)) : ∀ (s0 : CStream α),
    WF s0 → WF (runOps cfg sid s0 ops).1 := by
  intro s h
  rw [runOps_eq]
  exact (ClientOps.runEv_ops cfg sid _ (fun _ _ _ => rfl) s).inv op_WF h

def AllWF (c : Cli α) : Prop := ∀ x ∈ c.streams, WF x.2

theorem wf_lift (cfg : CCfg) : ClientOps.CLift cfg (WF (α := α)) :=
  .of_ops op_WF
    (fun _ hw => ⟨hw.1, fun hd => have := hw.2 hd; ⟨this.1, this.2.1, rfl, this.2.2.2⟩⟩)
    (fun _ _ _ _ => WF.of_open rfl rfl)

theorem newStream_AllWF (cfg : CCfg) (c : Cli α) (cs ss : Bool) (method : List Nat) (md : MD)
    (timeout : Option Nat) (cancelled : Bool) (h : AllWF c) :
    AllWF (c.newStream cfg cs ss method md timeout cancelled).1 :=
  ClientOps.newStream_all (wf_lift cfg) c cs ss method md timeout cancelled h

theorem step_AllWF (cfg : CCfg) (c : Cli α) (x : CStim α) (h : AllWF c) : AllWF (c.step cfg x).1 :=
  ClientOps.call_step (wf_lift cfg) c x h

theorem run_AllWF (cfg : CCfg) (xs : List (CStim α)) : ∀ (c : Cli α), AllWF c → AllWF (Cli.run cfg c xs).1 :=
  ClientOps.call_run (wf_lift cfg) xs

theorem start_AllWF (cfg : CCfg) : AllWF (Cli.start cfg : Cli α) := by
  intro x hx
  cases hx

theorem mapFinishErr_ctx (e : CtxErr) :
    mapFinishErr (some (.ctx e)) =
      .status (match e with
        | .canceled => mkStatus codeCanceled "context canceled"
        | .deadline => mkStatus codeDeadlineExceeded "context deadline exceeded") := by
  cases e <;> rfl

theorem mapFinishErr_statusErr (st : Status) :
    mapFinishErr (statusErr st) = if st.code = 0 then .eof else .status st := by
  unfold statusErr
  split <;> rfl

/-- **after the stream's context ends nothing stays blocked**, and the RPC has
    its terminal result.  The hypothesis `hp` ("a finished RPC has no pending
    read") is part of `WF` (`WF.pread_none`); without it the statement is false,
    see the counterexample at the end of the file. -/
theorem cancel_releases_all (sid : Sid) (s : CStream α) (e : CtxErr) (hc : s.ctxDone = none)
    (hp : s.done.isSome = true → s.pread = none) :
    (s.ctxCancelled sid e).1.pread = none ∧ (s.ctxCancelled sid e).1.psend = none ∧
    (s.ctxCancelled sid e).1.pheader = false ∧ (s.ctxCancelled sid e).1.done.isSome = true ∧
    (s.ctxCancelled sid e).1.ctxDone = some e := by
  cases hd : s.done with
  | some d =>
    rw [ctxCancelled_eq sid s e hc, ctxEnds_eq sid s e _ hc]
    dsimp only
    rw [cancelStream_done sid _ _ (by simp [hd])]
    exact ⟨hp (by simp [hd]), rfl, rfl, by simp [hd], rfl⟩
  | none =>
    rw [ctxCancelled_eq sid s e hc, ctxEnds_eq sid s e _ hc]
    dsimp only
    obtain ⟨w, q, r', c, ps, hs, -, h2, -⟩ := cancelStream_shape sid
      ({ s with ctxDone := some e, psend := none, pheader := false } : CStream α) (.ctx e) hd
    have hps := (h2 rfl).1
    have hcc := (h2 rfl).2
    subst hps
    rw [hs]
    exact ⟨rfl, rfl, rfl, rfl, hcc⟩

theorem cancel_releases_all_WF (sid : Sid) (s : CStream α) (e : CtxErr) (hwf : WF s) (hc : s.ctxDone = none) :
    (s.ctxCancelled sid e).1.pread = none ∧ (s.ctxCancelled sid e).1.psend = none ∧
    (s.ctxCancelled sid e).1.pheader = false ∧ (s.ctxCancelled sid e).1.done.isSome = true ∧
    (s.ctxCancelled sid e).1.ctxDone = some e :=
  cancel_releases_all sid s e hc hwf.pread_none

theorem cancel_settled_WF (sid : Sid) (s : CStream α) (e : CtxErr) (hwf : WF s) :
    (s.ctxCancelled sid e).1.pread = none ∧ (s.ctxCancelled sid e).1.psend = none ∧
    (s.ctxCancelled sid e).1.pheader = false ∧ (s.ctxCancelled sid e).1.done.isSome = true ∧
    (s.ctxCancelled sid e).1.ctxDone.isSome = true := by
  cases hc : s.ctxDone with
  | none =>
    have := cancel_releases_all_WF sid s e hwf hc
    exact ⟨this.1, this.2.1, this.2.2.1, this.2.2.2.1, by rw [this.2.2.2.2]; rfl⟩
  | some c =>
    have hcs := ClientOps.isSome_of_eq_some hc
    rw [ctxCancelled_done sid s e hcs]
    have st := hwf.settled (hwf.1.symm.trans hcs)
    exact ⟨st.pread, st.psend, st.pheader, st.done, hcs⟩

/-- the result is the context's status (`Canceled` resp. `DeadlineExceeded`) and exactly one
    frame, the cancel frame, is emitted -/
theorem cancel_sets_result (sid : Sid) (s : CStream α) (e : CtxErr) (hc : s.ctxDone = none)
    (hd : s.done = none) :
    (s.ctxCancelled sid e).1.done = some (mapFinishErr (some (.ctx e))) ∧
    (s.ctxCancelled sid e).2.frames = [(sid, .cancel)] ∧
    (s.ctxCancelled sid e).1.doneSignal = true ∧ (s.ctxCancelled sid e).1.inTable = false ∧
    (s.ctxCancelled sid e).1.rcv.closed = true := by
  rw [ctxCancelled_eq sid s e hc, ctxEnds_eq sid s e _ hc]
  dsimp only
  obtain ⟨w, q, r', c, ps, hs, -⟩ := cancelStream_shape sid
    ({ s with ctxDone := some e, psend := none, pheader := false } : CStream α) (.ctx e) hd
  have hf := cancelStream_frames sid
    ({ s with ctxDone := some e, psend := none, pheader := false } : CStream α) (.ctx e) hd
  refine ⟨by rw [hs], ?_, by rw [hs], by rw [hs], by rw [hs]⟩
  simp only [COut.add, hf, List.nil_append]

/-- in particular no cancel frame -/
theorem cancel_keeps_result (sid : Sid) (s : CStream α) (e : CtxErr) (d : SErr) (hd : s.done = some d) :
    (s.ctxCancelled sid e).1.done = some d ∧ (s.ctxCancelled sid e).2.frames = [] := by
  refine ⟨ctxCancelled_keeps_done sid s e d hd, ?_⟩
  cases hc : s.ctxDone with
  | some c => rw [ctxCancelled_done sid s e (by simp [hc])]
  | none =>
    rw [ctxCancelled_eq sid s e hc, ctxEnds_eq sid s e _ hc]
    dsimp only
    rw [cancelStream_done sid _ _ (by simp [hd])]
    rfl

theorem ctxEnds_rcv (sid : Sid) (s : CStream α) (e : CtxErr) (b : Bool) : (s.ctxEnds sid e b).1.rcv = s.rcv := by
  cases h : s.ctxDone with
  | some c => rw [ctxEnds_done sid s e b (by simp [h])]
  | none => rw [ctxEnds_eq sid s e b h]

/-- **the close frame decides the outcome** of an RPC that has none yet: the
    terminal result is the server's status (EOF for OK, `mapFinishErr_statusErr`),
    the trailers are the frame's, the done signal is raised, the stream leaves
    the table; the receive queue is *not* flushed (what the woken read did not
    consume stays readable), the receiver is closed but not cancelled, and no
    frame — in particular no cancel frame — is emitted. -/
theorem close_frame_outcome (cfg : CCfg) (sid : Sid) (s : CStream α) (st : Status) (tr : MD)
    (hd : s.done = none) :
    let r := s.onFrame cfg sid (.close st tr)
    r.1.done = some (mapFinishErr (statusErr st)) ∧ r.1.trailers = tr ∧ r.1.doneSignal = true ∧
    r.1.inTable = false ∧ r.1.rcv.closed = true ∧ r.1.rcv.cancelled = s.rcv.cancelled ∧
    r.1.rcv.queue = ((finPre s (statusErr st) tr).resumeRead sid 3).1.rcv.queue ∧
    (∃ pre, s.rcv.queue = pre ++ r.1.rcv.queue) ∧
    (s.pread = none → r.1.rcv.queue = s.rcv.queue) ∧
    r.2.frames = [] := by
  intro r
  have hr : r = ((s.finish sid (statusErr st) tr).1, (s.finish sid (statusErr st) tr).2.1) := rfl
  have hq : r.1.rcv.queue = ((finPre s (statusErr st) tr).resumeRead sid 3).1.rcv.queue := by
    rw [hr, finish_eq sid s _ _ hd]
    dsimp only
    rw [ctxEnds_rcv]
  obtain ⟨w, q, r', c, ps, hs, -, -, h3, h4⟩ := finish_shape sid s (statusErr st) tr hd
  have hf := finish_frames sid s (statusErr st) tr
  rw [hr] at hq ⊢
  dsimp only at hq ⊢
  refine ⟨by rw [hs], by rw [hs], by rw [hs], by rw [hs], by rw [hs], by rw [hs], hq, ?_, ?_, hf⟩
  · rw [hs]; exact h3
  · intro hn; rw [hs]; exact (h4 hn).1

/-- **once the RPC has its terminal result and the context is done**, the frames
    `close`, `settings`, `unset` and further context ends are no-ops (same
    state, empty output), and so is `headers` when the headers are published
    (always the case on a well-formed stream); in any case `headers` emits
    nothing and completes no call when no `Header()` is blocked. -/
theorem finished_stream_quiet (cfg : CCfg) (sid : Sid) (s : CStream α)
    (hd : s.done.isSome = true) (hc : s.ctxDone.isSome = true) :
    (∀ st tr, s.onFrame cfg sid (.close st tr) = (s, {})) ∧
    (∀ w rv, s.onFrame cfg sid (.settings w rv) = (s, {})) ∧
    (s.onFrame cfg sid .unset = (s, {})) ∧
    (∀ e, s.ctxCancelled sid e = (s, {})) ∧
    (∀ md, s.gotHeaders = true → s.onFrame cfg sid (.headers md) = (s, {})) ∧
    (∀ md, s.pheader = false → (s.onFrame cfg sid (.headers md)).2 = {}) := by
  refine ⟨fun st tr => ?_, fun w rv => ?_, ?_, fun e => ctxCancelled_done sid s e hc, fun md hg => ?_,
    fun md hp => ?_⟩
  · rw [onFrame_close, finish_done sid s _ _ hd]
  · rw [onFrame_settings, finish_done sid s _ _ hd]
  · rw [onFrame_unset, finish_done sid s _ _ hd]
  · rw [ClientOps.onFrame_headers_eq, hg, if_pos rfl]
  · rw [ClientOps.onFrame_headers_eq, hp, if_neg Bool.false_ne_true]
    split <;> rfl

/-- on a well-formed finished stream *every* frame and every context end is
    quiet: nothing is emitted, no call completes, and the state does not change
    (except that a window update still adds to the send window) -/
theorem finished_stream_quiet_WF (cfg : CCfg) (sid : Sid) (s : CStream α) (hwf : WF s)
    (hd : s.done.isSome = true) :
    (∀ f, (s.onFrame cfg sid f).2 = {}) ∧
    (∀ f, (∀ n, f ≠ S2C.windowUpdate n) → s.onFrame cfg sid f = (s, {})) ∧
    (∀ e, s.ctxCancelled sid e = (s, {})) := by
  have st := hwf.settled hd
  have hq := finished_stream_quiet cfg sid s hd st.ctx
  have hdata : ∀ df, dataFrame sid s df = (s, {}) := by
    intro df
    unfold ClientOps.dataFrame RcvQ.accept
    rw [st.closed]
    cases s.fc <;> rfl
  have hall : ∀ f, (∀ n, f ≠ S2C.windowUpdate n) → s.onFrame cfg sid f = (s, {}) := by
    intro f hf
    cases f with
    | settings w rv => exact hq.2.1 w rv
    | headers md => exact hq.2.2.2.2.1 md st.gotHeaders
    | msg size d => rw [onFrame_msg]; exact hdata _
    | more d => rw [onFrame_more]; exact hdata _
    | close st tr => exact hq.1 st tr
    | windowUpdate n => exact absurd rfl (hf n)
    | unset => exact hq.2.2.1
  refine ⟨fun f => ?_, hall, hq.2.2.2.1⟩
  by_cases hf : ∃ n, f = S2C.windowUpdate n
  · obtain ⟨n, rfl⟩ := hf
    rw [ClientOps.onFrame_windowUpdate_eq, st.psend]
    split <;> rfl
  · rw [hall f (fun n h => hf ⟨n, h⟩)]

-- the bound is attained: a response then the close frame (OK) delivers exactly one
-- message, and late responses / further reads / a cancel deliver nothing
example :
    let s : CStream Nat := { cs := false, ss := false, fc := true, rcv := RcvQ.init 10, win := 10 }
    (runOps {} 1 s [.call .recv, .frame (.msg 1 [7]), .frame (.close (mkStatus 0 "") [])]).2 = 1 ∧
    (runOps {} 1 s [.call .recv, .frame (.msg 1 [7]), .frame (.close (mkStatus 0 "") []), .call .recv,
                    .frame (.msg 1 [8]), .call .recv, .ctx .canceled]).2 = 1 := by
  exact ⟨rfl, rfl⟩

-- two responses: nothing is delivered, the RPC fails with Internal
example :
    let s : CStream Nat := { cs := false, ss := false, fc := true, rcv := RcvQ.init 10, win := 10 }
    let r := runOps {} 1 s [.call .recv, .frame (.msg 1 [7]), .frame (.msg 1 [8]), .call .recv]
    r.2 = 0 ∧ r.1.done = some (.status (mkStatus codeInternal
      "Server sent multiple responses for non-server-stream method")) := by
  exact ⟨rfl, rfl⟩

-- `cancel_releases_all` is false without `done.isSome → pread = none`:
-- a (non-`WF`) stream whose RPC is done but whose read is still pending keeps it pending
example :
    let s : CStream Nat := { cs := false, ss := false, fc := true, rcv := RcvQ.init 10, win := 10,
                             done := some .eof, pread := some { lookahead := none, rst := none } }
    s.ctxDone = none ∧ ¬ WF s ∧ (s.ctxCancelled 1 .canceled).1.pread.isSome = true := by
  exact ⟨rfl, by decide, rfl⟩

-- `headers` on a finished (non-`WF`) stream without published headers still records them
example :
    let s : CStream Nat := { cs := false, ss := false, fc := true, rcv := RcvQ.init 10, win := 10,
                             done := some .eof, ctxDone := some .canceled }
    ¬ WF s ∧ (s.onFrame {} 1 (.headers [("a", ["b"])])).1.headers = [("a", ["b"])] := by
  exact ⟨by decide, rfl⟩

-- `WF` is decidable and holds along a typical run
example :
    let s : CStream Nat := { cs := false, ss := false, fc := true, rcv := RcvQ.init 10, win := 10 }
    WF s ∧ WF (runOps {} 1 s [.call .recv, .frame (.msg 1 [7]), .ctx .deadline]).1 := by
  decide

end Proofs.ClientShape

#print axioms Proofs.ClientShape.C16_client_at_most_one
#print axioms Proofs.ClientShape.C16_client_delivered_then_done
#print axioms Proofs.ClientShape.C16_client_reads_fail_after_delivery
#print axioms Proofs.ClientShape.runOps_done
#print axioms Proofs.ClientShape.recv_when_done
#print axioms Proofs.ClientShape.C16_second_response_fails
#print axioms Proofs.ClientShape.done_written_once
#print axioms Proofs.ClientShape.done_written_once_run
#print axioms Proofs.ClientShape.cancel_releases_all
#print axioms Proofs.ClientShape.cancel_releases_all_WF
#print axioms Proofs.ClientShape.cancel_settled_WF
#print axioms Proofs.ClientShape.cancel_sets_result
#print axioms Proofs.ClientShape.cancel_keeps_result
#print axioms Proofs.ClientShape.close_frame_outcome
#print axioms Proofs.ClientShape.finished_stream_quiet
#print axioms Proofs.ClientShape.finished_stream_quiet_WF
#print axioms Proofs.ClientShape.runOps_WF
#print axioms Proofs.ClientShape.newStream_AllWF
#print axioms Proofs.ClientShape.run_AllWF
