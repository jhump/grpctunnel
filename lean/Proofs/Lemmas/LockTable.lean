import TunnelModel.Generated.Locks
/-!
  Definitions behind C15's discipline obligations (no theorem here, so that
  this module still builds — and its diagnostics can be evaluated — when an
  obligation fails): the protection kinds, the hand-written protections table
  (DESIGN.md appendix G), the receive-loop locks, the lock-order check.
-/
namespace Proofs.C15
open TunnelModel.Generated

/-- how a field is protected -/
inductive Prot where
  | init                                   -- written only while the object is being constructed (before it is shared); read freely
  | mutex (l : String)                     -- every access outside construction holds this mutex
  | atomic                                 -- every access is an atomic method (or construction)
  | lock                                   -- the field is a mutex / wait-group / once / cond: only its own methods are used
  | chan                                   -- channel used only through send / receive / close (creation in construction)
  | callUnder (allowed : List String)
      -- set at construction; the field's value is a callback or a carrier stream whose calls may BLOCK
      -- (a carrier Send, a user callback): it may be invoked only while holding locks from `allowed`
  | published (writers readers : List String)
      -- written only in `writers` (each write ordered before a publication barrier by the
      -- micro-model / code order named in DESIGN.md), read only in `readers` after that barrier
  deriving Repr

/-- functions in which an object is constructed and not yet shared -/
def ctors : List String :=
  ["newTunnelChannel", "serveTunnel", "tunnelServer.createStream", "tunnelChannel.allocateStream",
   "newSender", "newReceiver", "newReceiverWithoutFlowControl", "newSenderWithoutFlowControl",
   "newReverseChannels", "NewTunnelServiceHandler", "NewReverseTunnelServer",
   "pendingChannel.Start", "newReverseChannel", "ReverseTunnelServer.Serve", "TunnelServiceHandler.openTunnel"]

def obeys (p : Prot) (a : Access) : Bool :=
  a.inLiteral ||
  match p with
  | .init => !a.write || ctors.contains a.fn
  | .mutex l => a.held.contains l || (ctors.contains a.fn && (a.how == "plain" || a.how == "call") && a.strct != "tunnelChannel" && a.strct != "tunnelServer")
  | .callUnder allowed => if a.how == "call" then a.held.all allowed.contains else (!a.write || ctors.contains a.fn)
  | .atomic => a.how == "atomic"
  | .lock => a.how == "lockop" || !a.write
  | .chan => a.how == "chan-recv" || a.how == "chan-close" || a.how == "chan-send" || a.how == "chan" || !a.write || a.held != []
  | .published ws rs => if a.write then ws.contains a.fn else (rs.contains a.fn || ws.contains a.fn)

/-- the protections table (DESIGN.md appendix G), keyed by struct and field -/
def protections : List ((String × String) × Prot) := [
  -- tunnelChannel
  (("tunnelChannel", "stream"), .callUnder ["tunnelChannel.streamCreation"]), (("tunnelChannel", "tunnelMetadata"), .init),
  (("tunnelChannel", "serverSendsSettings"), .init), (("tunnelChannel", "tunnelOpts"), .init),
  (("tunnelChannel", "ctx"), .init), (("tunnelChannel", "cancel"), .init), (("tunnelChannel", "tearDown"), .callUnder []),
  (("tunnelChannel", "awaitSettings"), .chan),
  -- written by recvLoop before close(awaitSettings); read by newStream / allocateStream, which run only after
  -- newTunnelChannel returned: behind awaitSettings, or (ctx.Done arm) behind the `finished` check under mu
  (("tunnelChannel", "settings"), .published ["tunnelChannel.recvLoop"] ["tunnelChannel.allocateStream"]),
  (("tunnelChannel", "useRevision"), .published ["tunnelChannel.recvLoop"] ["tunnelChannel.allocateStream", "tunnelChannel.newStream"]),
  (("tunnelChannel", "mu"), .lock), (("tunnelChannel", "streamCreation"), .lock),
  (("tunnelChannel", "streams"), .mutex "tunnelChannel.mu"), (("tunnelChannel", "lastStreamID"), .mutex "tunnelChannel.mu"),
  (("tunnelChannel", "streamCreated"), .mutex "tunnelChannel.mu"), (("tunnelChannel", "err"), .mutex "tunnelChannel.mu"),
  (("tunnelChannel", "finished"), .mutex "tunnelChannel.mu"),
  -- tunnelClientStream
  (("tunnelClientStream", "ctx"), .init), (("tunnelClientStream", "cancel"), .init), (("tunnelClientStream", "ch"), .init),
  (("tunnelClientStream", "streamID"), .init), (("tunnelClientStream", "method"), .init), (("tunnelClientStream", "stream"), .callUnder ["tunnelClientStream.writeMu"]),
  (("tunnelClientStream", "headersTargets"), .init), (("tunnelClientStream", "trailersTargets"), .init),
  (("tunnelClientStream", "isClientStream"), .init), (("tunnelClientStream", "isServerStream"), .init),
  (("tunnelClientStream", "sender"), .init), (("tunnelClientStream", "receiver"), .init),
  (("tunnelClientStream", "gotHeadersSignal"), .chan), (("tunnelClientStream", "doneSignal"), .chan),
  (("tunnelClientStream", "done"), .atomic),
  (("tunnelClientStream", "metaMu"), .lock), (("tunnelClientStream", "readMu"), .lock), (("tunnelClientStream", "writeMu"), .lock),
  (("tunnelClientStream", "gotHeaders"), .mutex "tunnelClientStream.metaMu"),
  -- written under metaMu before close(gotHeadersSignal); read by Header() after receiving from it
  (("tunnelClientStream", "headers"), .published ["tunnelClientStream.acceptServerFrame"] ["tunnelClientStream.Header"]),
  -- written under metaMu before close(doneSignal); read by Trailer() after receiving from it
  (("tunnelClientStream", "trailers"), .published ["tunnelClientStream.finishStream"] ["tunnelClientStream.Trailer"]),
  (("tunnelClientStream", "readErr"), .mutex "tunnelClientStream.readMu"),
  (("tunnelClientStream", "numSent"), .mutex "tunnelClientStream.writeMu"),
  (("tunnelClientStream", "halfClosed"), .mutex "tunnelClientStream.writeMu"),
  -- tunnelServer
  (("tunnelServer", "stream"), .callUnder []), (("tunnelServer", "services"), .init), (("tunnelServer", "clientAcceptsSettings"), .init),
  (("tunnelServer", "tunnelOpts"), .init), (("tunnelServer", "isClosing"), .init),
  (("tunnelServer", "mu"), .lock),
  (("tunnelServer", "streams"), .mutex "tunnelServer.mu"), (("tunnelServer", "lastSeen"), .mutex "tunnelServer.mu"),
  -- tunnelServerStream
  (("tunnelServerStream", "ctx"), .init), (("tunnelServerStream", "cancel"), .init), (("tunnelServerStream", "svr"), .init),
  (("tunnelServerStream", "streamID"), .init), (("tunnelServerStream", "method"), .init), (("tunnelServerStream", "stream"), .callUnder ["tunnelServerStream.writeMu"]),
  (("tunnelServerStream", "isClientStream"), .init), (("tunnelServerStream", "isServerStream"), .init),
  (("tunnelServerStream", "sender"), .init), (("tunnelServerStream", "receiver"), .init),
  (("tunnelServerStream", "halfClosed"), .atomic),
  (("tunnelServerStream", "readMu"), .lock), (("tunnelServerStream", "writeMu"), .lock),
  (("tunnelServerStream", "readErr"), .mutex "tunnelServerStream.readMu"),
  (("tunnelServerStream", "numSent"), .mutex "tunnelServerStream.writeMu"),
  (("tunnelServerStream", "headers"), .mutex "tunnelServerStream.writeMu"),
  (("tunnelServerStream", "trailers"), .mutex "tunnelServerStream.writeMu"),
  (("tunnelServerStream", "sentHeaders"), .mutex "tunnelServerStream.writeMu"),
  (("tunnelServerStream", "closed"), .mutex "tunnelServerStream.writeMu"),
  -- flow control
  (("defaultSender", "ctx"), .init), (("defaultSender", "sendFunc"), .callUnder ["defaultSender.mu"]), (("defaultSender", "windowUpdates"), .chan),
  (("defaultSender", "currentWindow"), .atomic), (("defaultSender", "mu"), .lock),
  (("defaultReceiver", "measure"), .init), (("defaultReceiver", "updateWindow"), .callUnder []),
  (("defaultReceiver", "mu"), .lock), (("defaultReceiver", "cond"), .mutex "defaultReceiver.mu"),
  (("defaultReceiver", "closed"), .mutex "defaultReceiver.mu"), (("defaultReceiver", "cancelled"), .mutex "defaultReceiver.mu"),
  (("defaultReceiver", "items"), .mutex "defaultReceiver.mu"), (("defaultReceiver", "currentWindow"), .mutex "defaultReceiver.mu"),
  (("noFlowControlSender", "sendFunc"), .callUnder ["noFlowControlSender.mu"]), (("noFlowControlSender", "mu"), .lock),
  (("noFlowControlReceiver", "ctx"), .init), (("noFlowControlReceiver", "ingestMu"), .lock),
  (("noFlowControlReceiver", "ch"), .chan), (("noFlowControlReceiver", "closed"), .chan), (("noFlowControlReceiver", "doClose"), .lock),
  -- registry and servers
  (("reverseChannels", "mu"), .lock), (("reverseChannels", "avail"), .mutex "reverseChannels.mu"),
  (("reverseChannels", "chans"), .mutex "reverseChannels.mu"), (("reverseChannels", "idx"), .mutex "reverseChannels.mu"),
  (("TunnelServiceHandler", "handlers"), .init), (("TunnelServiceHandler", "noReverseTunnels"), .init),
  (("TunnelServiceHandler", "onReverseTunnelConnect"), .callUnder []), (("TunnelServiceHandler", "onReverseTunnelDisconnect"), .callUnder []),
  (("TunnelServiceHandler", "affinityKey"), .callUnder []), (("TunnelServiceHandler", "tunnelOpts"), .init),
  (("TunnelServiceHandler", "reverse"), .init), (("TunnelServiceHandler", "mu"), .lock),
  (("TunnelServiceHandler", "reverseByKey"), .mutex "TunnelServiceHandler.mu"),
  -- `stopping.Load` is passed as a method value (an atomic load); the store is atomic
  (("TunnelServiceHandler", "stopping"), .published ["TunnelServiceHandler.InitiateShutdown"] ["TunnelServiceHandler.openTunnel"]),
  (("ReverseTunnelServer", "stub"), .init), (("ReverseTunnelServer", "opts"), .init), (("ReverseTunnelServer", "handlers"), .init),
  (("ReverseTunnelServer", "mu"), .lock), (("ReverseTunnelServer", "wg"), .lock),
  (("ReverseTunnelServer", "instances"), .mutex "ReverseTunnelServer.mu"), (("ReverseTunnelServer", "state"), .mutex "ReverseTunnelServer.mu"),
  -- thread-safe carrier wrappers: the embedded stream is used for sending under sendMu and for receiving under recvMu
  (("threadSafeOpenTunnelClient", "sendMu"), .lock), (("threadSafeOpenTunnelClient", "recvMu"), .lock),
  (("threadSafeOpenTunnelClient", "TunnelService_OpenTunnelClient"), .chan),
  (("threadSafeOpenReverseTunnelServer", "sendMu"), .lock), (("threadSafeOpenReverseTunnelServer", "recvMu"), .lock),
  (("threadSafeOpenReverseTunnelServer", "TunnelService_OpenReverseTunnelServer"), .chan),
  (("threadSafeOpenReverseTunnelClient", "sendMu"), .lock), (("threadSafeOpenReverseTunnelClient", "recvMu"), .lock),
  (("threadSafeOpenReverseTunnelClient", "closed"), .mutex "threadSafeOpenReverseTunnelClient.sendMu"),
  (("threadSafeOpenReverseTunnelClient", "TunnelService_OpenReverseTunnelClient"), .chan),
  (("threadSafeOpenTunnelServer", "sendMu"), .lock), (("threadSafeOpenTunnelServer", "recvMu"), .lock),
  (("threadSafeOpenTunnelServer", "TunnelService_OpenTunnelServer"), .chan)
]

def protOf (a : Access) : Option Prot := protections.lookup (a.strct, a.field)

/-- an access is fine iff its field has a declared protection and the access obeys it -/
def accessOK (a : Access) : Bool :=
  match protOf a with
  | none => false
  | some p => obeys p a

def violations (t : List Access) : List Access := t.filter (fun a => !accessOK a)

/-- the mutexes a tunnel's receive loop acquires while dispatching frames of
    flow-controlled streams (table look-ups, `accept`, header bookkeeping) -/
def loopLocks : List String :=
  ["tunnelServer.mu", "tunnelChannel.mu", "defaultReceiver.mu", "tunnelClientStream.metaMu",
   "reverseChannels.mu", "TunnelServiceHandler.mu", "ReverseTunnelServer.mu"]

/-- the locks under which some potentially blocking call is allowed -/
def blockingAllowed : List String :=
  (protections.filterMap (fun p => match p.2 with | .callUnder l => some l | _ => none)).flatten

/-- rows that make a blocking call while holding a receive-loop lock -/
def blockingViolations (t : List Access) : List Access :=
  t.filter (fun a => a.how == "call" &&
    (match protOf a with | some (.callUnder _) => true | _ => false) && a.held.any loopLocks.contains)

/-- nodes reachable from `front` in at most `fuel` steps -/
def reach (edges : List (String × String)) : Nat → List String → List String
  | 0, front => front
  | fuel + 1, front =>
    let next := (edges.filter (fun e => front.contains e.1)).map (·.2)
    reach edges fuel (front ++ next.filter (fun x => !front.contains x))

/-- no lock is (transitively) acquired while it is already held -/
def acyclic (edges : List (String × String)) : Bool :=
  edges.all (fun e => !(reach edges edges.length [e.2]).contains e.1)


/-! ### the receive loops never perform a blocking send -/

/-- the functions that ARE the receive loops of a tunnel -/
def loopRoots : List String := ["tunnelServer.serve", "tunnelChannel.recvLoop"]

/-- calls that run on the caller's goroutine (a `go` statement starts another one), over function ids -/
def syncEdgesN : List (Nat × Nat) :=
  callEdgesN.filterMap (fun e => if e.2.2 then none else some (e.1, e.2.1))

/-- ids reachable from `front` (breadth first, at most `fuel` rounds; stops at the fixpoint) -/
def reachN (edges : List (Nat × Nat)) : Nat → List Nat → List Nat
  | 0, front => front
  | fuel + 1, front =>
    let next := ((edges.filter (fun e => front.contains e.1)).map (·.2)).filter (fun x => !front.contains x)
    if next.isEmpty then front else reachN edges fuel (front ++ next.eraseDups)

def fnIdOf (n : String) : Option Nat :=
  let i := fnNames.idxOf n
  if i < fnNames.length then some i else none

def loopRootIds : List Nat := loopRoots.filterMap fnIdOf

/-- every function that can run, synchronously, on a receive-loop goroutine
    (calls through interfaces resolved by method name: an over-approximation) -/
def loopFnIds : List Nat := reachN syncEdgesN fnNames.length loopRootIds

def loopFns : List String := loopFnIds.filterMap (fun i => fnNames[i]?)

/-- the fields holding the carrier stream -/
def carrierFields : List (String × String) :=
  [("tunnelServer", "stream"), ("tunnelServerStream", "stream"), ("tunnelChannel", "stream"), ("tunnelClientStream", "stream")]

/-- function-valued fields whose call performs a carrier `Send` -/
def sendingCallbacks : List (String × String) :=
  [("defaultReceiver", "updateWindow"), ("defaultSender", "sendFunc"), ("noFlowControlSender", "sendFunc")]

/-- rows in which a function that can run on a receive-loop goroutine performs,
    on that goroutine, a carrier `Send` (directly or through a sending callback) -/
def loopSendViolations (t : List Access) : List Access :=
  t.filter (fun a => loopFnIds.contains a.fnId && !a.async && a.how == "call" &&
    ((carrierFields.contains (a.strct, a.field) && (a.method == "Send" || a.method == "SendMsg")) ||
     sendingCallbacks.contains (a.strct, a.field)))

/-! ### waiting for other goroutines -/

/-- wait groups: `Wait` blocks until other goroutines are done; it must not be called with a mutex held
    that those goroutines (or anything they wait for) need -/
def waitGroups : List (String × String) := [("ReverseTunnelServer", "wg")]

def lockedWaitViolations (t : List Access) : List Access :=
  t.filter (fun a => waitGroups.contains (a.strct, a.field) && a.how == "call" && a.method == "Wait" && !a.held.isEmpty)

/-! ### wake-ups: the waker must not need a lock the sleeper holds -/

/-- rows that close (or send on) a channel while holding a mutex that some function holds while it WAITS on that
    very channel: the waiter sleeps with the lock, the waker sleeps for the lock — a deadlock.  (The revision-zero
    receiver's `accept` waits on `closed` holding `ingestMu`: `close()` must close `closed` BEFORE it takes `ingestMu`.) -/
def wakeupViolations (t : List Access) : List Access :=
  t.filter (fun a => (a.how == "chan-close" || a.how == "chan-send") &&
    t.any (fun b => b.strct == a.strct && b.field == a.field && b.how == "chan-recv" && b.held.any a.held.contains))

/-- the waits that are made with a lock held at all (so that the obligation is not vacuous) -/
def lockedChanWaits (t : List Access) : List Access :=
  t.filter (fun b => b.how == "chan-recv" && !b.held.isEmpty)

/-! ### atomic operations behind the actions of the L-atomic flow-control model -/

/-- the atomic operations a function performs on a field, in source order, without repetitions -/
def atomicOps (t : List Access) (fn strct field : String) : List String :=
  ((t.filter (fun a => a.fn == fn && a.strct == strct && a.field == field && a.how == "atomic")).map (·.method)).eraseDups

/-! ### one critical section per function (atomicity of check-then-act) -/

/-- is `strct.field` declared as protected by mutex `l`? -/
def protectedBy (l strct field : String) : Bool :=
  match protections.lookup (strct, field) with
  | some (.mutex l') => l' == l
  | _ => false

abbrev SecRow := String × String × Nat × Bool × String × String × Bool   -- fn, lock, section, read-mode, struct, field, write

/-- the rows that touch a field protected by the very lock whose section they sit in -/
def guardedRows (t : List SecRow) : List SecRow :=
  t.filter (fun r => protectedBy r.2.1 r.2.2.2.2.1 r.2.2.2.2.2.1)

/-- (function, lock) pairs in which the function reads or writes the data a lock protects in TWO different
    critical sections of that lock, at least one access being a write: between the sections the lock is
    released, so a check made in the first may be stale when the second acts on it (check-then-act,
    double-checked locking without the second check, a lock "narrowed" around a slow call) -/
def splitSections (t : List SecRow) : List (String × String) :=
  let g := guardedRows t
  ((g.filter (fun r => g.any (fun r' => r'.1 == r.1 && r'.2.1 == r.2.1 && r'.2.2.1 != r.2.2.1 &&
      (r.2.2.2.2.2.2 || r'.2.2.2.2.2.2)))).map (fun r => (r.1, r.2.1))).eraseDups

/-- writes to mutex-protected data made while the lock is held in READ mode only -/
def writesUnderRLock (t : List SecRow) : List SecRow :=
  (guardedRows t).filter (fun r => r.2.2.2.1 && r.2.2.2.2.2.2)

/-! ### stream ids: allocation and `new_stream` under one lock (C08) -/

/-- the rows of `newStream` that send on the carrier, and the writes of `lastStreamID` -/
def newStreamSends (t : List Access) : List Access :=
  t.filter (fun a => a.fn == "tunnelChannel.newStream" && a.strct == "tunnelChannel" && a.field == "stream" && a.how == "call" && a.method == "Send")

def idWrites (t : List Access) : List Access :=
  t.filter (fun a => a.strct == "tunnelChannel" && a.field == "lastStreamID" && a.write)

/-- rows of the two kinds above that do NOT hold `streamCreation` (and, for the id, `mu`) -/
def idOrderViolations (t : List Access) : List Access :=
  (newStreamSends t).filter (fun a => !a.held.contains "tunnelChannel.streamCreation") ++
  (idWrites t).filter (fun a => !(a.held.contains "tunnelChannel.streamCreation" && a.held.contains "tunnelChannel.mu"))

def showAccess (a : Access) : String :=
  s!"{a.strct}.{a.field} in {a.fn}: {if a.write then "write" else "read"} ({a.how}) holding {a.held}"

end Proofs.C15
