import Proofs.Lemmas.ClientOps
import Proofs.Lemmas.Keyed
/-!
  Invariants of the client endpoint model (`TunnelModel.LFrame.Client`) that hold for every stimulus
  list.  The server-side counterparts are `Server`, `ServerBound`, `ServerLocal`.

  Bounded buffering (C09 / C03): `Pres s s'` relates a stream object before and after an operation.
  It is checked once on the elementary steps of `ClientOps` and so holds of every operation; what is
  kept along `Pres` and holds of a fresh stream holds of all streams of all reachable states.

  Stream ids (C08): a step keeps `CInv` only while `lastStreamID < maxInt64`, because
  `IdRules.allocate` wraps at `2^63 - 1`.

  Locality (C03): every elementary step emits under the stream's own id only.
-/
namespace Proofs.ClientInv
open TunnelModel TunnelModel.LFrame TunnelModel.Framing
open Proofs.Keyed (mem_single mem_nil)

variable {α : Type}

def queuedBytes {α} (s : CStream α) : Nat := (s.rcv.queue.map TunnelModel.Framing.DFrame.size).sum

def BInv {α} (W : Nat) (s : CStream α) : Prop := s.fc = true → s.rcv.rwin + queuedBytes s ≤ W

/-- flow-controlled streams never reach the "receive loop would block" state
    (`ProjectionC.UInv` is another thing: the ids of an endpoint are distinct) -/
def UInv {α} (s : CStream α) : Prop := s.fc = true → s.unsupported = false

def Pres {α} (s s' : CStream α) : Prop :=
  s'.fc = s.fc ∧ (s.fc = true → s'.unsupported = s.unsupported) ∧
  (s.fc = true → s'.rcv.rwin + queuedBytes s' ≤ s.rcv.rwin + queuedBytes s)

theorem Pres.refl (s : CStream α) : Pres s s := ⟨rfl, fun _ => rfl, fun _ => Nat.le_refl _⟩

theorem Pres.trans {a b c : CStream α} (h1 : Pres a b) (h2 : Pres b c) : Pres a c := by
  obtain ⟨f1, u1, m1⟩ := h1
  obtain ⟨f2, u2, m2⟩ := h2
  refine ⟨f2.trans f1, fun h => ?_, fun h => ?_⟩
  · rw [u2 (f1.trans h), u1 h]
  · exact Nat.le_trans (m2 (f1.trans h)) (m1 h)

theorem Pres.of_eq {s s' : CStream α} (hf : s'.fc = s.fc) (hu : s'.unsupported = s.unsupported)
    (hr : s'.rcv.rwin = s.rcv.rwin) (hq : s'.rcv.queue = s.rcv.queue) : Pres s s' := by
  refine ⟨hf, fun _ => hu, fun _ => ?_⟩
  simp [queuedBytes, hr, hq]

theorem Pres.of_not_fc {s s' : CStream α} (hfc : ¬ s.fc = true) (h : s'.fc = s.fc) : Pres s s' :=
  ⟨h, fun h' => absurd h' hfc, fun h' => absurd h' hfc⟩

theorem Pres.binv {W : Nat} {s s' : CStream α} (h : Pres s s') (hb : BInv W s) : BInv W s' := by
  intro hfc
  have hfc' : s.fc = true := h.1 ▸ hfc
  exact Nat.le_trans (h.2.2 hfc') (hb hfc')

theorem Pres.uinv {s s' : CStream α} (h : Pres s s') (hb : UInv s) : UInv s' := by
  intro hfc
  have hfc' : s.fc = true := h.1 ▸ hfc
  rw [h.2.1 hfc']; exact hb hfc'

theorem accept_ok_pres (s : CStream α) (df : DFrame α) (r : RcvQ α) (h : s.rcv.accept df = (r, .ok)) :
    Pres s ({ s with rcv := r } : CStream α) := by
  refine ⟨rfl, fun _ => rfl, fun _ => ?_⟩
  unfold RcvQ.accept at h
  split at h
  · cases h
  · split at h
    · cases h
    · cases h
      simp only [queuedBytes, List.map_append, List.sum_append, List.map_cons, List.map_nil, List.sum_cons,
        List.sum_nil]
      omega

/-- `ctxEnds` and `finPre` touch neither counter, `cancelTail` empties the queue; only the `read` case moves
    bytes, from the queue to the window (`readLoop_sum`) -/
theorem tatom_pres {sid : Sid} {s s' : CStream α} {o : COut α} (h : ClientOps.TAtom sid s s' o) : Pres s s' := by
  cases h with
  | ctxEnds e _ => exact Pres.of_eq rfl rfl rfl rfl
  | finPre err tr _ => exact Pres.of_eq rfl rfl rfl rfl
  | cancelTail _ =>
    refine ⟨rfl, fun _ => rfl, fun h => ?_⟩
    simp [h, queuedBytes, RcvQ.cancel]
  | read r =>
    obtain ⟨p, w, q, cr, out, p', r', -, hr, rfl, -⟩ := r.shape
    refine ⟨rfl, fun _ => rfl, fun h => ?_⟩
    simp only [queuedBytes, h, if_true]
    exact Nat.le_of_eq (ReadLoop.readLoop_sum hr)

theorem sent_pres {sid : Sid} {s s' : CStream α} {o : COut α} (h : ClientOps.Sent sid s s' o) : Pres s s' := by
  cases h <;> exact Pres.of_eq rfl rfl rfl rfl

theorem atom_pres {sid : Sid} {s s' : CStream α} {o : COut α} (h : ClientOps.Atom sid s s' o) : Pres s s' := by
  cases h with
  | tear h => exact tatom_pres h
  | prep h =>
    cases h with
    | accepted df r _ hacc => exact accept_ok_pres s df r hacc
    | queued df hfc => exact Pres.of_not_fc (by rw [hfc]; exact Bool.false_ne_true) rfl
    | recv => exact Pres.of_eq rfl rfl rfl rfl
  | sent cfg snd => exact sent_pres (ClientOps.pumpSend_sent cfg sid s snd)
  | upd h =>
    cases h with
    | unsupported hfc => exact Pres.of_not_fc (by rw [hfc]; exact Bool.false_ne_true) rfl
    | _ => exact Pres.of_eq rfl rfl rfl rfl
  | completes => exact Pres.refl s

theorem tchain_pres {sid : Sid} {s s' : CStream α} {o : COut α}
    (h : ClientOps.Chain (ClientOps.TAtom sid) s s' o) : Pres s s' :=
  h.fold_state Pres.refl Pres.trans tatom_pres

theorem chain_pres {sid : Sid} {s s' : CStream α} {o : COut α}
    (h : ClientOps.Chain (ClientOps.Atom sid) s s' o) : Pres s s' :=
  h.fold_state Pres.refl Pres.trans atom_pres

def AllS {α} (P : CStream α → Prop) (c : Cli α) : Prop := ∀ e ∈ c.streams, P e.2

theorem allS_init (P : CStream α → Prop) : AllS P ({} : Cli α) := by
  intro e he; cases he

theorem allS_start (cfg : CCfg) (P : CStream α → Prop) : AllS P (Cli.start cfg : Cli α) := by
  intro e he; cases he

theorem pres_lift (cfg : CCfg) {P : CStream α → Prop} (pres : ∀ {s s' : CStream α}, Pres s s' → P s → P s')
    (fresh : ∀ st : CStream α, st.rcv = RcvQ.init cfg.W → st.unsupported = false → P st) :
    ClientOps.CLift cfg P :=
  ⟨fun sid s ev => pres (chain_pres (ClientOps.stepEv_chain cfg sid s ev)),
   fun _ => pres (Pres.of_eq rfl rfl rfl rfl), fun _ _ _ _ => fresh _ rfl rfl⟩

section PerOp
variable {W : Nat}

theorem ctxEnds_binv (sid : Sid) (s : CStream α) (e : CtxErr) (b : Bool) (h : BInv W s) :
    BInv W (s.ctxEnds sid e b).1 := by
  cases hc : s.ctxDone with
  | some c => rw [ClientOps.ctxEnds_done sid s e b (ClientOps.isSome_of_eq_some hc)]; exact h
  | none => rw [ClientOps.ctxEnds_eq sid s e b hc]; exact h
theorem resumeRead_binv (sid : Sid) (fuel : Nat) (s : CStream α) (h : BInv W s) :
    BInv W (CStream.resumeRead sid fuel s).1 :=
  (tchain_pres ((ClientOps.resumeRead_chain sid fuel s).mono .read)).binv h
theorem finish_binv (sid : Sid) (s : CStream α) (err : Option SErr) (tr : MD) (h : BInv W s) :
    BInv W (s.finish sid err tr).1 := (tchain_pres (ClientOps.finish_chain sid s err tr)).binv h
theorem cancelStream_binv (sid : Sid) (s : CStream α) (err : SErr) (h : BInv W s) :
    BInv W (s.cancelStream sid err).1 := (tchain_pres (ClientOps.cancelStream_chain sid s err)).binv h
theorem afterRead_binv (sid : Sid) (r : CStream α × COut α × Option SErr) (h : BInv W r.1) :
    BInv W (CStream.afterRead sid r).1 := by
  rw [ClientOps.afterRead_eq]
  split
  · exact h
  · exact cancelStream_binv sid _ _ h
theorem ctxCancelled_binv (sid : Sid) (s : CStream α) (e : CtxErr) (h : BInv W s) :
    BInv W (s.ctxCancelled sid e).1 := (tchain_pres (ClientOps.ctxCancelled_chain sid s e)).binv h
theorem pumpSend_binv (cfg : CCfg) (sid : Sid) (s : CStream α) (snd : Snd α) (h : BInv W s) :
    BInv W (s.pumpSend cfg sid snd).1 := (sent_pres (ClientOps.pumpSend_sent cfg sid s snd)).binv h
theorem onFrame_binv (cfg : CCfg) (sid : Sid) (s : CStream α) (f : S2C α) (h : BInv W s) :
    BInv W (s.onFrame cfg sid f).1 := (chain_pres (ClientOps.onFrame_chain cfg sid s f)).binv h
theorem onCall_binv (cfg : CCfg) (sid : Sid) (s : CStream α) (c : CCall α) (h : BInv W s) :
    BInv W (s.onCall cfg sid c).1 := (chain_pres (ClientOps.onCall_chain cfg sid s c)).binv h

theorem onFrame_fc (cfg : CCfg) (sid : Sid) (s : CStream α) (f : S2C α) : (s.onFrame cfg sid f).1.fc = s.fc :=
  (chain_pres (ClientOps.onFrame_chain cfg sid s f)).1
theorem onCall_fc (cfg : CCfg) (sid : Sid) (s : CStream α) (c : CCall α) : (s.onCall cfg sid c).1.fc = s.fc :=
  (chain_pres (ClientOps.onCall_chain cfg sid s c)).1

theorem onFrame_unsupported (cfg : CCfg) (sid : Sid) (s : CStream α) (f : S2C α) (hfc : s.fc = true) :
    (s.onFrame cfg sid f).1.unsupported = s.unsupported := (chain_pres (ClientOps.onFrame_chain cfg sid s f)).2.1 hfc
theorem onCall_unsupported (cfg : CCfg) (sid : Sid) (s : CStream α) (c : CCall α) (hfc : s.fc = true) :
    (s.onCall cfg sid c).1.unsupported = s.unsupported := (chain_pres (ClientOps.onCall_chain cfg sid s c)).2.1 hfc

end PerOp

def CliBInv {α} (W : Nat) (c : Cli α) : Prop := ∀ e ∈ c.streams, BInv W e.2

def CliUInv {α} (c : Cli α) : Prop := ∀ e ∈ c.streams, UInv e.2

theorem binv_fresh (W : Nat) (st : CStream α) (h : st.rcv = RcvQ.init W) : BInv W st := by
  intro _
  simp [queuedBytes, h, RcvQ.init]

theorem binv_lift (cfg : CCfg) : ClientOps.CLift cfg (BInv (α := α) cfg.W) :=
  pres_lift cfg (fun hp h => hp.binv h) (fun st h _ => binv_fresh cfg.W st h)

theorem uinv_lift (cfg : CCfg) : ClientOps.CLift cfg (UInv (α := α)) :=
  pres_lift cfg (fun hp h => hp.uinv h) (fun _ _ h _ => h)

theorem cliBInv_step (cfg : CCfg) (c : Cli α) (x : CStim α) (h : CliBInv cfg.W c) :
    CliBInv cfg.W (c.step cfg x).1 :=
  ClientOps.call_step (binv_lift cfg) c x h

theorem cliUInv_step (cfg : CCfg) (c : Cli α) (x : CStim α) (h : CliUInv c) : CliUInv (c.step cfg x).1 :=
  ClientOps.call_step (uinv_lift cfg) c x h

/-- **C09, bounded buffering (client side).** Whatever the peer and the
    application do, a flow-controlled client stream never holds more than `W`
    bytes in its receive queue. -/
theorem C09_client_bounded (cfg : CCfg) (xs : List (CStim α)) :
    ∀ e ∈ (Cli.run cfg (Cli.start cfg : Cli α) xs).1.streams, e.2.fc = true → queuedBytes e.2 ≤ cfg.W := by
  intro e he hfc
  have := ClientOps.call_run (binv_lift cfg) xs _ (allS_start cfg _) e he hfc
  omega

theorem client_fc_never_unsupported (cfg : CCfg) (xs : List (CStim α)) :
    ∀ e ∈ (Cli.run cfg (Cli.start cfg : Cli α) xs).1.streams, e.2.fc = true → e.2.unsupported = false :=
  fun e he hfc => ClientOps.call_run (uinv_lift cfg) xs _ (allS_start cfg _) e he hfc

-- non-vacuity: a flow-controlled stream exists and holds queued bytes after a run
example :
    let r := (Cli.run (α := Nat) {} (Cli.start {})
      [.frame (-1) (.settings 100 [1]), .new true true [1] [] none false, .frame 1 (.msg 5 [1, 2])]).1
    r.streams.map (fun e => (e.2.fc, queuedBytes e.2)) = [(true, 2)] := by rfl

-- the hypothesis `fc = true` is needed: a revision-zero stream does reach `unsupported`
example :
    let r := (Cli.run (α := Nat) {} (Cli.start {})
      [.frame (-1) (.settings 100 [0]), .new true true [1] [] none false, .frame 1 (.msg 5 [1, 2]),
       .frame 1 (.more [3])]).1
    r.streams.map (fun e => (e.2.fc, e.2.unsupported)) = [(false, true)] := by rfl

def ids (c : Cli α) : List Int := c.streams.map (·.1)

def CInv (c : Cli α) : Prop :=
  (∀ i ∈ ids c, i ≤ c.lastStreamID) ∧ (ids c).Pairwise (· < ·) ∧ 0 ≤ c.lastStreamID ∧
  (c.streamCreated = false → c.streams = [])

/-- the part of the endpoint state that `CInv` looks at is unchanged -/
def Same (c c' : Cli α) : Prop :=
  ids c' = ids c ∧ c'.lastStreamID = c.lastStreamID ∧ c'.streamCreated = c.streamCreated

theorem Same.refl (c : Cli α) : Same c c := ⟨rfl, rfl, rfl⟩

theorem Same.cinv {c c' : Cli α} (h : Same c c') (hi : CInv c) : CInv c' := by
  obtain ⟨h1, h2, h3⟩ := h
  obtain ⟨i1, i2, i3, i4⟩ := hi
  refine ⟨?_, ?_, ?_, ?_⟩
  · rw [h1, h2]; exact i1
  · rw [h1]; exact i2
  · rw [h2]; exact i3
  · intro hc
    rw [h3] at hc
    have : ids c' = [] := by rw [h1]; simp [ids, i4 hc]
    simpa [ids] using this

theorem same_setAny (c : Cli α) (sid : Sid) (st : CStream α) : Same c (c.setAny sid st) :=
  ⟨ClientOps.ids_setAny c sid st, rfl, rfl⟩

theorem same_close (c : Cli α) (err : Option String) (b : Bool) : Same c (c.close err b).1 := by
  cases hf : c.finished with
  | some v => rw [ClientOps.close_finished c err b (ClientOps.isSome_of_eq_some hf)]; exact Same.refl c
  | none => rw [ClientOps.close_eq c err b hf]; exact ⟨ClientOps.goGen_ids _ _, rfl, rfl⟩

theorem same_tick (c : Cli α) (d : Nat) : Same c (c.tick d).1 := by
  rw [ClientOps.tick_eq]
  exact ⟨ClientOps.goGen_ids _ _, rfl, rfl⟩

theorem same_onFrame (cfg : CCfg) (c : Cli α) (sid : Sid) (f : S2C α) :
    Same c (c.onFrame cfg sid f).1 :=
  ClientOps.onFrame_elim (motive := fun r => Same c r.1) cfg c sid f (Same.refl c) (fun _ _ _ _ => ⟨rfl, rfl, rfl⟩)
    (fun _ _ _ => same_setAny c sid _) (fun _ _ => same_close c _ _)

theorem same_carrierEnds (c : Cli α) (err : Option String) : Same c (c.carrierEnds err).1 := by
  unfold Cli.carrierEnds
  split <;> exact same_close _ _ _

theorem same_onCall (cfg : CCfg) (c : Cli α) (sid : Sid) (call : CCall α) :
    Same c (c.onCall cfg sid call).1 :=
  ClientOps.onCall_elim (motive := fun r => Same c r.1) cfg c sid call (fun _ => Same.refl c)
    (fun _ _ => same_setAny c sid _) (fun _ _ _ => same_setAny c sid _) (fun _ _ _ => same_setAny c sid _)

theorem wrap64_le (x : Int) : IdRules.wrap64 x ≤ x := by
  unfold IdRules.wrap64
  split <;> omega

theorem allocate_eq (n : Int) (h0 : 0 ≤ n) (hlt : n < IdRules.maxInt64) :
    IdRules.allocate n = some (n + 1) := by
  unfold IdRules.allocate IdRules.wrap64
  unfold IdRules.maxInt64 at *
  rw [if_neg (by omega), if_neg (by omega)]

theorem newStream_shape (cfg : CCfg) (c : Cli α) (cs ss : Bool) (m : List Nat) (md : MD)
    (t : Option Nat) (cn : Bool) :
    ((c.newStream cfg cs ss m md t cn).2.2 = none ∧ (c.newStream cfg cs ss m md t cn).1 = c) ∨
    (∃ sid, IdRules.allocate c.lastStreamID = some sid ∧ c.finished = none ∧
      (c.newStream cfg cs ss m md t cn).2.2 = some sid ∧
      ids (c.newStream cfg cs ss m md t cn).1 = ids c ++ [sid] ∧
      (c.newStream cfg cs ss m md t cn).1.lastStreamID = sid ∧
      (c.newStream cfg cs ss m md t cn).1.streamCreated = true) := by
  rcases ClientOps.newStream_cases cfg c cs ss m md t cn with ⟨_, he⟩ | ⟨sid, hal, hfin, he⟩ <;> rw [he]
  · exact .inl ⟨rfl, rfl⟩
  · refine .inr ⟨sid, hal, hfin, ?_⟩
    have hg : ids (ClientOps.grown c sid (ClientOps.freshStream cfg c cs ss t)) = ids c ++ [sid] := by
      simp [ids, ClientOps.grown]
    cases cn with
    | false => exact ⟨rfl, hg, rfl, rfl⟩
    | true => exact ⟨rfl, (ClientOps.ids_setAny _ _ _).trans hg, rfl, rfl⟩

theorem cinv_newStream (cfg : CCfg) (c : Cli α) (cs ss : Bool) (m : List Nat) (md : MD)
    (t : Option Nat) (cn : Bool) (h : CInv c) (hlt : c.lastStreamID < IdRules.maxInt64) :
    CInv (c.newStream cfg cs ss m md t cn).1 := by
  rcases newStream_shape cfg c cs ss m md t cn with ⟨_, he⟩ | ⟨sid, hal, _, _, hi, hl, hc⟩
  · rw [he]; exact h
  · obtain ⟨i1, i2, i3, i4⟩ := h
    rw [allocate_eq _ i3 hlt] at hal
    have hsid : sid = c.lastStreamID + 1 := (Option.some.inj hal).symm
    refine ⟨?_, ?_, ?_, ?_⟩
    · intro i hi'
      rw [hi] at hi'; rw [hl]
      rcases List.mem_append.mp hi' with hm | hm
      · have := i1 i hm; omega
      · simp at hm; omega
    · rw [hi]
      apply List.pairwise_append.mpr
      refine ⟨i2, by simp, ?_⟩
      intro a ha b hb
      simp at hb; subst hb
      have := i1 a ha; omega
    · rw [hl]; omega
    · intro hf; rw [hc] at hf; cases hf

theorem cinv_init : CInv ({} : Cli α) := by
  refine ⟨?_, ?_, ?_, ?_⟩ <;> simp [ids]

theorem cinv_start (cfg : CCfg) : CInv (Cli.start cfg : Cli α) := by
  refine ⟨?_, ?_, ?_, ?_⟩ <;> simp [ids, Cli.start]

theorem cinv_step (cfg : CCfg) (c : Cli α) (x : CStim α) (h : CInv c)
    (hlt : c.lastStreamID < IdRules.maxInt64) : CInv (c.step cfg x).1 := by
  cases x with
  | frame sid f => exact (same_onFrame cfg c sid f).cinv h
  | new cs ss m md t cn => exact cinv_newStream cfg c cs ss m md t cn h hlt
  | call sid call => exact (same_onCall cfg c sid call).cinv h
  | tick d => exact (same_tick c d).cinv h
  | carrierEnds err => exact (same_carrierEnds c err).cinv h
  | close => exact (same_close c none false).cinv h

-- the hypothesis `lastStreamID < maxInt64` of `cinv_step` is needed: at `maxInt64` the
-- allocation wraps to a negative id, which breaks `0 ≤ lastStreamID` (and the ordering)
example :
    (({ lastStreamID := IdRules.maxInt64, streamCreated := true } : Cli Nat).newStream {} true true [] [] none false).1.lastStreamID
      = -9223372036854775808 := by rfl

theorem step_lastStreamID_le (cfg : CCfg) (c : Cli α) (x : CStim α) :
    (c.step cfg x).1.lastStreamID ≤ c.lastStreamID + 1 := by
  cases x with
  | frame sid f => have := (same_onFrame cfg c sid f).2.1; simp only [Cli.step]; omega
  | new cs ss m md t cn =>
    show (c.newStream cfg cs ss m md t cn).1.lastStreamID ≤ _
    rcases newStream_shape cfg c cs ss m md t cn with ⟨_, he⟩ | ⟨sid, hal, _, _, _, hl, _⟩
    · rw [he]; omega
    · rw [hl]
      unfold IdRules.allocate at hal
      split at hal
      · cases hal
      · have := wrap64_le (c.lastStreamID + 1)
        have := Option.some.inj hal
        omega
  | call sid call => have := (same_onCall cfg c sid call).2.1; simp only [Cli.step]; omega
  | tick d => have := (same_tick c d).2.1; simp only [Cli.step]; omega
  | carrierEnds err => have := (same_carrierEnds c err).2.1; simp only [Cli.step]; omega
  | close => have := (same_close c none false).2.1; simp only [Cli.step]; omega

theorem cinv_run (cfg : CCfg) : ∀ (xs : List (CStim α)) (c : Cli α), CInv c →
    c.lastStreamID + (xs.length : Int) ≤ IdRules.maxInt64 → CInv (Cli.run cfg c xs).1 := by
  intro xs
  induction xs with
  | nil => intro c h _; exact h
  | cons x xs ih =>
    intro c h hlen
    simp only [Cli.run]
    simp only [List.length_cons] at hlen
    have hstep := step_lastStreamID_le cfg c x
    refine ih _ (cinv_step cfg c x h (by omega)) (by omega)

/-- **C08 (client side).** From the initial state, as long as fewer than
    `2^63 - 1` stimuli were applied (so the id counter cannot have wrapped), the
    ids of the endpoint's streams are strictly increasing in creation order
    and bounded by `lastStreamID`.  That the ids are pairwise distinct needs no
    such bound: `ProjectionC.UInv`, `ProjectionC.pinv_reachable`. -/
theorem C08_client_ids_increasing (cfg : CCfg) (xs : List (CStim α))
    (hlen : (xs.length : Int) < IdRules.maxInt64) :
    (ids (Cli.run cfg (Cli.start cfg) xs).1).Pairwise (· < ·) ∧
    ∀ i ∈ ids (Cli.run cfg (Cli.start cfg) xs).1, i ≤ (Cli.run cfg (Cli.start cfg) xs).1.lastStreamID := by
  have h0 : (Cli.start cfg : Cli α).lastStreamID = 0 := rfl
  have := cinv_run cfg xs (Cli.start cfg) (cinv_start cfg) (by rw [h0]; omega)
  exact ⟨this.2.1, this.1⟩

def COut.onlySid {α} (sid : Sid) (o : COut α) : Prop :=
  (∀ f ∈ o.frames, f.1 = sid) ∧ (∀ d ∈ o.dones, d.1 = sid)

theorem onlySid_empty (sid : Sid) : COut.onlySid sid ({} : COut α) := by
  constructor <;> intro x hx <;> cases hx

theorem onlySid_mk {sid : Sid} {fr : List (Sid × C2S α)} {dn : List (Sid × String × Res α)} {ev : List String}
    (hf : ∀ f ∈ fr, f.1 = sid) (hd : ∀ d ∈ dn, d.1 = sid) :
    COut.onlySid sid ({ frames := fr, dones := dn, events := ev } : COut α) := ⟨hf, hd⟩

theorem onlySid_add {sid : Sid} {a b : COut α} (ha : COut.onlySid sid a) (hb : COut.onlySid sid b) :
    COut.onlySid sid (a.add b) := by
  refine ⟨fun f hf => ?_, fun d hd => ?_⟩
  · rcases List.mem_append.mp hf with h | h
    · exact ha.1 f h
    · exact hb.1 f h
  · rcases List.mem_append.mp hd with h | h
    · exact ha.2 d h
    · exact hb.2 d h

theorem onlySid_events (sid : Sid) (ev : List String) : COut.onlySid sid ({ events := ev } : COut α) := by
  constructor <;> intro x hx <;> cases hx

theorem onlySid_done (sid : Sid) (op : String) (r : Res α) :
    COut.onlySid sid ({ dones := [(sid, op, r)] } : COut α) := by
  constructor
  · intro x hx; cases hx
  · intro x hx; simp at hx; rw [hx]

theorem mem_map_tag {A : Type} {sid : Sid} {g : A → C2S α} {l : List A} :
    ∀ f ∈ l.map (fun x => (sid, g x)), f.1 = sid := by
  intro f hf
  obtain ⟨x, _, hx⟩ := List.mem_map.mp hf
  rw [← hx]

theorem dones_onlySid {sid : Sid} {dn : List (Sid × String × Res α)} (hd : ∀ d ∈ dn, d.1 = sid) :
    COut.onlySid sid ({ dones := dn } : COut α) := onlySid_mk mem_nil hd

theorem mem_if {A : Type} {sid : Sid} {c : Prop} [Decidable c] {a : A} : ∀ d ∈ (if c then [(sid, a)] else []), d.1 = sid := by
  intro d hd
  split at hd
  · exact mem_single d hd
  · cases hd

theorem tatom_onlySid {sid : Sid} {s s' : CStream α} {o : COut α} (h : ClientOps.TAtom sid s s' o) :
    COut.onlySid sid o := by
  cases h with
  | ctxEnds e _ =>
    refine dones_onlySid (fun d hd => ?_)
    rcases List.mem_append.mp hd with hd | hd
    · split at hd
      · exact mem_single d hd
      · cases hd
    · exact mem_if d hd
  | finPre err tr _ => exact dones_onlySid mem_if
  | cancelTail => exact onlySid_mk mem_single mem_nil
  | read r =>
    have hcf : ∀ cr, ∀ f ∈ ClientOps.readFrames sid s cr, f.1 = sid := by
      intro cr
      unfold ClientOps.readFrames
      split
      · exact mem_map_tag
      · exact mem_nil
    cases r with
    | blocked => exact onlySid_mk (hcf _) mem_nil
    | look => exact onlySid_mk (hcf _) mem_nil
    | _ => exact onlySid_mk (hcf _) mem_single

theorem sent_onlySid {sid : Sid} {s s' : CStream α} {o : COut α} (h : ClientOps.Sent sid s s' o) :
    COut.onlySid sid o := by
  cases h with
  | pending => exact onlySid_mk mem_map_tag mem_nil
  | _ => exact onlySid_mk mem_map_tag mem_single

theorem atom_onlySid {sid : Sid} {s s' : CStream α} {o : COut α} (h : ClientOps.Atom sid s s' o) :
    COut.onlySid sid o := by
  cases h with
  | tear h => exact tatom_onlySid h
  | prep h => exact onlySid_empty sid
  | sent cfg snd => exact sent_onlySid (ClientOps.pumpSend_sent cfg sid s snd)
  | upd h =>
    cases h with
    | headers md _ => exact dones_onlySid mem_if
    | halfClose => exact onlySid_mk mem_single mem_single
    | _ => exact onlySid_empty sid
  | completes => exact onlySid_done ..

theorem ctxCancelled_onlySid (sid : Sid) (s : CStream α) (e : CtxErr) :
    COut.onlySid sid (s.ctxCancelled sid e).2 :=
  (ClientOps.ctxCancelled_chain sid s e).fold_out (onlySid_empty sid) onlySid_add tatom_onlySid

theorem CStream_onFrame_onlySid (cfg : CCfg) (sid : Sid) (s : CStream α) (f : S2C α) :
    COut.onlySid sid (s.onFrame cfg sid f).2 :=
  (ClientOps.onFrame_chain cfg sid s f).fold_out (onlySid_empty sid) onlySid_add atom_onlySid

theorem CStream_onCall_onlySid (cfg : CCfg) (sid : Sid) (s : CStream α) (c : CCall α) :
    COut.onlySid sid (s.onCall cfg sid c).2 :=
  (ClientOps.onCall_chain cfg sid s c).fold_out (onlySid_empty sid) onlySid_add atom_onlySid

theorem setAny_keeps_others (c : Cli α) (sid : Sid) (st' : CStream α) :
    ∀ e ∈ c.streams, e.1 ≠ sid → e ∈ (c.setAny sid st').streams :=
  fun _ he hne => ClientOps.mem_setAny.mpr (.inl ⟨he, hne⟩)

theorem onFrame_running (cfg : CCfg) (c : Cli α) (sid : Sid) (f : S2C α) (st : CStream α)
    (hfin : c.finished = none) (hph : c.phase = .running) (hst : c.getStream sid = some st) :
    c.onFrame cfg sid f = (c.setAny sid (st.onFrame cfg sid f).1, (st.onFrame cfg sid f).2) := by
  unfold Cli.onFrame
  rw [hfin, hph, hst]
  rfl

/-- **C03 (client side), frames.** A frame for a live RPC on a running channel
    emits only for that RPC, does not end the channel, does not allocate, and
    leaves every other stream object untouched. -/
theorem client_frame_local (cfg : CCfg) (c : Cli α) (sid : Sid) (f : S2C α) (st : CStream α)
    (hfin : c.finished = none) (hph : c.phase = .running) (hst : c.getStream sid = some st) :
    COut.onlySid sid (c.onFrame cfg sid f).2 ∧ (c.onFrame cfg sid f).1.finished = none ∧
    (c.onFrame cfg sid f).1.lastStreamID = c.lastStreamID ∧
    ∀ e ∈ c.streams, e.1 ≠ sid → e ∈ (c.onFrame cfg sid f).1.streams := by
  rw [onFrame_running cfg c sid f st hfin hph hst]
  exact ⟨CStream_onFrame_onlySid .., hfin, rfl, setAny_keeps_others c sid _⟩

/-- **C03 (client side), calls.** An RPC's own calls (including cancellation)
    emit only for that RPC, never end the channel, never allocate, and leave
    every other stream object untouched. -/
theorem client_call_local (cfg : CCfg) (c : Cli α) (sid : Sid) (call : CCall α) :
    COut.onlySid sid (c.onCall cfg sid call).2 ∧ (c.onCall cfg sid call).1.finished = c.finished ∧
    (c.onCall cfg sid call).1.lastStreamID = c.lastStreamID ∧
    ∀ e ∈ c.streams, e.1 ≠ sid → e ∈ (c.onCall cfg sid call).1.streams := by
  have ho {st : CStream α} : COut.onlySid sid (st.onCall cfg sid call).2 := CStream_onCall_onlySid ..
  exact ClientOps.onCall_elim
    (motive := fun r => COut.onlySid sid r.2 ∧ r.1.finished = c.finished ∧ r.1.lastStreamID = c.lastStreamID ∧
      ∀ e ∈ c.streams, e.1 ≠ sid → e ∈ r.1.streams) cfg c sid call
    (fun _ => ⟨onlySid_events .., rfl, rfl, fun e he _ => he⟩)
    (fun _ _ => ⟨ho, rfl, rfl, setAny_keeps_others c sid _⟩)
    (fun _ _ _ => ⟨onlySid_done .., rfl, rfl, setAny_keeps_others c sid _⟩)
    (fun _ _ _ => ⟨onlySid_mk mem_nil ho.2, rfl, rfl, setAny_keeps_others c sid _⟩)

/-- frames for finished RPCs (id already allocated, stream no longer in the
    table) are discarded without any effect -/
theorem client_late_frame_ignored (cfg : CCfg) (c : Cli α) (sid : Sid) (f : S2C α)
    (hfin : c.finished = none) (hph : c.phase = .running) (hnt : c.getStream sid = none)
    (hc : c.streamCreated = true) (hle : sid ≤ c.lastStreamID) :
    c.onFrame cfg sid f = (c, {}) := by
  unfold Cli.onFrame
  rw [hfin, hph, hnt, hc]
  simp [hle]

/-- **C08 (client side), single step.** A successful `newStream` allocates
    `lastStreamID + 1` (the counter not having wrapped), emits the `new_stream`
    frame for it first, and everything it emits is tagged with the new id. -/
theorem client_newStream_ok (cfg : CCfg) (c : Cli α) (cs ss : Bool) (method : List Nat) (md : MD)
    (timeout : Option Nat) (cancelled : Bool) (sid : Sid)
    (h : (c.newStream cfg cs ss method md timeout cancelled).2.2 = some sid)
    (hlt : c.lastStreamID < IdRules.maxInt64) (h0 : 0 ≤ c.lastStreamID) :
    sid = c.lastStreamID + 1 ∧
    (c.newStream cfg cs ss method md timeout cancelled).2.1.frames.head? =
      some (sid, .newStream method md c.rev cfg.W) ∧
    (∀ f ∈ (c.newStream cfg cs ss method md timeout cancelled).2.1.frames, f.1 = sid) ∧
    COut.onlySid sid (c.newStream cfg cs ss method md timeout cancelled).2.1 := by
  rcases ClientOps.newStream_cases cfg c cs ss method md timeout cancelled with ⟨_, he⟩ | ⟨n, hal, _, he⟩ <;>
    rw [he] at h ⊢
  · cases h
  · rw [allocate_eq _ h0 hlt] at hal
    have hn : n = sid := by cases cancelled <;> exact Option.some.inj h
    have hs : sid = c.lastStreamID + 1 := hn ▸ (Option.some.inj hal).symm
    subst hn
    have key : ∀ (o : COut α), COut.onlySid n o → (∀ f ∈ o.frames, f.1 = n) ∧ COut.onlySid n o := fun _ h => ⟨h.1, h⟩
    cases cancelled with
    | true => exact ⟨hs, rfl, key _ (onlySid_add (onlySid_mk mem_single mem_single) (ctxCancelled_onlySid ..))⟩
    | false => exact ⟨hs, rfl, key _ (onlySid_mk mem_single mem_single)⟩

-- non-vacuity of the locality theorems: a live stream on a running channel exists,
-- and a frame for an already finished RPC is indeed dropped
example :
    let c := (Cli.run (α := Nat) {} (Cli.start {})
      [.frame (-1) (.settings 100 [1]), .new true true [1] [] none false, .new true true [1] [] none false]).1
    c.finished = none ∧ c.phase = .running ∧ (c.getStream 1).isSome = true ∧ ids c = [1, 2] ∧
    (c.onFrame {} 1 (.close (mkStatus 0 "") [])).2.dones.map (·.1) = [] ∧
    ((c.onFrame {} 1 (.close (mkStatus 0 "") [])).1.getStream 1).isSome = false := by
  exact ⟨rfl, rfl, rfl, rfl, rfl, rfl⟩

end Proofs.ClientInv

#print axioms Proofs.ClientInv.cinv_init
#print axioms Proofs.ClientInv.cinv_start
#print axioms Proofs.ClientInv.cinv_step
#print axioms Proofs.ClientInv.cinv_run
#print axioms Proofs.ClientInv.C08_client_ids_increasing
#print axioms Proofs.ClientInv.client_newStream_ok
#print axioms Proofs.ClientInv.cliBInv_step
#print axioms Proofs.ClientInv.cliUInv_step
#print axioms Proofs.ClientInv.C09_client_bounded
#print axioms Proofs.ClientInv.client_fc_never_unsupported
#print axioms Proofs.ClientInv.CStream_onFrame_onlySid
#print axioms Proofs.ClientInv.CStream_onCall_onlySid
#print axioms Proofs.ClientInv.client_frame_local
#print axioms Proofs.ClientInv.client_call_local
#print axioms Proofs.ClientInv.client_late_frame_ignored
