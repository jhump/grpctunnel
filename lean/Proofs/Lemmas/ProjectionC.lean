import TunnelModel.LFrame.Trace
import Proofs.Lemmas.ClientOps
import Proofs.Lemmas.Keyed
import Proofs.Lemmas.ClientInv
import Proofs.Lemmas.ClientShape
import Proofs.Lemmas.Teardown
import Proofs.Lemmas.Conformance
/-!
  The projection of the client endpoint on one of its streams.

  The theorems about the client half of an RPC are proved for ONE `CStream` object, from any
  state, under any list of stream-level events.  This file connects them to the endpoint `Cli`, a
  channel with any number of concurrent RPCs: every stream object of a reachable endpoint state is
  the result of one stream-level run on the object `Cli.newStream` installed, under an event list
  `evsOf` that holds exactly the caller's calls and the routed frames the endpoint run addressed to
  that stream, in order, and the context ends the endpoint inflicted on it; and what the endpoint
  emitted under the stream's id is what that run emitted, as far as the carrier was still there to
  take it.  `lift_count_bound` carries a stream-level bound on frames over to every endpoint run.

  Each extracted event (`tevStep`, following `Cli.step` case by case) carries a tag "the carrier is
  down when the outputs of this event are produced": `true` for the cancellation by `Cli.close`
  (every `Cli.step` runs `close` with `sendsWork = false`), `finished.isSome` for calls and ticks,
  `false` for routed frames.  `wireOut` does to an output what the endpoint does to it when the
  carrier is down.

  Plain equality of the endpoint's outputs for `sid` with the stream-level ones fails on a finished
  channel, for two reasons that are faithful to the code: (a) `Cli.close` cancels every stream in
  the table, and at stream level the context watcher's `cancelStream` emits a cancel frame, but the
  carrier is already gone, so the endpoint drops it; likewise `Cli.tick` and `Cli.onCall` drop
  frames on a finished channel; (b) `Cli.onCall` turns a `SendMsg` that would emit frames on a
  finished channel into the error "carrier-closed" (at stream level it pumps the frames and returns
  OK or the context error).  The state is not affected.  The examples at the end check this on
  RPC 2 of `exRun`.  What holds instead: equality through `wireOut`, plain equality while the
  channel is up, a sublist for frames in general, and no frame at all from a finished channel.
-/
namespace Proofs.ProjectionC
open TunnelModel TunnelModel.LFrame TunnelModel.Framing
open Proofs.ClientInv (ids COut.onlySid)
open Proofs.ClientShape (WF AllWF)
open Proofs.Teardown (CT CAll FinOut)
open Proofs.ClientOps (run_cons run_append run_inv runEv_cons runEv_append closeF tickF)
open Proofs.Keyed

variable {α : Type}

/-- what `Cli.close` inflicts on stream `sid`: its context is cancelled with the carrier already down (tag
    `true`), provided the channel is not finished yet and the stream is in the table -/
def closeEvs (c : Cli α) (sid : Sid) : List (Bool × CEv α) :=
  if c.finished.isSome then []
  else if (c.getStream sid).isSome then [(true, .ctx .canceled)] else []

def tevStep (cfg : CCfg) (sid : Sid) (c : Cli α) : CStim α → List (Bool × CEv α)
  | .frame sid' f =>
    if c.finished.isSome then []
    else if c.phase == .awaitingSettings then
      if sid' != -1 then closeEvs c sid
      else match f with
        | .settings _ revs =>
          match Negotiate.select cfg.revs revs with
          | none => closeEvs c sid
          | some _ => []
        | _ => closeEvs c sid
    else
      match c.getStream sid' with
      | some _ => if sid' = sid then [(false, .frame f)] else []
      | none => if c.streamCreated && decide (sid' ≤ c.lastStreamID) then [] else closeEvs c sid
  | .new .. => []
  | .call sid' k => if sid' = sid then [(c.finished.isSome, .call k)] else []
  | .tick d =>
    match c.getAny sid with
    | some st =>
      match st.deadline with
      | some dl => if dl ≤ c.now + d ∧ st.ctxDone.isNone then [(c.finished.isSome, .ctx .deadline)] else []
      | none => []
    | none => []
  | .carrierEnds _ => closeEvs c sid
  | .close => closeEvs c sid

def tevsOf (cfg : CCfg) (sid : Sid) : Cli α → List (CStim α) → List (Bool × CEv α)
  | _, [] => []
  | c, x :: xs => tevStep cfg sid c x ++ tevsOf cfg sid (c.step cfg x).1 xs

def evsOf (cfg : CCfg) (sid : Sid) (c : Cli α) (xs : List (CStim α)) : List (CEv α) :=
  (tevsOf cfg sid c xs).map (·.2)

def wireOut (sid : Sid) (down : Bool) (e : CEv α) (o : COut α) : COut α :=
  if down then
    match e with
    | .call (.send _) => if o.frames.isEmpty then o else { dones := [(sid, "send", .other "carrier-closed")] }
    | _ => { o with frames := [] }
  else o

/-- `CStream.runEv` on tagged events, every output seen through `wireOut`: what the endpoint emits for the
    stream, the carrier being down wherever the tag says so -/
def runEvW (cfg : CCfg) (sid : Sid) : CStream α → List (Bool × CEv α) → CStream α × List (COut α)
  | s, [] => (s, [])
  | s, (b, e) :: es =>
    let (s1, o) := s.stepEv cfg sid e
    let (s2, os) := runEvW cfg sid s1 es
    (s2, wireOut sid b e o :: os)

def framesFor (sid : Sid) (os : List (COut α)) : List (Sid × C2S α) :=
  os.flatMap (fun o => o.frames.filter (·.1 == sid))
def donesFor (sid : Sid) (os : List (COut α)) : List (Sid × String × Res α) :=
  os.flatMap (fun o => o.dones.filter (·.1 == sid))

def callOf : CEv α → Option (CCall α)
  | .call k => some k
  | _ => none

def frameOf : CEv α → Option (S2C α)
  | .frame f => some f
  | _ => none

def callsTo (sid : Sid) (xs : List (CStim α)) : List (CCall α) :=
  xs.filterMap (fun x => match x with | .call sid' k => if sid' = sid then some k else none | _ => none)

def framesTo (sid : Sid) (xs : List (CStim α)) : List (S2C α) :=
  xs.filterMap (fun x => match x with | .frame sid' f => if sid' = sid then some f else none | _ => none)

/-- the endpoint routes frames to stream `sid`: channel not finished, settings phase over, stream in the table -/
def routes (c : Cli α) (sid : Sid) : Bool :=
  c.finished.isNone && (c.phase == .running) && (c.getStream sid).isSome

/-- the frames addressed to `sid` that arrive while the endpoint routes frames to it (`routes`), in order -/
def routedTo (cfg : CCfg) (sid : Sid) : Cli α → List (CStim α) → List (S2C α)
  | _, [] => []
  | c, x :: xs =>
    (match x with
      | .frame sid' f => if sid' = sid ∧ routes c sid = true then [f] else []
      | _ => []) ++ routedTo cfg sid (c.step cfg x).1 xs

/-- the stream object `Cli.newStream` builds, before a pre-cancelled context is applied -/
def freshStream (cfg : CCfg) (c : Cli α) (cs ss : Bool) (t : Option Nat) : CStream α :=
  { cs := cs, ss := ss, fc := c.rev != 0, rcv := RcvQ.init cfg.W, win := c.peerWin,
    deadline := t.map (· + c.now) }

/-- the stream-level events of the creating step itself: a pre-cancelled context -/
def creationEvs (cn : Bool) : List (CEv α) := if cn then [.ctx .canceled] else []

/-- **`x`, applied in state `c0`, is the `NewStream` call that created stream `sid`**: the id was
    not in use, it is the one `allocate` hands out, the channel was live; `st0` is the stream
    object the step installed, i.e. the fresh object after the stream-level events of the
    creating step (`creationEvs`: a pre-cancelled context ends at once); the step emits the
    `new_stream` frame and the completion of "new", then the outputs of those events. -/
def Creates (cfg : CCfg) (c0 : Cli α) (x : CStim α) (sid : Sid) (st0 : CStream α) : Prop :=
  ∃ cs ss m md t cn, x = .new cs ss m md t cn ∧ sid ∉ ids c0 ∧
    IdRules.allocate c0.lastStreamID = some sid ∧ c0.finished = none ∧
    st0 = (CStream.runEv cfg sid (freshStream cfg c0 cs ss t) (creationEvs cn)).1 ∧
    (sid, st0) ∈ (c0.step cfg x).1.streams ∧
    (c0.step cfg x).2.frames = (sid, C2S.newStream m md c0.rev cfg.W) ::
      (CStream.runEv cfg sid (freshStream cfg c0 cs ss t) (creationEvs cn)).2.flatMap (·.frames) ∧
    (c0.step cfg x).2.dones = (sid, "new", Res.ok) ::
      (CStream.runEv cfg sid (freshStream cfg c0 cs ss t) (creationEvs cn)).2.flatMap (·.dones)

/-- the result `r` of an endpoint step agrees, for stream `sid` whose object was `st`, with the
    stream-level run of the tagged events `tes`: the object, the frames and the completions -/
def StepOK (cfg : CCfg) (sid : Sid) (st : CStream α) (tes : List (Bool × CEv α)) (r : Cli α × COut α) : Prop :=
  (sid, (runEvW cfg sid st tes).1) ∈ r.1.streams ∧
  r.2.frames.filter (·.1 == sid) = (runEvW cfg sid st tes).2.flatMap (·.frames) ∧
  r.2.dones.filter (·.1 == sid) = (runEvW cfg sid st tes).2.flatMap (·.dones) ∧
  (∀ te ∈ tes, te.1 = true → r.1.finished.isSome = true)

theorem tevStep_frame (cfg : CCfg) (sid : Sid) (c : Cli α) (sid' : Sid) (f : S2C α) :
    tevStep cfg sid c (.frame sid' f) =
      if c.finished.isSome then []
      else if c.phase == .awaitingSettings then
        if sid' != -1 then closeEvs c sid
        else match f with
          | .settings _ revs =>
            match Negotiate.select cfg.revs revs with
            | none => closeEvs c sid
            | some _ => []
          | _ => closeEvs c sid
      else
        match c.getStream sid' with
        | some _ => if sid' = sid then [(false, .frame f)] else []
        | none => if c.streamCreated && decide (sid' ≤ c.lastStreamID) then [] else closeEvs c sid := rfl

theorem tevStep_call (cfg : CCfg) (sid : Sid) (c : Cli α) (sid' : Sid) (k : CCall α) :
    tevStep cfg sid c (.call sid' k) = if sid' = sid then [(c.finished.isSome, .call k)] else [] := rfl

theorem tevStep_tick_eq (cfg : CCfg) (sid : Sid) (c : Cli α) (d : Nat) :
    tevStep cfg sid c (.tick d) =
      match c.getAny sid with
      | some st =>
        match st.deadline with
        | some dl => if dl ≤ c.now + d ∧ st.ctxDone.isNone then [(c.finished.isSome, .ctx .deadline)] else []
        | none => []
      | none => [] := rfl

theorem tevStep_tick (cfg : CCfg) (sid : Sid) (c : Cli α) (d : Nat) :
    tevStep cfg sid c (.tick d) = [] ∨ tevStep cfg sid c (.tick d) = [(c.finished.isSome, .ctx .deadline)] := by
  rw [tevStep_tick_eq]
  split
  · split
    · split
      · exact .inr rfl
      · exact .inl rfl
    · exact .inl rfl
  · exact .inl rfl

theorem run_split (cfg : CCfg) (c : Cli α) (pre : List (CStim α)) (x : CStim α) (post : List (CStim α)) :
    Cli.run cfg c (pre ++ x :: post) =
      ((Cli.run cfg ((Cli.run cfg c pre).1.step cfg x).1 post).1,
       (Cli.run cfg c pre).2 ++ ((Cli.run cfg c pre).1.step cfg x).2 ::
         (Cli.run cfg ((Cli.run cfg c pre).1.step cfg x).1 post).2) := by
  rw [run_append, run_cons]

theorem run_length (cfg : CCfg) (xs : List (CStim α)) : ∀ (c : Cli α), (Cli.run cfg c xs).2.length = xs.length := by
  induction xs with
  | nil => intro c; rfl
  | cons x xs ih => intro c; rw [run_cons, List.length_cons, List.length_cons, ih]

theorem outs_after (cfg : CCfg) (c : Cli α) (pre : List (CStim α)) (x : CStim α) (post : List (CStim α)) :
    (Cli.run cfg c (pre ++ x :: post)).2.drop (pre.length + 1) =
      (Cli.run cfg ((Cli.run cfg c pre).1.step cfg x).1 post).2 := by
  rw [run_split, ← run_length cfg pre c]
  exact List.drop_length_add_append 1

theorem runEvW_cons (cfg : CCfg) (sid : Sid) (s : CStream α) (b : Bool) (e : CEv α) (es : List (Bool × CEv α)) :
    runEvW cfg sid s ((b, e) :: es) =
      ((runEvW cfg sid (s.stepEv cfg sid e).1 es).1,
       wireOut sid b e (s.stepEv cfg sid e).2 :: (runEvW cfg sid (s.stepEv cfg sid e).1 es).2) := rfl

theorem runEvW_append (cfg : CCfg) (sid : Sid) (a b : List (Bool × CEv α)) : ∀ (s : CStream α),
    runEvW cfg sid s (a ++ b) =
      ((runEvW cfg sid (runEvW cfg sid s a).1 b).1,
       (runEvW cfg sid s a).2 ++ (runEvW cfg sid (runEvW cfg sid s a).1 b).2) := by
  induction a with
  | nil => intro s; rfl
  | cons te a ih =>
    obtain ⟨t, e⟩ := te
    intro s
    simp only [List.cons_append, runEvW_cons, ih]

theorem framesFor_cons (sid : Sid) (o : COut α) (os : List (COut α)) :
    framesFor sid (o :: os) = o.frames.filter (·.1 == sid) ++ framesFor sid os := rfl
theorem donesFor_cons (sid : Sid) (o : COut α) (os : List (COut α)) :
    donesFor sid (o :: os) = o.dones.filter (·.1 == sid) ++ donesFor sid os := rfl

theorem framesFor_append (sid : Sid) (a b : List (COut α)) :
    framesFor sid (a ++ b) = framesFor sid a ++ framesFor sid b := List.flatMap_append

theorem tagged_of_onlySid {sid : Sid} {os : List (COut α)} (h : ∀ o ∈ os, COut.onlySid sid o) :
    (∀ f ∈ os.flatMap (·.frames), f.1 = sid) ∧ (∀ d ∈ os.flatMap (·.dones), d.1 = sid) := by
  constructor
  · intro f hf
    obtain ⟨o, ho, hfo⟩ := List.mem_flatMap.mp hf
    exact (h o ho).1 f hfo
  · intro d hd
    obtain ⟨o, ho, hdo⟩ := List.mem_flatMap.mp hd
    exact (h o ho).2 d hdo

theorem stepEv_onlySid (cfg : CCfg) (sid : Sid) (s : CStream α) (e : CEv α) :
    COut.onlySid sid (s.stepEv cfg sid e).2 := by
  cases e with
  | frame f => exact ClientInv.CStream_onFrame_onlySid cfg sid s f
  | call k => exact ClientInv.CStream_onCall_onlySid cfg sid s k
  | ctx e => exact ClientInv.ctxCancelled_onlySid sid s e

theorem runEv_tagged (cfg : CCfg) (sid : Sid) (evs : List (CEv α)) (s : CStream α) :
    (∀ f ∈ (CStream.runEv cfg sid s evs).2.flatMap (·.frames), f.1 = sid) ∧
    (∀ d ∈ (CStream.runEv cfg sid s evs).2.flatMap (·.dones), d.1 = sid) :=
  tagged_of_onlySid fun o ho => by
    obtain ⟨s₁, ev, rfl⟩ := ClientOps.runEv_out cfg sid evs s o ho
    exact stepEv_onlySid cfg sid s₁ ev

/-- an output that starts with a frame and a completion under `n` and goes on with the outputs
    of a stream-level run under `n`, as that of a successful `NewStream` does -/
theorem onlySid_created {cfg : CCfg} {n : Sid} {s : CStream α} {evs : List (CEv α)} {o : COut α}
    {f : C2S α} {d : String × Res α}
    (hfr : o.frames = (n, f) :: (CStream.runEv cfg n s evs).2.flatMap (·.frames))
    (hdn : o.dones = (n, d) :: (CStream.runEv cfg n s evs).2.flatMap (·.dones)) : COut.onlySid n o := by
  obtain ⟨t1, t2⟩ := runEv_tagged cfg n evs s
  constructor
  · rw [hfr]; exact List.forall_mem_cons.mpr ⟨rfl, t1⟩
  · rw [hdn]; exact List.forall_mem_cons.mpr ⟨rfl, t2⟩

theorem wireOut_quiet (sid : Sid) (b : Bool) (e : CEv α) {o : COut α} (h : o.frames = []) :
    wireOut sid b e o = o := by
  cases b with
  | false => rfl
  | true =>
    simp only [wireOut, if_true]
    split
    · rw [if_pos (List.isEmpty_iff.mpr h)]
    · cases o; cases h; rfl

theorem wireOut_down_send (sid : Sid) (m : List α) {o : COut α} (h : o.frames.isEmpty = false) :
    wireOut sid true (.call (.send m)) o = { dones := [(sid, "send", .other "carrier-closed")] } := by
  show (if o.frames.isEmpty = true then o else _) = _
  rw [h]
  rfl

theorem wireOut_frames (sid : Sid) (b : Bool) (e : CEv α) (o : COut α) :
    (wireOut sid b e o).frames = if b then [] else o.frames := by
  cases b with
  | false => rfl
  | true =>
    simp only [wireOut, if_true]
    split
    · split
      · rename_i h; exact List.isEmpty_iff.mp h
      · rfl
    · rfl

theorem wireOut_onlySid {sid : Sid} (b : Bool) (e : CEv α) {o : COut α} (h : COut.onlySid sid o) :
    COut.onlySid sid (wireOut sid b e o) := by
  cases b with
  | false => exact h
  | true =>
    simp only [wireOut, if_true]
    split
    · split
      · exact h
      · exact ClientInv.onlySid_done ..
    · exact ClientInv.onlySid_mk mem_nil h.2

theorem runEvW_tagged (cfg : CCfg) (sid : Sid) (tes : List (Bool × CEv α)) (s : CStream α) :
    (∀ f ∈ (runEvW cfg sid s tes).2.flatMap (·.frames), f.1 = sid) ∧
    (∀ d ∈ (runEvW cfg sid s tes).2.flatMap (·.dones), d.1 = sid) := by
  refine tagged_of_onlySid ?_
  induction tes generalizing s with
  | nil => intro o ho; cases ho
  | cons te tes ih =>
    obtain ⟨b, e⟩ := te
    intro o ho
    rw [runEvW_cons] at ho
    rcases List.mem_cons.mp ho with rfl | ho
    · exact wireOut_onlySid b e (stepEv_onlySid cfg sid s e)
    · exact ih _ o ho

theorem framesFor_runEv (cfg : CCfg) (sid : Sid) (s : CStream α) (evs : List (CEv α)) :
    framesFor sid (CStream.runEv cfg sid s evs).2 = (CStream.runEv cfg sid s evs).2.flatMap (·.frames) :=
  flatMap_filter_tagged (runEv_tagged cfg sid evs s).1
theorem donesFor_runEv (cfg : CCfg) (sid : Sid) (s : CStream α) (evs : List (CEv α)) :
    donesFor sid (CStream.runEv cfg sid s evs).2 = (CStream.runEv cfg sid s evs).2.flatMap (·.dones) :=
  flatMap_filter_tagged (runEv_tagged cfg sid evs s).2
theorem framesFor_runEvW (cfg : CCfg) (sid : Sid) (s : CStream α) (tes : List (Bool × CEv α)) :
    framesFor sid (runEvW cfg sid s tes).2 = (runEvW cfg sid s tes).2.flatMap (·.frames) :=
  flatMap_filter_tagged (runEvW_tagged cfg sid tes s).1
theorem runEvW_fst (cfg : CCfg) (sid : Sid) (tes : List (Bool × CEv α)) : ∀ (s : CStream α),
    (runEvW cfg sid s tes).1 = (CStream.runEv cfg sid s (tes.map (·.2))).1 := by
  induction tes with
  | nil => intro s; rfl
  | cons te tes ih =>
    obtain ⟨t, e⟩ := te
    intro s
    simp only [List.map_cons, runEvW_cons, runEv_cons, ih]

theorem runEvW_live (cfg : CCfg) (sid : Sid) (tes : List (Bool × CEv α)) (h : ∀ te ∈ tes, te.1 = false) :
    ∀ (s : CStream α), runEvW cfg sid s tes = CStream.runEv cfg sid s (tes.map (·.2)) := by
  induction tes with
  | nil => intro s; rfl
  | cons te tes ih =>
    obtain ⟨t, e⟩ := te
    intro s
    have ht : t = false := h (t, e) List.mem_cons_self
    subst ht
    rw [List.map_cons, runEvW_cons, runEv_cons, ih (fun te hte => h te (List.mem_cons_of_mem _ hte))]
    rfl

theorem runEvW_frames_sublist (cfg : CCfg) (sid : Sid) (tes : List (Bool × CEv α)) : ∀ (s : CStream α),
    ((runEvW cfg sid s tes).2.flatMap (·.frames)).Sublist
      ((CStream.runEv cfg sid s (tes.map (·.2))).2.flatMap (·.frames)) := by
  induction tes with
  | nil => intro s; exact List.Sublist.refl _
  | cons te tes ih =>
    obtain ⟨b, e⟩ := te
    intro s
    simp only [List.map_cons, runEvW_cons, runEv_cons, List.flatMap_cons, wireOut_frames]
    refine List.Sublist.append ?_ (ih _)
    cases b
    · exact List.Sublist.refl _
    · exact List.nil_sublist _

theorem mem_ids {c : Cli α} {sid : Sid} {st : CStream α} (h : (sid, st) ∈ c.streams) : sid ∈ ids c :=
  List.mem_map.mpr ⟨(sid, st), h, rfl⟩

theorem mem_unique {c : Cli α} (hu : (ids c).Nodup) {sid : Sid} {a b : CStream α}
    (ha : (sid, a) ∈ c.streams) (hb : (sid, b) ∈ c.streams) : a = b := by
  have key := fun x (h : (sid, x) ∈ c.streams) =>
    flatMap_filter_key (g := fun e => [e]) (fun e y hy => by rw [List.mem_singleton.mp hy]) c.streams hu h
  cases (key a ha).symm.trans (key b hb)
  rfl

theorem getAny_of_mem {c : Cli α} (hu : (ids c).Nodup) {sid : Sid} {st : CStream α}
    (h : (sid, st) ∈ c.streams) : c.getAny sid = some st := by
  cases hg : c.getAny sid with
  | some st' => rw [mem_unique hu h (ClientOps.getAny_mem hg)]
  | none =>
    simp only [Cli.getAny, Option.map_eq_none_iff, List.find?_eq_none] at hg
    exact absurd (beq_self_eq_true sid) (hg _ h)

theorem setAny_mem_self {c : Cli α} {sid : Sid} {st : CStream α} (st' : CStream α)
    (h : (sid, st) ∈ c.streams) : (sid, st') ∈ (c.setAny sid st').streams :=
  ClientOps.mem_setAny.mpr (.inr ⟨rfl, (sid, st), h, rfl⟩)

theorem setAny_mem_other {c : Cli α} {sid sid' : Sid} {st : CStream α} (st' : CStream α)
    (h : (sid, st) ∈ c.streams) (hne : sid' ≠ sid) : (sid, st) ∈ (c.setAny sid' st').streams :=
  ClientOps.mem_setAny.mpr (.inl ⟨h, fun e => hne e.symm⟩)

theorem newStream_creates (cfg : CCfg) (c : Cli α) (cs ss : Bool) (m : List Nat) (md : MD)
    (t : Option Nat) (cn : Bool) :
    (∃ msg, c.newStream cfg cs ss m md t cn = (c, { dones := [(0, "new", .other msg)] }, none)) ∨
    (∃ n, IdRules.allocate c.lastStreamID = some n ∧ c.finished = none ∧
      ids (c.newStream cfg cs ss m md t cn).1 = ids c ++ [n] ∧
      (c.newStream cfg cs ss m md t cn).1.lastStreamID = n ∧
      (∀ e ∈ c.streams, e.1 ≠ n → e ∈ (c.newStream cfg cs ss m md t cn).1.streams) ∧
      (n, (CStream.runEv cfg n (freshStream cfg c cs ss t) (creationEvs cn)).1) ∈
        (c.newStream cfg cs ss m md t cn).1.streams ∧
      (c.newStream cfg cs ss m md t cn).2.1.frames =
        (n, C2S.newStream m md c.rev cfg.W) ::
          (CStream.runEv cfg n (freshStream cfg c cs ss t) (creationEvs cn)).2.flatMap (·.frames) ∧
      (c.newStream cfg cs ss m md t cn).2.1.dones =
        (n, "new", Res.ok) ::
          (CStream.runEv cfg n (freshStream cfg c cs ss t) (creationEvs cn)).2.flatMap (·.dones)) := by
  rcases ClientOps.newStream_cases cfg c cs ss m md t cn with h | ⟨n, hal, hfin, e⟩
  · exact .inl h
  · refine .inr ⟨n, hal, hfin, ?_⟩
    have hg : ids (ClientOps.grown c n (freshStream cfg c cs ss t)) = ids c ++ [n] := List.map_append
    have hlast : (n, freshStream cfg c cs ss t) ∈ (ClientOps.grown c n (freshStream cfg c cs ss t)).streams :=
      List.mem_append_right _ (List.mem_singleton.mpr rfl)
    cases cn with
    | false =>
      rw [e, if_neg (by decide)]
      exact ⟨hg, rfl, fun e he _ => List.mem_append_left _ he, hlast, rfl, rfl⟩
    | true =>
      rw [e, if_pos rfl]
      refine ⟨(ClientOps.ids_setAny ..).trans hg, rfl,
        fun e he hne => ClientOps.mem_setAny.mpr (.inl ⟨List.mem_append_left _ he, hne⟩),
        setAny_mem_self _ hlast, ?_, ?_⟩
      · exact congrArg _ (List.flatMap_singleton ..).symm
      · exact congrArg _ (List.flatMap_singleton ..).symm

theorem step_same_or_new (cfg : CCfg) (c : Cli α) (x : CStim α) :
    ClientInv.Same c (c.step cfg x).1 ∨ ∃ cs ss m md t cn, x = .new cs ss m md t cn := by
  cases x with
  | frame sid f => exact .inl (ClientInv.same_onFrame cfg c sid f)
  | new cs ss m md t cn => exact .inr ⟨cs, ss, m, md, t, cn, rfl⟩
  | call sid call => exact .inl (ClientInv.same_onCall cfg c sid call)
  | tick d => exact .inl (ClientInv.same_tick c d)
  | carrierEnds err => exact .inl (ClientInv.same_carrierEnds c err)
  | close => exact .inl (ClientInv.same_close c none false)

theorem ids_step_subset (cfg : CCfg) (c : Cli α) (x : CStim α) {sid : Sid} (h : sid ∈ ids c) :
    sid ∈ ids (c.step cfg x).1 := by
  rcases step_same_or_new cfg c x with hs | ⟨cs, ss, m, md, t, cn, rfl⟩
  · exact hs.1 ▸ h
  · show sid ∈ ids (c.newStream cfg cs ss m md t cn).1
    rcases newStream_creates cfg c cs ss m md t cn with ⟨_, he⟩ | ⟨n, _, _, hids, _⟩
    · rw [he]; exact h
    · rw [hids]; exact List.mem_append_left _ h

theorem creates_of_new_id (cfg : CCfg) (c : Cli α) (x : CStim α) (sid : Sid)
    (h0 : sid ∉ ids c) (h1 : sid ∈ ids (c.step cfg x).1) :
    ∃ st0, Creates cfg c x sid st0 := by
  rcases step_same_or_new cfg c x with hs | ⟨cs, ss, m, md, t, cn, rfl⟩
  · exact (h0 (hs.1 ▸ h1)).elim
  · change sid ∈ ids (c.newStream cfg cs ss m md t cn).1 at h1
    rcases newStream_creates cfg c cs ss m md t cn with ⟨_, e⟩ | ⟨n, hal, hfin, hids, _, _, hmem, hfr, hdn⟩
    · rw [e] at h1; exact (h0 h1).elim
    · rw [hids] at h1
      have hn : sid = n := (List.mem_append.mp h1).elim (fun h => (h0 h).elim) List.mem_singleton.mp
      subst hn
      exact ⟨_, cs, ss, m, md, t, cn, rfl, h0, hal, hfin, rfl, hmem, hfr, hdn⟩

theorem Creates.mem {cfg : CCfg} {c0 : Cli α} {x : CStim α} {sid : Sid} {st0 : CStream α}
    (h : Creates cfg c0 x sid st0) : (sid, st0) ∈ (c0.step cfg x).1.streams := by
  obtain ⟨_, _, _, _, _, _, _, _, _, _, _, hmem, _⟩ := h
  exact hmem

/-- stream ids are pairwise distinct and never `0`; the id counter has not passed `maxInt64`; while
    the counter is non-negative every id is positive and at most the counter.  Unlike
    `ClientInv.CInv` this survives the wrap-around of the counter (the one negative id allocated
    at `maxInt64` is still new, and nothing is allocated afterwards), so it holds in EVERY
    reachable state, without a bound on the length of the run.
    (`ClientInv.UInv` is another thing: a flow-controlled stream is never `unsupported`.) -/
def UInv (c : Cli α) : Prop :=
  (ids c).Nodup ∧ c.lastStreamID ≤ IdRules.maxInt64 ∧ (∀ i ∈ ids c, i ≠ 0) ∧
  (0 ≤ c.lastStreamID → ∀ i ∈ ids c, 0 < i ∧ i ≤ c.lastStreamID)

/-- `allocate` counts up from a non-negative counter; at `maxInt64` the result wraps to a negative id -/
theorem allocate_some {l n : Int} (hl : l ≤ IdRules.maxInt64) (h : IdRules.allocate l = some n) :
    0 ≤ l ∧ n ≠ 0 ∧ n ≤ IdRules.maxInt64 ∧ (n < 0 ∨ l < n) := by
  unfold IdRules.allocate IdRules.wrap64 at h
  unfold IdRules.maxInt64 at *
  split at h
  · cases h
  · have hn := Option.some.inj h
    split at hn <;> omega

theorem alloc_fresh {c : Cli α} (hi : UInv c) {n : Int} (h : IdRules.allocate c.lastStreamID = some n) :
    n ∉ ids c ∧ n ≠ 0 ∧ n ≤ IdRules.maxInt64 ∧ (0 ≤ n → ∀ i ∈ ids c, 0 < i ∧ i ≤ n) ∧ (0 ≤ n → 0 < n) := by
  obtain ⟨_, h2, _, h4⟩ := hi
  obtain ⟨h0, hn0, hmax, hlt⟩ := allocate_some h2 h
  refine ⟨fun hm => ?_, hn0, hmax, fun hp i hm => ?_, fun hp => by omega⟩
  · have := h4 h0 n hm; omega
  · have := h4 h0 i hm; omega

theorem uinv_step (cfg : CCfg) (c : Cli α) (x : CStim α) (hi : UInv c) : UInv (c.step cfg x).1 := by
  rcases step_same_or_new cfg c x with hs | ⟨cs, ss, m, md, t, cn, rfl⟩
  · obtain ⟨h1, h2, _⟩ := hs
    unfold UInv
    rw [h1, h2]
    exact hi
  · show UInv (c.newStream cfg cs ss m md t cn).1
    rcases newStream_creates cfg c cs ss m md t cn with ⟨_, he⟩ | ⟨n, hal, _, hids, hl, _⟩
    · rw [he]; exact hi
    · obtain ⟨f1, f2, f3, f4, f5⟩ := alloc_fresh hi hal
      obtain ⟨i1, _, i3, _⟩ := hi
      unfold UInv
      rw [hids, hl]
      refine ⟨List.nodup_append.mpr ⟨i1, List.pairwise_singleton _ n, fun a ha b hb hab => ?_⟩, f3,
        List.forall_mem_append.mpr ⟨i3, List.forall_mem_singleton.mpr f2⟩,
        fun hp => List.forall_mem_append.mpr ⟨f4 hp, List.forall_mem_singleton.mpr ⟨f5 hp, Int.le_refl n⟩⟩⟩
      rw [List.mem_singleton.mp hb] at hab
      exact f1 (hab ▸ ha)

/-- everything the projection needs of an endpoint state; holds in every reachable state -/
structure PInv (c : Cli α) : Prop where
  wf : AllWF c
  ct : CAll CT c
  fo : FinOut c
  u : UInv c

theorem pinv_start (cfg : CCfg) : PInv (Cli.start cfg : Cli α) := by
  refine ⟨ClientShape.start_AllWF cfg, ClientInv.allS_start cfg _, fun h => ?_,
    List.nodup_nil, ?_, fun _ h => ?_, fun _ _ h => ?_⟩
  · cases h
  · show (0 : Int) ≤ 9223372036854775807
    decide
  · cases h
  · cases h

theorem pinv_step (cfg : CCfg) (c : Cli α) (x : CStim α) (h : PInv c) : PInv (c.step cfg x).1 :=
  ⟨ClientShape.step_AllWF cfg c x h.wf, Teardown.step_ct cfg c x h.ct,
   Teardown.finOut_step cfg c x h.wf h.fo, uinv_step cfg c x h.u⟩

theorem pinv_run (cfg : CCfg) (xs : List (CStim α)) (c : Cli α) (h : PInv c) : PInv (Cli.run cfg c xs).1 :=
  run_inv (pinv_step cfg) xs c h

theorem pinv_reachable (cfg : CCfg) (xs : List (CStim α)) : PInv (Cli.run cfg (Cli.start cfg : Cli α) xs).1 :=
  pinv_run cfg xs _ (pinv_start cfg)

theorem StepOK.nil {cfg : CCfg} {sid : Sid} {st : CStream α} {r : Cli α × COut α}
    (h1 : (sid, st) ∈ r.1.streams) (h2 : r.2.frames.filter (·.1 == sid) = [])
    (h3 : r.2.dones.filter (·.1 == sid) = []) : StepOK cfg sid st [] r :=
  ⟨h1, h2, h3, fun _ hte => nomatch hte⟩

theorem StepOK.single {cfg : CCfg} {sid : Sid} {st : CStream α} {r : Cli α × COut α} {b : Bool} {e : CEv α}
    (h1 : (sid, (st.stepEv cfg sid e).1) ∈ r.1.streams)
    (h2 : r.2.frames.filter (·.1 == sid) = (wireOut sid b e (st.stepEv cfg sid e).2).frames)
    (h3 : r.2.dones.filter (·.1 == sid) = (wireOut sid b e (st.stepEv cfg sid e).2).dones)
    (h4 : b = true → r.1.finished.isSome = true) :
    StepOK cfg sid st [(b, e)] r :=
  ⟨h1, h2.trans (List.flatMap_singleton ..).symm, h3.trans (List.flatMap_singleton ..).symm,
   fun te hte hb => by rw [List.mem_singleton.mp hte] at hb; exact h4 hb⟩

theorem onlySid_of_cases {sid : Sid} {st : CStream α} {e : CtxErr} {p : CStream α × COut α}
    (h : p = st.ctxCancelled sid e ∨ p = (st, {})) : COut.onlySid sid p.2 := by
  rcases h with h | h <;> rw [h]
  · exact ClientInv.ctxCancelled_onlySid ..
  · exact ClientInv.onlySid_empty sid

theorem close_false_frames (c : Cli α) (err : Option String) : (c.close err false).2.frames = [] := by
  cases hfin : c.finished with
  | some e => rw [ClientOps.close_finished c err false (by rw [hfin]; rfl)]
  | none => rw [ClientOps.close_eq c err false hfin]; rfl

theorem tick_frames (c : Cli α) (d : Nat) :
    (c.tick d).2.frames =
      if c.finished.isSome then [] else c.streams.flatMap (fun e => (tickF (c.now + d) e.1 e.2).2.frames) := by
  rw [ClientOps.tick_eq]
  split
  · rfl
  · exact ClientOps.goGen_frames ..

/-- A step `r` that applies `f` to every stream object, drops the frames iff `b`, and leaves the
    channel finished if `b`: for the stream `sid` it is no event where `f` leaves the object alone,
    and the context end `e`, tagged `b`, where `f` is `ctxCancelled sid e`. -/
theorem StepOK.ofGo {cfg : CCfg} {c : Cli α} {f : Sid → CStream α → CStream α × COut α}
    (hf : ∀ k s, COut.onlySid k (f k s).2) (hu : (ids c).Nodup) {sid : Sid} {st : CStream α}
    (hm : (sid, st) ∈ c.streams) {r : Cli α × COut α} {b : Bool}
    (h1 : r.1.streams = c.streams.map (fun e => (e.1, (f e.1 e.2).1)))
    (h2 : r.2.frames = if b then [] else c.streams.flatMap (fun e => (f e.1 e.2).2.frames))
    (h3 : r.2.dones = c.streams.flatMap (fun e => (f e.1 e.2).2.dones))
    (h4 : b = true → r.1.finished.isSome = true) :
    (f sid st = (st, {}) → StepOK cfg sid st [] r) ∧
    (∀ e, f sid st = st.ctxCancelled sid e → StepOK cfg sid st [(b, .ctx e)] r) := by
  have hmem : (sid, (f sid st).1) ∈ r.1.streams := h1 ▸ List.mem_map.mpr ⟨(sid, st), hm, rfl⟩
  have hfr : r.2.frames.filter (·.1 == sid) = if b then [] else (f sid st).2.frames := by
    rw [h2]
    cases b
    · exact flatMap_filter_key (fun e => (hf e.1 e.2).1) _ hu hm
    · rfl
  have hdn : r.2.dones.filter (·.1 == sid) = (f sid st).2.dones := by
    rw [h3]
    exact flatMap_filter_key (fun e => (hf e.1 e.2).2) _ hu hm
  constructor
  · intro hc
    rw [hc] at hmem hdn hfr
    exact StepOK.nil hmem (by rw [hfr]; cases b <;> rfl) hdn
  · intro e hc
    rw [hc] at hmem hdn hfr
    exact StepOK.single hmem (by rw [hfr, wireOut_frames]; rfl) (by rw [hdn]; cases b <;> rfl) h4

theorem close_proj (cfg : CCfg) (c : Cli α) (err : Option String) (sid : Sid) (st : CStream α)
    (hu : (ids c).Nodup) (hm : (sid, st) ∈ c.streams) :
    StepOK cfg sid st (closeEvs c sid) (c.close err false) := by
  cases hfin : c.finished with
  | some e =>
    have hf : c.finished.isSome = true := by rw [hfin]; rfl
    rw [ClientOps.close_finished c err false hf, closeEvs, if_pos hf]
    exact StepOK.nil hm rfl rfl
  | none =>
    have e := ClientOps.close_eq c err false hfin
    obtain ⟨hq, hc⟩ := StepOK.ofGo (cfg := cfg) (b := true) (r := c.close err false)
      (fun k s => onlySid_of_cases (ClientOps.closeF_cases k s)) hu hm
      (by rw [e]; exact ClientOps.goGen_fst ..) (by rw [e]; rfl)
      (by rw [e]; exact (List.append_nil _).trans (ClientOps.goGen_dones ..))
      (fun _ => Teardown.close_finished c err false)
    rw [closeEvs, hfin, if_neg (by decide)]
    cases hg : c.getStream sid with
    | some st' =>
      obtain ⟨hm', ht⟩ := ClientOps.getStream_mem hg
      cases mem_unique hu hm hm'
      exact hc .canceled (if_pos ht)
    | none =>
      simp only [Cli.getStream, Option.map_eq_none_iff, List.find?_eq_none] at hg
      exact hq (if_neg fun ht => hg _ hm (Bool.and_eq_true_iff.mpr ⟨beq_self_eq_true sid, ht⟩))

theorem tick_proj (cfg : CCfg) (c : Cli α) (d : Nat) (sid : Sid) (st : CStream α)
    (hu : (ids c).Nodup) (hm : (sid, st) ∈ c.streams) :
    StepOK cfg sid st (tevStep cfg sid c (.tick d)) (c.tick d) := by
  obtain ⟨hq, hc⟩ := StepOK.ofGo (cfg := cfg) (r := c.tick d)
    (fun k s => onlySid_of_cases (ClientOps.tickF_cases (c.now + d) k s)) hu hm
    (by rw [ClientOps.tick_eq]; exact ClientOps.goGen_fst ..) (tick_frames c d)
    (by rw [ClientOps.tick_eq]; split <;> exact ClientOps.goGen_dones ..)
    (fun hb => by rw [Teardown.tick_finished]; exact hb)
  rw [tevStep_tick_eq, getAny_of_mem hu hm]
  simp only []
  cases hdl : st.deadline with
  | none => exact hq (by simp only [tickF, hdl])
  | some dl =>
    simp only []
    by_cases hle : dl ≤ c.now + d
    · have hF : tickF (c.now + d) sid st = st.ctxCancelled sid .deadline := by
        simp only [tickF, hdl, hle, if_true]
      cases hcd : st.ctxDone with
      | some x =>
        -- `tick` cancels the context again: nothing happens, and no event is extracted
        rw [if_neg (fun h => by cases h.2)]
        exact hq (hF.trans (ClientOps.ctxCancelled_done sid st _ (by rw [hcd]; rfl)))
      | none => rw [if_pos ⟨hle, rfl⟩]; exact hc .deadline hF
    · rw [if_neg (fun h => hle h.1)]
      exact hq (by simp only [tickF, hdl, hle, if_false])

theorem routes_iff (c : Cli α) (sid : Sid) :
    routes c sid = true ↔ c.finished = none ∧ c.phase = .running ∧ ∃ st, c.getStream sid = some st := by
  simp only [routes, Bool.and_eq_true, beq_iff_eq, Option.isNone_iff_eq_none, Option.isSome_iff_exists, and_assoc]

theorem routes_spec (cfg : CCfg) (c : Cli α) (sid : Sid) (f : S2C α) (h : routes c sid = true) :
    ∃ st, c.getStream sid = some st ∧
      c.onFrame cfg sid f = (c.setAny sid (st.onFrame cfg sid f).1, (st.onFrame cfg sid f).2) := by
  obtain ⟨hfin, hph, st, hg⟩ := (routes_iff c sid).mp h
  exact ⟨st, hg, ClientInv.onFrame_running cfg c sid f st hfin hph hg⟩

theorem tevStep_frame_routed (cfg : CCfg) (c : Cli α) (sid' : Sid) (f : S2C α) (h : routes c sid' = true)
    (sid : Sid) : tevStep cfg sid c (.frame sid' f) = if sid' = sid then [(false, .frame f)] else [] := by
  obtain ⟨hfin, hph, st, hg⟩ := (routes_iff c sid').mp h
  have hnp : (c.phase == Phase.awaitingSettings) = false := by rw [hph]; rfl
  rw [tevStep_frame, hfin, hnp, hg]
  rfl

theorem onFrame_unrouted (cfg : CCfg) (c : Cli α) (sid' : Sid) (f : S2C α) (h : routes c sid' = false)
    (sid : Sid) :
    ((c.onFrame cfg sid' f).1.streams = c.streams ∧ (c.onFrame cfg sid' f).2.frames = [] ∧
      (c.onFrame cfg sid' f).2.dones = [] ∧ tevStep cfg sid c (.frame sid' f) = []) ∨
    (∃ err, c.onFrame cfg sid' f = c.close err false ∧ tevStep cfg sid c (.frame sid' f) = closeEvs c sid) := by
  cases hfin : c.finished with
  | some e =>
    have hf : c.finished.isSome = true := by rw [hfin]; rfl
    rw [Teardown.finished_ignores_frames cfg c sid' f hf]
    exact .inl ⟨rfl, rfl, rfl, by rw [tevStep_frame, if_pos hf]⟩
  | none =>
    unfold Cli.onFrame
    rw [tevStep_frame]
    simp only [hfin, Option.isSome_none, Bool.false_eq_true, if_false]
    cases hph : c.phase with
    | awaitingSettings =>
      simp only [beq_self_eq_true, if_true, Cli.onSettingsPhase]
      cases (sid' != -1) with
      | true => exact .inr ⟨_, rfl, rfl⟩
      | false =>
        cases f with
        | settings win revs =>
          simp only []
          cases Negotiate.select cfg.revs revs with
          | none => exact .inr ⟨_, rfl, rfl⟩
          | some r => exact .inl ⟨rfl, rfl, rfl, rfl⟩
        | _ => exact .inr ⟨_, rfl, rfl⟩
    | running =>
      have hnp : (Phase.running == Phase.awaitingSettings) = false := rfl
      cases hg : c.getStream sid' with
      | some st => rw [(routes_iff c sid').mpr ⟨hfin, hph, st, hg⟩] at h; cases h
      | none =>
        simp only [hnp, Bool.false_eq_true, if_false]
        split
        · exact .inl ⟨rfl, rfl, rfl, rfl⟩
        · exact .inr ⟨_, rfl, rfl⟩

theorem onFrame_proj (cfg : CCfg) (c : Cli α) (sid' : Sid) (f : S2C α) (sid : Sid) (st : CStream α)
    (hu : (ids c).Nodup) (hm : (sid, st) ∈ c.streams) :
    StepOK cfg sid st (tevStep cfg sid c (.frame sid' f)) (c.onFrame cfg sid' f) := by
  cases hr : routes c sid' with
  | true =>
    obtain ⟨st', hg, he⟩ := routes_spec cfg c sid' f hr
    rw [he, tevStep_frame_routed cfg c sid' f hr sid]
    have ho := ClientInv.CStream_onFrame_onlySid cfg sid' st' f
    by_cases hs : sid' = sid
    · subst hs
      cases mem_unique hu hm (ClientOps.getStream_mem hg).1
      rw [if_pos rfl]
      exact StepOK.single (setAny_mem_self _ hm) (filter_eq_self_of_tag ho.1) (filter_eq_self_of_tag ho.2)
        (fun hb => nomatch hb)
    · rw [if_neg hs]
      exact StepOK.nil (setAny_mem_other _ hm hs) (filter_eq_nil_of_tag ho.1 hs) (filter_eq_nil_of_tag ho.2 hs)
  | false =>
    rcases onFrame_unrouted cfg c sid' f hr sid with ⟨h1, h2, h3, h4⟩ | ⟨err, he, ht⟩
    · rw [h4]
      exact StepOK.nil (h1 ▸ hm) (by rw [h2]; rfl) (by rw [h3]; rfl)
    · rw [he, ht]
      exact close_proj cfg c err sid st hu hm

theorem onCall_eq (cfg : CCfg) (c : Cli α) (sid : Sid) (k : CCall α) (st : CStream α)
    (h : c.getAny sid = some st) :
    (c.onCall cfg sid k).2 = wireOut sid c.finished.isSome (.call k) (st.onCall cfg sid k).2 ∧
    ((c.onCall cfg sid k).1 = c.setAny sid (st.onCall cfg sid k).1 ∨
     (c.finished.isSome = true ∧
      (c.onCall cfg sid k).1 = c.setAny sid { (st.onCall cfg sid k).1 with psend := none })) := by
  unfold Cli.onCall
  rw [h]
  simp only []
  cases hf : c.finished.isSome with
  | false => exact ⟨rfl, .inl rfl⟩
  | true =>
    cases hfe : (st.onCall cfg sid k).2.frames.isEmpty with
    | true => exact ⟨(wireOut_quiet sid true _ (List.isEmpty_iff.mp hfe)).symm, .inl rfl⟩
    | false =>
      cases k with
      | send m => exact ⟨(wireOut_down_send sid m hfe).symm, .inr ⟨rfl, rfl⟩⟩
      | _ => exact ⟨rfl, .inl rfl⟩

/-- on a finished channel no call leaves a send pending (every stream is settled there) -/
theorem finished_psend_none (cfg : CCfg) {c : Cli α} (hinv : PInv c) (hf : c.finished.isSome = true)
    {sid : Sid} {st : CStream α} (hm : (sid, st) ∈ c.streams) (k : CCall α) :
    (st.onCall cfg sid k).1.psend = none := by
  have ht : st.inTable = false := hinv.fo hf (sid, st) hm
  cases hd : st.done with
  | none => have := hinv.ct (sid, st) hm hd; rw [ht] at this; cases this
  | some e =>
    have hd' := ClientShape.onCall_keeps_done cfg sid st k e hd
    have hwf := ClientShape.onCall_WF cfg sid st k (hinv.wf (sid, st) hm)
    exact (Teardown.settled_of_done hwf (by rw [hd']; rfl)).2.2.2.1

theorem clear_psend_eq {s : CStream α} (h : s.psend = none) : { s with psend := none } = s := by
  cases s; cases h; rfl

theorem onCall_proj (cfg : CCfg) (c : Cli α) (sid' : Sid) (k : CCall α) (sid : Sid) (st : CStream α)
    (hinv : PInv c) (hm : (sid, st) ∈ c.streams) :
    StepOK cfg sid st (tevStep cfg sid c (.call sid' k)) (c.onCall cfg sid' k) := by
  by_cases hs : sid' = sid
  · subst hs
    obtain ⟨eo, es⟩ := onCall_eq cfg c sid' k st (getAny_of_mem hinv.u.1 hm)
    have es' : (c.onCall cfg sid' k).1 = c.setAny sid' (st.onCall cfg sid' k).1 := by
      rcases es with e | ⟨hf, e⟩
      · exact e
      · rw [e, clear_psend_eq (finished_psend_none cfg hinv hf hm k)]
    have ho := wireOut_onlySid c.finished.isSome (.call k) (ClientInv.CStream_onCall_onlySid cfg sid' st k)
    rw [tevStep_call, if_pos rfl]
    refine StepOK.single ?_ ?_ ?_ (fun hb => by rw [es']; exact hb)
    · rw [es']; exact setAny_mem_self _ hm
    · rw [eo]; exact filter_eq_self_of_tag ho.1
    · rw [eo]; exact filter_eq_self_of_tag ho.2
  · rw [tevStep_call, if_neg hs]
    obtain ⟨ho, _, _, hk⟩ := ClientInv.client_call_local cfg c sid' k
    exact StepOK.nil (hk (sid, st) hm (fun e => hs e.symm)) (filter_eq_nil_of_tag ho.1 hs)
      (filter_eq_nil_of_tag ho.2 hs)

theorem step_proj (cfg : CCfg) (c : Cli α) (x : CStim α) (sid : Sid) (st : CStream α)
    (hinv : PInv c) (hm : (sid, st) ∈ c.streams) :
    StepOK cfg sid st (tevStep cfg sid c x) (c.step cfg x) := by
  have hu := hinv.u.1
  cases x with
  | frame sid' f => exact onFrame_proj cfg c sid' f sid st hu hm
  | new cs ss m md t cn =>
    show StepOK cfg sid st [] ((c.newStream cfg cs ss m md t cn).1, (c.newStream cfg cs ss m md t cn).2.1)
    rcases newStream_creates cfg c cs ss m md t cn with ⟨msg, e⟩ | ⟨n, hal, _, _, _, hk, _, hfr, hdn⟩
    · rw [e]
      exact StepOK.nil hm rfl
        (filter_eq_nil_of_tag mem_single (fun e => hinv.u.2.2.1 sid (mem_ids hm) e.symm))
    · have hne : n ≠ sid := fun e => (alloc_fresh hinv.u hal).1 (e ▸ mem_ids hm)
      have ho := onlySid_created hfr hdn
      exact StepOK.nil (hk (sid, st) hm (fun e => hne e.symm)) (filter_eq_nil_of_tag ho.1 hne)
        (filter_eq_nil_of_tag ho.2 hne)
  | call sid' k => exact onCall_proj cfg c sid' k sid st hinv hm
  | tick d => exact tick_proj cfg c d sid st hu hm
  | carrierEnds err =>
    show StepOK cfg sid st (closeEvs c sid) (c.carrierEnds err)
    unfold Cli.carrierEnds
    split <;> exact close_proj cfg c _ sid st hu hm
  | close => exact close_proj cfg c none sid st hu hm

theorem run_proj (cfg : CCfg) (sid : Sid) : ∀ (xs : List (CStim α)) (c : Cli α) (st : CStream α),
    PInv c → (sid, st) ∈ c.streams →
    (sid, (runEvW cfg sid st (tevsOf cfg sid c xs)).1) ∈ (Cli.run cfg c xs).1.streams ∧
    framesFor sid (Cli.run cfg c xs).2 = (runEvW cfg sid st (tevsOf cfg sid c xs)).2.flatMap (·.frames) ∧
    donesFor sid (Cli.run cfg c xs).2 = (runEvW cfg sid st (tevsOf cfg sid c xs)).2.flatMap (·.dones) := by
  intro xs
  induction xs with
  | nil => intro c st _ hm; exact ⟨hm, rfl, rfl⟩
  | cons x xs ih =>
    intro c st hinv hm
    obtain ⟨s1, s2, s3, _⟩ := step_proj cfg c x sid st hinv hm
    obtain ⟨i1, i2, i3⟩ := ih (c.step cfg x).1 _ (pinv_step cfg c x hinv) s1
    simp only [tevsOf, run_cons, runEvW_append, framesFor_cons, donesFor_cons, List.flatMap_append]
    exact ⟨i1, by rw [s2, i2], by rw [s3, i3]⟩

theorem creation_point (cfg : CCfg) (sid : Sid) : ∀ (xs : List (CStim α)) (c : Cli α),
    sid ∉ ids c → sid ∈ ids (Cli.run cfg c xs).1 →
    ∃ pre x post st0, xs = pre ++ x :: post ∧ Creates cfg (Cli.run cfg c pre).1 x sid st0 := by
  intro xs
  induction xs with
  | nil => intro c h0 h1; exact (h0 h1).elim
  | cons x xs ih =>
    intro c h0 h1
    by_cases hx : sid ∈ ids (c.step cfg x).1
    · obtain ⟨st0, hc⟩ := creates_of_new_id cfg c x sid h0 hx
      exact ⟨[], x, xs, st0, rfl, hc⟩
    · obtain ⟨pre, y, post, st0, e, hc⟩ := ih (c.step cfg x).1 hx h1
      exact ⟨x :: pre, y, post, st0, by rw [e]; rfl, hc⟩

/-- Every stream object of every reachable endpoint state is the result of a
    stream-level run: the stimulus list splits at the `NewStream` call `x` that created the stream
    (`Creates`), and the object is what `CStream.runEv` makes of the object `st0` that call
    installed, under the stream-level events `evsOf` extracts from the rest of the run. -/
theorem proj_state (cfg : CCfg) (xs : List (CStim α)) (sid : Sid) (st : CStream α)
    (h : (sid, st) ∈ (Cli.run cfg (Cli.start cfg) xs).1.streams) :
    ∃ pre x post st0, xs = pre ++ x :: post ∧
      Creates cfg (Cli.run cfg (Cli.start cfg) pre).1 x sid st0 ∧
      st = (CStream.runEv cfg sid st0
              (evsOf cfg sid ((Cli.run cfg (Cli.start cfg) pre).1.step cfg x).1 post)).1 := by
  obtain ⟨pre, x, post, st0, e, hc⟩ := creation_point cfg sid xs (Cli.start cfg) (fun h => nomatch h) (mem_ids h)
  refine ⟨pre, x, post, st0, e, hc, ?_⟩
  have hp1 := pinv_step cfg _ x (pinv_reachable cfg pre)
  obtain ⟨r1, _, _⟩ := run_proj cfg sid post _ st0 hp1 hc.mem
  rw [e, run_split] at h
  rw [mem_unique (pinv_run cfg post _ hp1).u.1 h r1, runEvW_fst]
  rfl

/-- `proj_state`, from the FRESH stream object: the events are those of the creating step
    (`[.ctx .canceled]` if the caller's context was already done) followed by the events
    extracted from the rest of the run. -/
theorem proj_state_fresh (cfg : CCfg) (xs : List (CStim α)) (sid : Sid) (st : CStream α)
    (h : (sid, st) ∈ (Cli.run cfg (Cli.start cfg) xs).1.streams) :
    ∃ pre cs ss m md t cn post, xs = pre ++ CStim.new cs ss m md t cn :: post ∧
      sid ∉ ids (Cli.run cfg (Cli.start cfg) pre).1 ∧
      IdRules.allocate (Cli.run cfg (Cli.start cfg) pre).1.lastStreamID = some sid ∧
      st = (CStream.runEv cfg sid (freshStream cfg (Cli.run cfg (Cli.start cfg) pre).1 cs ss t)
              (creationEvs cn ++
               evsOf cfg sid ((Cli.run cfg (Cli.start cfg) pre).1.step cfg (.new cs ss m md t cn)).1 post)).1 := by
  obtain ⟨pre, x, post, st0, e, hc, hst⟩ := proj_state cfg xs sid st h
  obtain ⟨cs, ss, m, md, t, cn, hx, habs, hal, _, hst0, _, _, _⟩ := hc
  subst hx
  refine ⟨pre, cs, ss, m, md, t, cn, post, e, habs, hal, ?_⟩
  rw [runEv_append, ← hst0]
  exact hst

/-- The frames and the completions the endpoint emits under the id
    `sid` after the step that created the stream are exactly the outputs of the stream-level run
    of the extracted events, each passed through `wireOut` with the tag of its event: untouched
    while the carrier is up; once the channel is finished (including the step that finishes it)
    frames are not emitted, and a `SendMsg` that would have emitted frames returns
    "carrier-closed". -/
theorem proj_outputs_partial (cfg : CCfg) (pre : List (CStim α)) (x : CStim α) (post : List (CStim α))
    (sid : Sid) (st0 : CStream α) (hc : Creates cfg (Cli.run cfg (Cli.start cfg) pre).1 x sid st0) :
    let c1 := ((Cli.run cfg (Cli.start cfg) pre).1.step cfg x).1
    let outs := (Cli.run cfg (Cli.start cfg) (pre ++ x :: post)).2.drop (pre.length + 1)
    let souts := (runEvW cfg sid st0 (tevsOf cfg sid c1 post)).2
    framesFor sid outs = framesFor sid souts ∧ donesFor sid outs = donesFor sid souts ∧
    (runEvW cfg sid st0 (tevsOf cfg sid c1 post)).1 = (CStream.runEv cfg sid st0 (evsOf cfg sid c1 post)).1 := by
  dsimp only
  obtain ⟨_, r2, r3⟩ := run_proj cfg sid post _ st0 (pinv_step cfg _ x (pinv_reachable cfg pre)) hc.mem
  rw [outs_after, framesFor_runEvW]
  exact ⟨r2, r3.trans (flatMap_filter_tagged (runEvW_tagged cfg sid _ st0).2).symm, runEvW_fst cfg sid _ st0⟩

theorem tevStep_down (cfg : CCfg) (sid : Sid) (c : Cli α) (x : CStim α) (h : c.finished.isSome = true) :
    ∀ te ∈ tevStep cfg sid c x, te.1 = true := by
  intro te hte
  cases x with
  | frame sid' f => rw [tevStep_frame, if_pos h] at hte; cases hte
  | new cs ss m md t cn => cases hte
  | call sid' k =>
    rw [tevStep_call] at hte
    split at hte
    · rw [List.mem_singleton.mp hte]; exact h
    · cases hte
  | tick d =>
    rcases tevStep_tick cfg sid c d with e | e <;> rw [e] at hte
    · cases hte
    · rw [List.mem_singleton.mp hte]; exact h
  | carrierEnds err => rw [show tevStep cfg sid c (.carrierEnds err) = closeEvs c sid from rfl, closeEvs, if_pos h] at hte; cases hte
  | close => rw [show tevStep cfg sid c .close = closeEvs c sid from rfl, closeEvs, if_pos h] at hte; cases hte

theorem tags_live (cfg : CCfg) (sid : Sid) : ∀ (xs : List (CStim α)) (c : Cli α) (st : CStream α),
    PInv c → (sid, st) ∈ c.streams → (Cli.run cfg c xs).1.finished = none →
    ∀ te ∈ tevsOf cfg sid c xs, te.1 = false := by
  intro xs
  induction xs with
  | nil => intro c st _ _ _ te hte; cases hte
  | cons x xs ih =>
    intro c st hinv hm hlive te hte
    obtain ⟨s1, _, _, s4⟩ := step_proj cfg c x sid st hinv hm
    rw [run_cons] at hlive
    rcases List.mem_append.mp hte with hte | hte
    · cases hb : te.1 with
      | false => rfl
      | true =>
        -- a tagged event means the step has left the channel finished, and it stays so
        have hf := s4 te hte hb
        rw [Teardown.run_keeps_finished cfg xs _ hf] at hlive
        rw [hlive] at hf; cases hf
    · exact ih _ _ (pinv_step cfg c x hinv) s1 hlive te hte

/-- For every run at whose end the channel is still up (in particular
    for every prefix of a run up to the step that finishes the channel) the endpoint's frames and
    completions for `sid` after its creation are the stream-level outputs. -/
theorem proj_outputs_live (cfg : CCfg) (pre : List (CStim α)) (x : CStim α) (post : List (CStim α))
    (sid : Sid) (st0 : CStream α) (hc : Creates cfg (Cli.run cfg (Cli.start cfg) pre).1 x sid st0)
    (hlive : (Cli.run cfg (Cli.start cfg) (pre ++ x :: post)).1.finished = none) :
    let c1 := ((Cli.run cfg (Cli.start cfg) pre).1.step cfg x).1
    let outs := (Cli.run cfg (Cli.start cfg) (pre ++ x :: post)).2.drop (pre.length + 1)
    let souts := (CStream.runEv cfg sid st0 (evsOf cfg sid c1 post)).2
    framesFor sid outs = framesFor sid souts ∧ donesFor sid outs = donesFor sid souts := by
  intro c1 outs souts
  obtain ⟨h1, h2, _⟩ := proj_outputs_partial cfg pre x post sid st0 hc
  rw [run_split] at hlive
  have htags := tags_live cfg sid post c1 st0 (pinv_step cfg _ x (pinv_reachable cfg pre)) hc.mem hlive
  rw [runEvW_live cfg sid _ htags st0] at h1 h2
  exact ⟨h1, h2⟩

/-- **frames, in general**: a sublist of the frames of the stream-level run (those of the events
    that happened while the carrier was up) -/
theorem proj_frames_sublist (cfg : CCfg) (pre : List (CStim α)) (x : CStim α) (post : List (CStim α))
    (sid : Sid) (st0 : CStream α) (hc : Creates cfg (Cli.run cfg (Cli.start cfg) pre).1 x sid st0) :
    let c1 := ((Cli.run cfg (Cli.start cfg) pre).1.step cfg x).1
    (framesFor sid ((Cli.run cfg (Cli.start cfg) (pre ++ x :: post)).2.drop (pre.length + 1))).Sublist
      ((CStream.runEv cfg sid st0 (evsOf cfg sid c1 post)).2.flatMap (·.frames)) := by
  intro c1
  obtain ⟨h1, _, _⟩ := proj_outputs_partial cfg pre x post sid st0 hc
  rw [h1, framesFor_runEvW]
  exact runEvW_frames_sublist cfg sid _ st0

theorem filterMap_closeEvs {β : Type} (g : CEv α → Option β) (hg : g (.ctx .canceled) = none)
    (c : Cli α) (sid : Sid) : ((closeEvs c sid).map (·.2)).filterMap g = [] := by
  unfold closeEvs
  split
  · rfl
  · split
    · exact List.filterMap_cons_none hg
    · rfl

theorem tevStep_calls_frames (cfg : CCfg) (sid : Sid) (c : Cli α) (x : CStim α) :
    ((tevStep cfg sid c x).map (·.2)).filterMap callOf = callsTo sid [x] ∧
    ((tevStep cfg sid c x).map (·.2)).filterMap frameOf =
      (match x with | .frame sid' f => if sid' = sid ∧ routes c sid = true then [f] else [] | _ => []) := by
  have hclose := And.intro (filterMap_closeEvs callOf rfl c sid) (filterMap_closeEvs frameOf rfl c sid)
  cases x with
  | frame sid' f =>
    simp only []
    cases hr : routes c sid' with
    | true =>
      rw [tevStep_frame_routed cfg c sid' f hr sid]
      by_cases hs : sid' = sid
      · subst hs
        rw [if_pos rfl, if_pos ⟨rfl, hr⟩]
        exact ⟨rfl, rfl⟩
      · rw [if_neg hs, if_neg (fun h => hs h.1)]
        exact ⟨rfl, rfl⟩
    | false =>
      have hn : ¬ (sid' = sid ∧ routes c sid = true) := fun ⟨h1, h2⟩ => by subst h1; rw [hr] at h2; cases h2
      rw [if_neg hn]
      rcases onFrame_unrouted cfg c sid' f hr sid with ⟨_, _, _, h4⟩ | ⟨_, _, ht⟩
      · rw [h4]; exact ⟨rfl, rfl⟩
      · rw [ht]; exact hclose
  | new cs ss m md t cn => exact ⟨rfl, rfl⟩
  | call sid' k =>
    rw [tevStep_call]
    by_cases hs : sid' = sid
    · simp only [callsTo, List.filterMap_cons, hs, if_true]
      exact ⟨rfl, rfl⟩
    · simp only [callsTo, List.filterMap_cons, hs, if_false]
      exact ⟨rfl, rfl⟩
  | tick d => rcases tevStep_tick cfg sid c d with e | e <;> rw [e] <;> exact ⟨rfl, rfl⟩
  | carrierEnds err => exact hclose
  | close => exact hclose

/-- Along any run from any state: the `.call` events extracted for `sid`
    are exactly the calls the run addresses to `sid`, in order; the `.frame` events are exactly
    the frames addressed to `sid` that arrive while the endpoint routes frames to it (`routes`:
    channel up, settings phase over, stream in the table — `routes_spec`), in order; every other
    extracted event is a context end. -/
theorem proj_calls_frames (cfg : CCfg) (sid : Sid) : ∀ (xs : List (CStim α)) (c : Cli α),
    (evsOf cfg sid c xs).filterMap callOf = callsTo sid xs ∧
    (evsOf cfg sid c xs).filterMap frameOf = routedTo cfg sid c xs := by
  intro xs
  induction xs with
  | nil => intro c; exact ⟨rfl, rfl⟩
  | cons x xs ih =>
    intro c
    obtain ⟨s1, s2⟩ := tevStep_calls_frames cfg sid c x
    obtain ⟨i1, i2⟩ := ih (c.step cfg x).1
    unfold evsOf at i1 i2 ⊢
    rw [tevsOf, List.map_append, List.filterMap_append, List.filterMap_append, s1, s2, i1, i2]
    exact ⟨(List.filterMap_append (l := [x])).symm, rfl⟩

theorem routedTo_sublist (cfg : CCfg) (sid : Sid) : ∀ (xs : List (CStim α)) (c : Cli α),
    (routedTo cfg sid c xs).Sublist (framesTo sid xs) := by
  intro xs
  induction xs with
  | nil => intro c; exact List.Sublist.refl _
  | cons x xs ih =>
    intro c
    cases x with
    | frame sid' f =>
      show ((if sid' = sid ∧ routes c sid = true then [f] else []) ++ routedTo cfg sid _ xs).Sublist _
      by_cases hs : sid' = sid
      · have : framesTo sid (.frame sid' f :: xs) = f :: framesTo sid xs := List.filterMap_cons_some (if_pos hs)
        rw [this]
        split
        · exact (ih _).cons_cons f
        · exact (ih _).cons f
      · have : framesTo sid (.frame sid' f :: xs) = framesTo sid xs := List.filterMap_cons_none (if_neg hs)
        rw [this, if_neg (fun h => hs h.1)]
        exact ih _
    | _ => exact ih _

/-- a step's frames go out only under ids in the stream table it leaves, and only if it leaves the channel up -/
def FramesOK (r : Cli α × COut α) : Prop := ∀ fr ∈ r.2.frames, fr.1 ∈ ids r.1 ∧ r.1.finished = none

theorem FramesOK.nil {r : Cli α × COut α} (h : r.2.frames = []) : FramesOK r :=
  fun fr hfr => by rw [h] at hfr; cases hfr

theorem step_frames (cfg : CCfg) (c : Cli α) (x : CStim α) : FramesOK (c.step cfg x) := by
  cases x with
  | frame sid' f =>
    show FramesOK (c.onFrame cfg sid' f)
    cases hr : routes c sid' with
    | true =>
      -- a routed frame: the stream's own frames, and the channel stays up
      obtain ⟨st, hg, he⟩ := routes_spec cfg c sid' f hr
      rw [he]
      intro fr hfr
      rw [(ClientInv.CStream_onFrame_onlySid cfg sid' st f).1 fr hfr]
      exact ⟨(ClientInv.same_setAny c sid' _).1 ▸ mem_ids (ClientOps.getStream_mem hg).1,
        ((routes_iff c sid').mp hr).1⟩
    | false =>
      rcases onFrame_unrouted cfg c sid' f hr sid' with ⟨_, h2, _⟩ | ⟨err, he, _⟩
      · exact .nil h2
      · rw [he]; exact .nil (close_false_frames c err)
  | new cs ss m md t cn =>
    show FramesOK ((c.newStream cfg cs ss m md t cn).1, (c.newStream cfg cs ss m md t cn).2.1)
    rcases newStream_creates cfg c cs ss m md t cn with ⟨_, e⟩ | ⟨n, _, hfin, _, _, _, hmem, hfr, hdn⟩
    · rw [e]; exact .nil rfl
    · intro fr h
      rw [(onlySid_created hfr hdn).1 fr h, Teardown.newStream_finished]
      exact ⟨mem_ids hmem, hfin⟩
  | call sid' k =>
    show FramesOK (c.onCall cfg sid' k)
    cases hg : c.getAny sid' with
    | none => unfold Cli.onCall; rw [hg]; exact .nil rfl
    | some st =>
      -- the frames of the stream's call, if the channel is up
      unfold FramesOK
      rw [(onCall_eq cfg c sid' k st hg).1, wireOut_frames, (ClientInv.same_onCall cfg c sid' k).1,
        (ClientInv.client_call_local cfg c sid' k).2.1]
      cases hf : c.finished with
      | some e => intro _ h; cases h
      | none =>
        intro fr hfr
        rw [(ClientInv.CStream_onCall_onlySid cfg sid' st k).1 fr hfr]
        exact ⟨mem_ids (ClientOps.getAny_mem hg), rfl⟩
  | tick d =>
    show ∀ fr ∈ (c.tick d).2.frames, fr.1 ∈ ids (c.tick d).1 ∧ (c.tick d).1.finished = none
    rw [tick_frames, (ClientInv.same_tick c d).1, Teardown.tick_finished]
    cases hf : c.finished with
    | some e => intro _ h; cases h
    | none =>
      intro fr hfr
      obtain ⟨e, he, hfe⟩ := List.mem_flatMap.mp hfr
      rw [(onlySid_of_cases (ClientOps.tickF_cases _ e.1 e.2)).1 fr hfe]
      exact ⟨List.mem_map.mpr ⟨e, he, rfl⟩, rfl⟩
  | carrierEnds err =>
    show FramesOK (c.carrierEnds err)
    unfold Cli.carrierEnds
    split <;> exact .nil (close_false_frames c _)
  | close => exact .nil (close_false_frames c none)

theorem run_absent (cfg : CCfg) (sid : Sid) : ∀ (xs : List (CStim α)) (c : Cli α),
    sid ∉ ids (Cli.run cfg c xs).1 → framesFor sid (Cli.run cfg c xs).2 = [] := by
  intro xs
  induction xs with
  | nil => intro c _; rfl
  | cons x xs ih =>
    intro c h
    rw [run_cons] at h ⊢
    -- a frame of the step under `sid` would put `sid` among the ids after the step, hence after the run
    have h1 : ∀ fr ∈ (c.step cfg x).2.frames, ¬(fr.1 == sid) = true := fun fr hfr e =>
      h (run_inv (P := fun c => sid ∈ ids c) (fun c x => ids_step_subset cfg c x) xs _
        (beq_iff_eq.mp e ▸ (step_frames cfg c x fr hfr).1))
    rw [framesFor_cons, List.filter_eq_nil_iff.mpr h1, ih _ h]
    rfl

/-! ## events

  `COut.events` are untagged strings (no stream id), so they cannot be restricted to a stream.
  No stream-level operation emits an event, so every event of an endpoint run is channel-level
  ("settings-ok", "chan-finished", "no-such-stream"), and `wireOut` does not add any. -/

theorem sent_noEv {sid : Sid} {s s' : CStream α} {o : COut α} (h : ClientOps.Sent sid s s' o) :
    o.events = [] := by
  cases h <;> rfl

theorem atom_noEv {sid : Sid} {s s' : CStream α} {o : COut α} (h : ClientOps.Atom sid s s' o) :
    o.events = [] := by
  cases h with
  | tear h =>
    cases h with
    | read r => obtain ⟨_, _, _, _, _, _, _, _, _, _, _, he⟩ := r.shape; exact he
    | _ => rfl
  | sent cfg snd => exact sent_noEv (ClientOps.pumpSend_sent cfg sid s snd)
  | upd h => cases h <;> rfl
  | _ => rfl

theorem stepEv_noEv (cfg : CCfg) (sid : Sid) (s : CStream α) (e : CEv α) : (s.stepEv cfg sid e).2.events = [] :=
  (ClientOps.stepEv_chain cfg sid s e).fold_out (T := fun o => o.events = []) rfl
    (fun {a b} ha hb => show a.events ++ b.events = [] by rw [ha, hb]; rfl) atom_noEv

theorem runEv_noEv (cfg : CCfg) (sid : Sid) (evs : List (CEv α)) : ∀ (s : CStream α),
    ∀ o ∈ (CStream.runEv cfg sid s evs).2, o.events = [] := by
  intro s o ho
  obtain ⟨s₁, ev, rfl⟩ := ClientOps.runEv_out cfg sid evs s o ho
  exact stepEv_noEv cfg sid s₁ ev

/-- **a step after which the channel is finished emits no frame at all** (the step that finishes
    it included: `close` runs with the carrier already gone).  Together with `proj_outputs_live`
    (exact equality on every prefix of the run that leaves the channel up) this says which of the
    stream-level frames reach the wire: those of the events before the finishing step. -/
theorem frames_only_while_up (cfg : CCfg) (c : Cli α) (x : CStim α)
    (h : (c.step cfg x).1.finished.isSome = true) : (c.step cfg x).2.frames = [] := by
  rw [List.eq_nil_iff_forall_not_mem]
  intro fr hfr
  rw [(step_frames cfg c x fr hfr).2] at h
  cases h

theorem finished_no_frames (cfg : CCfg) : ∀ (xs : List (CStim α)) (c : Cli α), c.finished.isSome = true →
    ∀ o ∈ (Cli.run cfg c xs).2, o.frames = [] := by
  intro xs
  induction xs with
  | nil => intro c _ o ho; cases ho
  | cons x xs ih =>
    intro c h o ho
    have h1 := Teardown.step_preserves_finished cfg c x h
    rw [run_cons] at ho
    rcases List.mem_cons.mp ho with e | e
    · rw [e]; exact frames_only_while_up cfg c x h1
    · exact ih _ h1 o e

open Proofs.Conformance (cframes C.isHalfClose C.isCancel C.isNewStream)

theorem map_snd_flatMap_frames (os : List (COut α)) : (os.flatMap (·.frames)).map (·.2) = cframes os :=
  List.map_flatMap

/-- **all the frames an endpoint ever emits under one id**: nothing before the creating
    `NewStream`; then the `new_stream` frame; then a sublist (everything, while the carrier is up)
    of the frames of ONE stream-level run from the fresh stream object, under the events of the
    creating step followed by the events extracted from the rest of the run. -/
theorem proj_frames_whole (cfg : CCfg) (pre : List (CStim α)) (x : CStim α) (post : List (CStim α))
    (sid : Sid) (st0 : CStream α) (hc : Creates cfg (Cli.run cfg (Cli.start cfg) pre).1 x sid st0) :
    ∃ cs ss m md t cn, x = .new cs ss m md t cn ∧
      ((framesFor sid (Cli.run cfg (Cli.start cfg) (pre ++ x :: post)).2).map (·.2)).Sublist
        (C2S.newStream m md (Cli.run cfg (Cli.start cfg) pre).1.rev cfg.W ::
          cframes (CStream.runEv cfg sid (freshStream cfg (Cli.run cfg (Cli.start cfg) pre).1 cs ss t)
            (creationEvs cn ++ evsOf cfg sid ((Cli.run cfg (Cli.start cfg) pre).1.step cfg x).1 post)).2) := by
  have hsub := (proj_frames_sublist cfg pre x post sid st0 hc).map (·.2)
  rw [outs_after, map_snd_flatMap_frames] at hsub
  obtain ⟨cs, ss, m, md, t, cn, hx, habs, _, _, hst0, _, hfr, hdn⟩ := hc
  refine ⟨cs, ss, m, md, t, cn, hx, ?_⟩
  -- before the creating step: nothing; the creating step: all of its frames; then `hsub`
  rw [run_split, framesFor_append, framesFor_cons, run_absent cfg sid pre _ habs,
    filter_eq_self_of_tag (onlySid_created hfr hdn).1, hfr, List.nil_append, runEv_append, ← hst0]
  simp only [List.map_append, List.map_cons, List.cons_append, map_snd_flatMap_frames]
  refine List.Sublist.cons_cons _ ?_
  show List.Sublist _ (cframes (_ ++ _))
  unfold cframes
  rw [List.flatMap_append]
  exact List.Sublist.append (List.Sublist.refl _) hsub

/-- a frame-counting bound that holds for every stream-level run from every stream state holds
    for the frames an endpoint emits under any one id, in every endpoint run -/
theorem lift_count_bound (cfg : CCfg) (p : C2S α → Bool) (hnew : ∀ m md rev w, p (.newStream m md rev w) = false)
    (hstream : ∀ (sid : Sid) (s0 : CStream α) (evs : List (CEv α)),
      ((cframes (CStream.runEv cfg sid s0 evs).2).filter p).length ≤ 1)
    (xs : List (CStim α)) (sid : Sid) :
    (((framesFor sid (Cli.run cfg (Cli.start cfg) xs).2).map (·.2)).filter p).length ≤ 1 := by
  by_cases h : sid ∈ ids (Cli.run cfg (Cli.start cfg) xs).1
  · obtain ⟨pre, x, post, st0, e, hc⟩ := creation_point cfg sid xs (Cli.start cfg) (fun h => nomatch h) h
    obtain ⟨cs, ss, m, md, t, cn, _, hsub⟩ := proj_frames_whole cfg pre x post sid st0 hc
    rw [e]
    refine Nat.le_trans ((hsub.filter p).length_le) ?_
    rw [List.filter_cons, hnew]
    exact hstream _ _ _
  · rw [run_absent cfg sid xs _ h]; exact Nat.zero_le _

/-- **C1a at the endpoint**: in every endpoint run, with any number of concurrent RPCs, at most
    one half-close frame is ever emitted under any one stream id
    (lifted from `Conformance.C1_at_most_one_halfClose`) -/
theorem C1_endpoint_at_most_one_halfClose (cfg : CCfg) (xs : List (CStim α)) (sid : Sid) :
    (((framesFor sid (Cli.run cfg (Cli.start cfg) xs).2).map (·.2)).filter C.isHalfClose).length ≤ 1 :=
  lift_count_bound cfg C.isHalfClose (fun _ _ _ _ => rfl)
    (fun sid s0 evs => Proofs.Conformance.C1_at_most_one_halfClose cfg sid s0 evs) xs sid

/-- **C1b at the endpoint**: … and at most one cancel frame
    (lifted from `Conformance.C1_at_most_one_cancel`) -/
theorem C1_endpoint_at_most_one_cancel (cfg : CCfg) (xs : List (CStim α)) (sid : Sid) :
    (((framesFor sid (Cli.run cfg (Cli.start cfg) xs).2).map (·.2)).filter C.isCancel).length ≤ 1 :=
  lift_count_bound cfg C.isCancel (fun _ _ _ _ => rfl)
    (fun sid s0 evs => (Proofs.Conformance.C1_at_most_one_cancel cfg sid s0 evs).1) xs sid

/-- the same for the frames emitted under `sid` AFTER its creation; and no cancel frame at all
    then if the installed object `st0` already has its terminal result (pre-cancelled context) -/
theorem C1_endpoint_after_creation (cfg : CCfg) (pre : List (CStim α)) (x : CStim α) (post : List (CStim α))
    (sid : Sid) (st0 : CStream α) (hc : Creates cfg (Cli.run cfg (Cli.start cfg) pre).1 x sid st0) :
    let fs := (framesFor sid ((Cli.run cfg (Cli.start cfg) (pre ++ x :: post)).2.drop (pre.length + 1))).map (·.2)
    (fs.filter C.isHalfClose).length ≤ 1 ∧ (fs.filter C.isCancel).length ≤ 1 ∧
    (st0.done.isSome = true → (fs.filter C.isCancel).length = 0) := by
  intro fs
  have hsub := (proj_frames_sublist cfg pre x post sid st0 hc).map (·.2)
  rw [map_snd_flatMap_frames] at hsub
  have hc1 := Proofs.Conformance.C1_at_most_one_cancel cfg sid st0
    (evsOf cfg sid ((Cli.run cfg (Cli.start cfg) pre).1.step cfg x).1 post)
  exact ⟨Nat.le_trans (hsub.filter _).length_le (Proofs.Conformance.C1_at_most_one_halfClose cfg sid st0 _),
    Nat.le_trans (hsub.filter _).length_le hc1.1,
    fun hd => Nat.le_zero.mp (Nat.le_trans (hsub.filter C.isCancel).length_le (Nat.le_of_eq (hc1.2 hd)))⟩

section Examples
open Proofs.Conformance (C.tag S.tag)

def callTag : CCall Nat → String
  | .send _ => "send" | .closeSend => "closeSend" | .recv => "recv" | .header => "header"
  | .trailer => "trailer" | .cancel => "cancel"

/-- an event as a string (`CEv` has no decidable equality) -/
def evTag : CEv Nat → String
  | .frame f => "frame:" ++ S.tag f
  | .call k => "call:" ++ callTag k
  | .ctx .canceled => "ctx:canceled"
  | .ctx .deadline => "ctx:deadline"

def doneTag (d : Sid × String × Res Nat) : String × String := (d.2.1, (Proofs.Teardown.doneView d).kind)

/-- settings; RPC 1 (deadline 5) and RPC 2 are started and run interleaved; RPC 1 times out, a late
    frame for it is dropped; `Close()`; a send on RPC 2 and a `Trailer()` on RPC 1 after the close -/
def exRun : List (CStim Nat) :=
  [.frame (-1) (.settings 100 [1]),
   .new true true [1] [] (some 5) false,
   .new true true [2] [] none false,
   .call 1 (.send [7]),
   .frame 2 (.headers []),
   .call 2 .recv,
   .frame 1 (.msg 1 [9]),
   .frame 2 (.msg 1 [8]),
   .call 1 .closeSend,
   .tick 5,
   .frame 1 (.headers []),
   .call 2 .closeSend,
   .close,
   .call 2 (.send [3]),
   .call 1 .trailer]

def exAt (n : Nat) : Cli Nat := (Cli.run {} (Cli.start {}) (exRun.take n)).1

-- the ids, and the events extracted for RPC 1 (created by stimulus 1: `pre` = 1 stimulus) and for
-- RPC 2 (created by stimulus 2), with their "carrier down" tags: each RPC sees exactly its own
-- calls and routed frames; the tick is RPC 1's deadline; the late headers frame for RPC 1 is not
-- routed; `Close()` cancels RPC 2 (still in the table) and does nothing to RPC 1 (already done)
example : ids (Cli.run {} (Cli.start {}) exRun).1 = [1, 2] := by decide +kernel

example :
    (tevsOf {} 1 (exAt 2) (exRun.drop 2)).map (fun te => (te.1, evTag te.2)) =
      [(false, "call:send"), (false, "frame:msg"), (false, "call:closeSend"), (false, "ctx:deadline"),
       (true, "call:trailer")] := by decide +kernel

example :
    (tevsOf {} 2 (exAt 3) (exRun.drop 3)).map (fun te => (te.1, evTag te.2)) =
      [(false, "frame:headers"), (false, "call:recv"), (false, "frame:msg"), (false, "call:closeSend"),
       (true, "ctx:canceled"), (true, "call:send")] := by decide +kernel

-- RPC 1: the channel was up whenever something happened to it that emits: the endpoint's frames
-- and completions under id 1 after its creation ARE the stream-level outputs
example :
    (framesFor 1 ((Cli.run {} (Cli.start {}) exRun).2.drop 2)).map (fun f => C.tag f.2) =
      ["msg", "halfclose", "cancel"] ∧
    (cframes (CStream.runEv {} 1 (freshStream {} (exAt 1) true true (some 5))
      (evsOf {} 1 (exAt 2) (exRun.drop 2))).2).map C.tag = ["msg", "halfclose", "cancel"] ∧
    (donesFor 1 ((Cli.run {} (Cli.start {}) exRun).2.drop 2)).map doneTag =
      [("send", "ok"), ("closesend", "ok"), ("trailer", "md")] ∧
    ((CStream.runEv {} 1 (freshStream {} (exAt 1) true true (some 5))
      (evsOf {} 1 (exAt 2) (exRun.drop 2))).2.flatMap (·.dones)).map doneTag =
      [("send", "ok"), ("closesend", "ok"), ("trailer", "md")] := by decide +kernel

-- RPC 2 of the same run, where the endpoint's outputs are NOT those of the stream-level run:
-- `Close()` cancels the stream — at stream level the watcher emits a cancel frame, and the later
-- `SendMsg` emits a message frame and returns OK; the endpoint emits neither frame (the carrier is
-- gone) and the send returns "carrier-closed".  `runEvW` (the stream-level run seen through
-- `wireOut`) gives exactly what the endpoint does: `proj_outputs_partial`.
example :
    (framesFor 2 ((Cli.run {} (Cli.start {}) exRun).2.drop 3)).map (fun f => C.tag f.2) = ["wu", "halfclose"] ∧
    (cframes (CStream.runEv {} 2 (freshStream {} (exAt 2) true true none)
      (evsOf {} 2 (exAt 3) (exRun.drop 3))).2).map C.tag = ["wu", "halfclose", "cancel", "msg"] ∧
    (cframes (runEvW {} 2 (freshStream {} (exAt 2) true true none)
      (tevsOf {} 2 (exAt 3) (exRun.drop 3))).2).map C.tag = ["wu", "halfclose"] ∧
    (donesFor 2 ((Cli.run {} (Cli.start {}) exRun).2.drop 3)).map doneTag =
      [("recv", "msg"), ("closesend", "ok"), ("send", "other")] ∧
    ((CStream.runEv {} 2 (freshStream {} (exAt 2) true true none)
      (evsOf {} 2 (exAt 3) (exRun.drop 3))).2.flatMap (·.dones)).map doneTag =
      [("recv", "msg"), ("closesend", "ok"), ("send", "ok")] ∧
    ((runEvW {} 2 (freshStream {} (exAt 2) true true none)
      (tevsOf {} 2 (exAt 3) (exRun.drop 3))).2.flatMap (·.dones)).map doneTag =
      [("recv", "msg"), ("closesend", "ok"), ("send", "other")] := by decide +kernel

/-- the fields of a stream object that have decidable equality and are not about the receive queue -/
structure StView where
  sid : Int
  done : Option SErr
  numSent : Nat
  halfClosed : Bool
  ctxDone : Option CtxErr
  inTable : Bool
  win : Nat
  rwin : Nat
  deriving DecidableEq

def stView (e : Sid × CStream Nat) : StView :=
  { sid := e.1, done := e.2.done, numSent := e.2.numSent, halfClosed := e.2.halfClosed, ctxDone := e.2.ctxDone,
    inTable := e.2.inTable, win := e.2.win, rwin := e.2.rcv.rwin }

-- the final stream objects are the stream-level runs (`proj_state`), on those fields
example :
    (Cli.run {} (Cli.start {}) exRun).1.streams.map stView =
    [(1, (CStream.runEv {} 1 (freshStream {} (exAt 1) true true (some 5)) (evsOf {} 1 (exAt 2) (exRun.drop 2))).1),
     (2, (CStream.runEv {} 2 (freshStream {} (exAt 2) true true none) (evsOf {} 2 (exAt 3) (exRun.drop 3))).1)].map
      stView := by decide +kernel

-- a pre-cancelled context at creation: the creating step itself carries the event `.ctx .canceled`
-- (`creationEvs`), and emits new_stream followed by the watcher's cancel frame
example :
    let r := Cli.run (α := Nat) {} (Cli.start {}) [.frame (-1) (.settings 100 [1]), .new true true [1] [] none true]
    (framesFor 1 r.2).map (fun f => C.tag f.2) = ["new", "cancel"] ∧
    (creationEvs true).map evTag = ["ctx:canceled"] ∧
    r.1.streams.map (fun e => (e.1, e.2.done.isSome, e.2.inTable)) = [(1, true, false)] := by decide +kernel

end Examples

end Proofs.ProjectionC

#print axioms Proofs.ProjectionC.pinv_reachable
#print axioms Proofs.ProjectionC.step_proj
#print axioms Proofs.ProjectionC.run_proj
#print axioms Proofs.ProjectionC.proj_state
#print axioms Proofs.ProjectionC.proj_state_fresh
#print axioms Proofs.ProjectionC.proj_outputs_partial
#print axioms Proofs.ProjectionC.proj_outputs_live
#print axioms Proofs.ProjectionC.proj_frames_sublist
#print axioms Proofs.ProjectionC.frames_only_while_up
#print axioms Proofs.ProjectionC.finished_no_frames
#print axioms Proofs.ProjectionC.stepEv_noEv
#print axioms Proofs.ProjectionC.proj_calls_frames
#print axioms Proofs.ProjectionC.routedTo_sublist
#print axioms Proofs.ProjectionC.routes_spec
#print axioms Proofs.ProjectionC.proj_frames_whole
#print axioms Proofs.ProjectionC.lift_count_bound
#print axioms Proofs.ProjectionC.C1_endpoint_at_most_one_halfClose
#print axioms Proofs.ProjectionC.C1_endpoint_at_most_one_cancel
#print axioms Proofs.ProjectionC.C1_endpoint_after_creation
