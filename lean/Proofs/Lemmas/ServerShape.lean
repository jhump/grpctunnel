import Proofs.Lemmas.ServerOps
/-!
  C16 (server side): the call shape of a method with a NON-streaming request is enforced by the server
  half of a stream (`SStream`, `cs = false`).

  The results are for an arbitrary initial stream state with `cs = false` (no freshness assumption) and for
  arbitrary lists of stream-level operations `SOp`.  These are exactly what the endpoint (`Srv.step`)
  applies to a stream object: `SStream.onFrame` (`Srv.onFrame`), `SStream.onCall` (`Srv.onCall`;
  `Srv.createStream` runs `startRecv = onCall .recv` for unary methods), `SStream.cancelCtx` (`Srv.tick`,
  `Srv.serveReturns`).

  `StepSpec`, the two-phase contract of a step, is closed under sequencing and holds of every elementary
  state change (`StepSpec.of_step`): a message is delivered only by the leaves `delivered` (streaming
  request, excluded by `cs = false`) and `deliveredEof` (which leaves a `Done` state), and both need a
  pending read, which a `Done` state has not.
-/
namespace Proofs.ServerShape
open TunnelModel.LFrame TunnelModel.Framing Proofs.ServerOps

variable {α : Type}

def isMsg : Res α → Bool
  | .msg _ => true
  | _ => false

/-- number of request messages delivered to the handler by one step's output -/
def delivered (o : Out α) : Nat := (o.dones.filter (fun d => isMsg d.2.2)).length

theorem delivered_def (o : Out α) :
    delivered o = (o.dones.filter (fun d => match d.2.2 with | .msg _ => true | _ => false)).length := rfl

theorem delivered_add (a b : Out α) : delivered (a.add b) = delivered a + delivered b := by
  simp [delivered, Out.add, List.filter_append]

theorem delivered_of_dones_nil (o : Out α) (h : o.dones = []) : delivered o = 0 := by
  simp [delivered, h]

@[simp] theorem delivered_empty : delivered ({} : Out α) = 0 := rfl

@[simp] theorem delivered_mk_nil (fr : List (Sid × S2C α)) (ev : List String) :
    delivered ({ frames := fr, dones := [], events := ev } : Out α) = 0 := rfl

theorem delivered_single (fr : List (Sid × S2C α)) (ev : List String) (sid : Sid) (n : String) (r : Res α) :
    delivered ({ frames := fr, dones := [(sid, n, r)], events := ev } : Out α) = if isMsg r then 1 else 0 := by
  cases h : isMsg r <;> simp [delivered, h]

@[simp] theorem isMsg_toRes (e : SErr) : isMsg (e.toRes : Res α) = false := by
  cases e <;> rfl

@[simp] theorem isMsg_ctx (e : CtxErr) : isMsg (Res.ctx e : Res α) = false := rfl
@[simp] theorem isMsg_ok : isMsg (Res.ok : Res α) = false := rfl
@[simp] theorem isMsg_status (c : Nat) : isMsg (Res.status c : Res α) = false := rfl
@[simp] theorem isMsg_other (t : String) : isMsg (Res.other t : Res α) = false := rfl
@[simp] theorem isMsg_msg (m : List α) : isMsg (Res.msg m : Res α) = true := rfl

/-- "the request message has been handed over (or the read side has failed)":
    the sticky read error is set and no read is pending -/
def Done (s : SStream α) : Prop := s.readErr.isSome = true ∧ s.pread = none

/-- a building block that never touches the read side unless a read is pending -/
structure Quiet (s s' : SStream α) : Prop where
  cs : s'.cs = s.cs
  keep : s.pread = none → s'.pread = none ∧ s'.readErr = s.readErr

theorem Quiet.refl (s : SStream α) : Quiet s s := ⟨rfl, fun h => ⟨h, rfl⟩⟩

theorem Quiet.trans {a b c : SStream α} (h1 : Quiet a b) (h2 : Quiet b c) : Quiet a c :=
  ⟨h2.cs.trans h1.cs, fun h => by
    have := h1.keep h
    have h3 := h2.keep this.1
    exact ⟨h3.1, h3.2.trans this.2⟩⟩

theorem Quiet.done {s s' : SStream α} (h : Quiet s s') (hd : Done s) : Done s' := by
  obtain ⟨h1, h2⟩ := hd
  have := h.keep h2
  exact ⟨by rw [this.2]; exact h1, this.1⟩

theorem quiet_of_fields {s s' : SStream α} (hcs : s'.cs = s.cs) (hp : s'.pread = s.pread)
    (he : s'.readErr = s.readErr) : Quiet s s' :=
  ⟨hcs, fun h => ⟨by rw [hp]; exact h, he⟩⟩

theorem Quiet.pre {s s0 s' : SStream α} (h : Quiet s0 s') (hcs : s0.cs = s.cs) (hp : s0.pread = s.pread)
    (he : s0.readErr = s.readErr) : Quiet s s' :=
  ⟨h.cs.trans hcs, fun hn => by have := h.keep (hp ▸ hn); exact ⟨this.1, this.2.trans he⟩⟩

theorem not_done_of_readErr {s : SStream α} (h : s.readErr = none) : ¬ Done s :=
  fun hd => by have := hd.1; rw [h] at this; cases this

theorem not_done_of_pread {s : SStream α} {p : PRead α} (h : s.pread = some p) : ¬ Done s :=
  fun hd => by have := hd.2; rw [h] at this; cases this

theorem finishCore_quiet (sid : Sid) (s : SStream α) (err : Option SErr) :
    Quiet s (s.finishCore sid err).1 := by
  rw [finishCore_fst]; exact quiet_of_fields rfl rfl rfl

theorem finishCore_dones (sid : Sid) (s : SStream α) (err : Option SErr) : (s.finishCore sid err).2.dones = [] := by
  rw [finishCore_snd]; split <;> rfl

theorem finishCore_delivered (sid : Sid) (s : SStream α) (err : Option SErr) :
    delivered (s.finishCore sid err).2 = 0 :=
  delivered_of_dones_nil _ (finishCore_dones sid s err)

theorem ccSend_quiet (sid : Sid) (s : SStream α) (e : CtxErr) :
    Quiet s (ccSend sid s e).1 ∧ delivered (ccSend sid s e).2 = 0 :=
  ccSend_elim (motive := fun r => Quiet s r.1 ∧ delivered r.2 = 0) sid s e (fun _ => ⟨Quiet.refl s, rfl⟩)
    (fun _ _ _ => ⟨(finishCore_quiet ..).pre rfl rfl rfl, finishCore_delivered ..⟩)
    (fun _ _ _ => ⟨quiet_of_fields rfl rfl rfl, rfl⟩)

/-- a blocked read is released: allowed by `Quiet`, since there was a read pending -/
theorem ccRead_quiet (sid : Sid) (s : SStream α) (e : CtxErr) :
    Quiet s (ccRead sid s e).1 ∧ delivered (ccRead sid s e).2 = 0 := by
  have hk : ∀ {p : PRead α} {s' : SStream α}, s.pread = some p → s'.cs = s.cs → Quiet s s' :=
    fun hp hcs => ⟨hcs, fun h => by rw [hp] at h; cases h⟩
  refine ccRead_elim (motive := fun r => Quiet s r.1 ∧ delivered r.2 = 0) sid s e (fun _ => ⟨Quiet.refl s, rfl⟩)
    (fun p hp _ => ⟨hk hp (finishCore_quiet ..).cs, ?_⟩) (fun p hp _ => ⟨hk hp rfl, rfl⟩)
  rw [delivered_add, finishCore_delivered]; rfl

theorem cancelCtx_raw (sid : Sid) (s : SStream α) (e : CtxErr) :
    Quiet s (s.cancelCtx sid e).1 ∧ delivered (s.cancelCtx sid e).2 = 0 := by
  have h1 := ccSend_quiet sid (ctxMark s e) e
  have h2 := ccRead_quiet sid (ccSend sid (ctxMark s e) e).1 e
  refine cancelCtx_elim (motive := fun r => Quiet s r.1 ∧ delivered r.2 = 0) sid s e (fun _ => ⟨Quiet.refl s, rfl⟩)
    (fun _ => ⟨(h1.1.trans h2.1).pre rfl rfl rfl, ?_⟩)
  rw [delivered_add, delivered_add, h1.2, h2.2]; rfl

theorem cancelCtx_quiet (sid : Sid) (s : SStream α) (e : CtxErr) : Quiet s (s.cancelCtx sid e).1 :=
  (cancelCtx_raw sid s e).1

theorem cancelCtx_delivered (sid : Sid) (s : SStream α) (e : CtxErr) : delivered (s.cancelCtx sid e).2 = 0 :=
  (cancelCtx_raw sid s e).2

theorem finish_quiet (sid : Sid) (s : SStream α) (err : Option SErr) (b : Bool) :
    Quiet s (s.finish sid err b).1 := by
  rw [finish_eq]
  exact (finishCore_quiet sid s _).trans (cancelCtx_quiet sid _ _)

theorem finish_delivered (sid : Sid) (s : SStream α) (err : Option SErr) (b : Bool) :
    delivered (s.finish sid err b).2 = 0 := by
  rw [finish_eq, delivered_add, cancelCtx_delivered, finishCore_delivered]

theorem delivered_filter_le (o : Out α) (p : Sid × String × Res α → Bool) :
    delivered ({ o with dones := o.dones.filter p } : Out α) ≤ delivered o := by
  exact (List.Sublist.filter _ List.filter_sublist).length_le

/-- On a stream with a non-streaming request a step delivers at most one message, and if it delivers one
    the read side is `Done` afterwards; from a `Done` state it delivers nothing and stays `Done`. -/
structure StepSpec (s : SStream α) (r : SStream α × Out α) : Prop where
  cs : s.cs = false → r.1.cs = false
  le_one : s.cs = false → delivered r.2 ≤ 1
  then_done : s.cs = false → delivered r.2 = 1 → Done r.1
  done_stays : Done s → delivered r.2 = 0 ∧ Done r.1

theorem StepSpec.of_quiet {s : SStream α} {r : SStream α × Out α} (hq : Quiet s r.1) (ho : delivered r.2 = 0) :
    StepSpec s r :=
  ⟨fun h => by rw [hq.cs]; exact h, fun _ => by omega, fun _ h1 => by omega, fun hd => ⟨ho, hq.done hd⟩⟩

theorem StepSpec.of_pending {s : SStream α} {r : SStream α × Out α} {p : PRead α} (hp : s.pread = some p)
    (hcs : r.1.cs = s.cs) (h1 : s.cs = false → delivered r.2 ≤ 1 ∧ (delivered r.2 = 1 → Done r.1)) :
    StepSpec s r :=
  ⟨fun h => by rw [hcs]; exact h, fun h => (h1 h).1, fun h => (h1 h).2,
   fun hd => by rw [hd.2] at hp; cases hp⟩

theorem StepSpec.of_zero {s : SStream α} {r : SStream α × Out α} (hnd : ¬ Done s) (hcs : r.1.cs = s.cs)
    (h0 : delivered r.2 = 0) : StepSpec s r :=
  ⟨fun h => by rw [hcs]; exact h, fun _ => by omega, fun _ h1 => by omega, fun hd => absurd hd hnd⟩

theorem StepSpec.seq {a b c : SStream α} {o₁ o₂ : Out α} (h₁ : StepSpec a (b, o₁)) (h₂ : StepSpec b (c, o₂)) :
    StepSpec a (c, o₁.add o₂) := by
  have hadd : delivered (c, o₁.add o₂).2 = delivered o₁ + delivered o₂ := delivered_add o₁ o₂
  refine ⟨fun h => h₂.cs (h₁.cs h), fun h => ?_, fun h hd => ?_, fun hd => ?_⟩
  · have l1 : delivered o₁ ≤ 1 := h₁.le_one h
    have l2 : delivered o₂ ≤ 1 := h₂.le_one (h₁.cs h)
    rw [hadd]
    by_cases h1 : delivered o₁ = 1
    · have : delivered o₂ = 0 := (h₂.done_stays (h₁.then_done h h1)).1
      omega
    · omega
  · have l1 : delivered o₁ ≤ 1 := h₁.le_one h
    rw [hadd] at hd
    by_cases h1 : delivered o₁ = 1
    · exact (h₂.done_stays (h₁.then_done h h1)).2
    · exact h₂.then_done (h₁.cs h) (show delivered o₂ = 1 by omega)
  · have d1 := h₁.done_stays hd
    have d2 := h₂.done_stays d1.2
    have e1 : delivered o₁ = 0 := d1.1
    have e2 : delivered o₂ = 0 := d2.1
    exact ⟨by rw [hadd, e1, e2], d2.2⟩

theorem StepSpec.of_step {pumps : Bool} {cfg : SCfg} {sid : Sid} {a b : SStream α} {o : Out α}
    (h : Step pumps cfg sid a b o) : StepSpec a (b, o) := by
  induction h with
  | refl s => exact .of_quiet (Quiet.refl s) rfl
  | seq _ _ ih₁ ih₂ => exact ih₁.seq ih₂
  | halfClose s e => exact .of_quiet (by rw [halfClose_eq]; exact quiet_of_fields rfl rfl rfl) rfl
  | finish s err byLoop => exact .of_quiet (finish_quiet sid s err byLoop) (finish_delivered sid s err byLoop)
  | retFinish s keep err =>
    exact .of_quiet ((finish_quiet sid _ err false).pre rfl rfl rfl) (finish_delivered sid _ err false)
  | cancelCtx s e => exact .of_quiet (cancelCtx_quiet sid s e) (cancelCtx_delivered sid s e)
  | @dropSend a s o _ _ _ ih =>
    have hle : delivered (dropSend o) ≤ delivered o := delivered_filter_le o (fun d => d.2.1 != "send")
    refine ⟨ih.cs, fun h => Nat.le_trans hle (ih.le_one h), fun h h1 => ih.then_done h ?_, fun hd => ⟨?_, (ih.done_stays hd).2⟩⟩
    · have l1 : delivered o ≤ 1 := ih.le_one h
      have h1 : delivered (dropSend o) = 1 := h1
      show delivered o = 1
      omega
    · have e : delivered o = 0 := (ih.done_stays hd).1
      show delivered (dropSend o) = 0
      omega
  | delivered s p m hp hcs => exact .of_pending hp rfl (fun h => by rw [hcs] at h; cases h)
  | deliveredEof s p m hp hl => exact .of_pending hp rfl (fun _ => ⟨Nat.le_refl 1, fun _ => ⟨rfl, rfl⟩⟩)
  | readFailed s p e hp =>
    exact .of_zero (not_done_of_pread hp) rfl (by rw [delivered_single, isMsg_toRes]; rfl)
  | readPending s p p' hp => exact .of_zero (not_done_of_pread hp) rfl rfl
  | recvSticky s e hr => exact .of_quiet (Quiet.refl s) (by rw [delivered_single, isMsg_toRes]; rfl)
  | recvCtx s c hr hc => exact .of_zero (not_done_of_readErr hr) rfl rfl
  | readStarted s hr hc => exact .of_zero (not_done_of_readErr hr) rfl rfl
  | _ => exact .of_quiet (quiet_of_fields rfl rfl rfl) rfl

/-- everything that can happen to one stream object: a frame of any kind from any peer, a call by the
    handler, the end of the stream context (cancel, deadline, `serve` returning) -/
inductive SOp (α : Type) where
  | frame (f : C2S α)
  | call (c : HCall α)
  | ctx (e : CtxErr)

def stepOp (cfg : SCfg) (sid : Sid) (s : SStream α) : SOp α → SStream α × Out α
  | .frame f => s.onFrame cfg sid f
  | .call c => s.onCall cfg sid c
  | .ctx e => s.cancelCtx sid e

/-- the second component is the total number of request messages delivered to the handler -/
def runOps (cfg : SCfg) (sid : Sid) : SStream α → List (SOp α) → SStream α × Nat
  | s, [] => (s, 0)
  | s, op :: ops =>
    let r := stepOp cfg sid s op
    let r2 := runOps cfg sid r.1 ops
    (r2.1, delivered r.2 + r2.2)

theorem stepOp_step (cfg : SCfg) (sid : Sid) (s : SStream α) (op : SOp α) :
    Step true cfg sid s (stepOp cfg sid s op).1 (stepOp cfg sid s op).2 := by
  cases op with
  | frame f => exact Step.onFrame s f (fun _ => rfl)
  | call c => exact Step.onCall s c (fun _ => rfl)
  | ctx e => exact .cancelCtx s e

theorem runOps_append (cfg : SCfg) (sid : Sid) (ops1 ops2 : List (SOp α)) : ∀ (s : SStream α),
    runOps cfg sid s (ops1 ++ ops2) =
      ((runOps cfg sid (runOps cfg sid s ops1).1 ops2).1,
       (runOps cfg sid s ops1).2 + (runOps cfg sid (runOps cfg sid s ops1).1 ops2).2) := by
  induction ops1 with
  | nil => intro s; simp [runOps]
  | cons op ops ih =>
    intro s
    simp only [List.cons_append, runOps, ih, Nat.add_assoc]

theorem runOps_step (cfg : SCfg) (sid : Sid) (ops : List (SOp α)) : ∀ (s : SStream α),
    ∃ o, Step true cfg sid s (runOps cfg sid s ops).1 o ∧ (runOps cfg sid s ops).2 = delivered o := by
  induction ops with
  | nil => exact fun s => ⟨{}, .refl s, rfl⟩
  | cons op ops ih =>
    intro s
    obtain ⟨o, h, e⟩ := ih (stepOp cfg sid s op).1
    exact ⟨_, .seq (stepOp_step cfg sid s op) h, by rw [delivered_add, ← e]; rfl⟩

theorem runOps_spec (cfg : SCfg) (sid : Sid) (ops : List (SOp α)) (s : SStream α) :
    ∃ o, (runOps cfg sid s ops).2 = delivered o ∧ StepSpec s ((runOps cfg sid s ops).1, o) :=
  have ⟨o, h, e⟩ := runOps_step cfg sid ops s
  ⟨o, e, .of_step h⟩

theorem runOps_done (cfg : SCfg) (sid : Sid) (ops : List (SOp α)) : ∀ (s : SStream α), Done s →
    (runOps cfg sid s ops).2 = 0 ∧ Done (runOps cfg sid s ops).1 := by
  intro s hd
  obtain ⟨o, ho, hs⟩ := runOps_spec cfg sid ops s
  rw [ho]
  exact hs.done_stays hd

theorem runOps_cs (cfg : SCfg) (sid : Sid) (ops : List (SOp α)) : ∀ (s : SStream α), s.cs = false →
    (runOps cfg sid s ops).1.cs = false := fun s h =>
  have ⟨_, _, hs⟩ := runOps_spec cfg sid ops s
  hs.cs h

/-- **C16 (server), at most one request.**  On a stream whose method has a non-streaming request, whatever
    the peers send, whatever the handler calls and whenever its context ends, at most one request message
    is ever delivered to the handler. -/
theorem C16_server_at_most_one (cfg : SCfg) (sid : Sid) (s0 : SStream α) (h0 : s0.cs = false)
    (ops : List (SOp α)) : (runOps cfg sid s0 ops).2 ≤ 1 := by
  obtain ⟨o, ho, hs⟩ := runOps_spec cfg sid ops s0
  rw [ho]
  exact hs.le_one h0

/-- **C16 (server), delivery ends the request stream.** -/
theorem C16_server_delivered_then_done (cfg : SCfg) (sid : Sid) (s0 : SStream α) (h0 : s0.cs = false)
    (ops : List (SOp α)) (h1 : (runOps cfg sid s0 ops).2 = 1) : Done (runOps cfg sid s0 ops).1 := by
  obtain ⟨o, ho, hs⟩ := runOps_spec cfg sid ops s0
  exact hs.then_done h0 (ho ▸ h1)

theorem delivered_eq_zero_iff (o : Out α) : delivered o = 0 ↔ ∀ d ∈ o.dones, isMsg d.2.2 = false := by
  simp [delivered, List.filter_eq_nil_iff]

theorem afterDecode_dones (sid : Sid) (s : SStream α) (o : Out α) :
    ∃ rest, (s.afterDecode sid o).2.dones = o.dones ++ rest := by
  obtain ⟨o', _, e⟩ := Step.afterDecode_tail (pumps := false) (cfg := {}) (sid := sid) s o
  exact ⟨o'.dones, by rw [e]; rfl⟩

/-- the sticky error is the first completion of the step; `rest`, if any, is the unary handler's return -/
theorem recv_when_done (cfg : SCfg) (sid : Sid) (s : SStream α) (hd : Done s) :
    ∃ e rest, s.readErr = some e ∧
      (s.onCall cfg sid .recv).2.dones =
        (sid, (if s.hstatus == .decoding then "decode" else "recv"), e.toRes) :: rest ∧
      (∀ d ∈ (s.onCall cfg sid .recv).2.dones, isMsg d.2.2 = false) ∧
      Done (s.onCall cfg sid .recv).1 := by
  have hspec := (StepSpec.of_step (Step.onCall (cfg := cfg) (sid := sid) s .recv (fun _ => rfl))).done_stays hd
  obtain ⟨e, he⟩ := Option.isSome_iff_exists.mp hd.1
  have hdn : ∃ rest, (s.onCall cfg sid .recv).2.dones =
      (sid, (if s.hstatus == .decoding then "decode" else "recv"), e.toRes) :: rest := by
    simp only [SStream.onCall, SStream.startRecv, he]
    obtain ⟨rest, hr⟩ := afterDecode_dones sid s
      { dones := [(sid, (if s.hstatus == .decoding then "decode" else "recv"), e.toRes)] }
    exact ⟨rest, by rw [hr]; rfl⟩
  obtain ⟨rest, hr⟩ := hdn
  exact ⟨e, rest, he, hr, (delivered_eq_zero_iff _).mp hspec.1, hspec.2⟩

/-- **C16 (server), reads after the request fail.**  Once the request message has been delivered in a run
    `ops1`, then after any further operations `ops2` nothing more is delivered, and a `RecvMsg` issued then
    returns the sticky read error, not a message. -/
theorem C16_server_reads_fail_after_delivery (cfg : SCfg) (sid : Sid) (s0 : SStream α) (h0 : s0.cs = false)
    (ops1 ops2 : List (SOp α)) (h1 : (runOps cfg sid s0 ops1).2 = 1) :
    let s := (runOps cfg sid (runOps cfg sid s0 ops1).1 ops2).1
    (runOps cfg sid (runOps cfg sid s0 ops1).1 ops2).2 = 0 ∧
    ∃ e rest, s.readErr = some e ∧
      (s.onCall cfg sid .recv).2.dones =
        (sid, (if s.hstatus == .decoding then "decode" else "recv"), e.toRes) :: rest ∧
      (∀ d ∈ (s.onCall cfg sid .recv).2.dones, isMsg d.2.2 = false) := by
  have hd := C16_server_delivered_then_done cfg sid s0 h0 ops1 h1
  have h2 := runOps_done cfg sid ops2 _ hd
  obtain ⟨e, rest, he, hr, hn, _⟩ := recv_when_done cfg sid _ h2.2
  exact ⟨h2.1, e, rest, he, hr, hn⟩

theorem finishCore_fields (sid : Sid) (s : SStream α) (err : Option SErr) :
    (s.finishCore sid err).1.ctxDone = s.ctxDone ∧ (s.finishCore sid err).1.pread = s.pread ∧
    (s.finishCore sid err).1.psend = s.psend ∧ (s.finishCore sid err).1.hstatus = s.hstatus := by
  rw [finishCore_fst]; exact ⟨rfl, rfl, rfl, rfl⟩

theorem ccSend_released (sid : Sid) (s : SStream α) (e : CtxErr) :
    (ccSend sid s e).1.ctxDone = s.ctxDone ∧ (ccSend sid s e).1.psend = none ∧ (ccSend sid s e).1.pread = s.pread :=
  ccSend_elim (motive := fun r => r.1.ctxDone = s.ctxDone ∧ r.1.psend = none ∧ r.1.pread = s.pread) sid s e
    (fun h => ⟨rfl, h, rfl⟩) (fun _ _ _ => by rw [finishCore_fst]; exact ⟨rfl, rfl, rfl⟩) (fun _ _ _ => ⟨rfl, rfl, rfl⟩)

theorem ccRead_released (sid : Sid) (s : SStream α) (e : CtxErr) :
    (ccRead sid s e).1.ctxDone = s.ctxDone ∧ (ccRead sid s e).1.pread = none ∧ (ccRead sid s e).1.psend = s.psend :=
  ccRead_elim (motive := fun r => r.1.ctxDone = s.ctxDone ∧ r.1.pread = none ∧ r.1.psend = s.psend) sid s e
    (fun h => ⟨rfl, h, rfl⟩) (fun _ _ _ => by rw [finishCore_fst]; exact ⟨rfl, rfl, rfl⟩) (fun _ _ _ => ⟨rfl, rfl, rfl⟩)

theorem cancelCtx_released (sid : Sid) (s : SStream α) (e : CtxErr) :
    (s.cancelCtx sid e).1.ctxDone.isSome = true ∧
    (s.ctxDone = none → (s.cancelCtx sid e).1.pread = none ∧ (s.cancelCtx sid e).1.psend = none) := by
  have h1 := ccSend_released sid (ctxMark s e) e
  have h2 := ccRead_released sid (ccSend sid (ctxMark s e) e).1 e
  exact cancelCtx_elim (motive := fun r => r.1.ctxDone.isSome = true ∧ (s.ctxDone = none → r.1.pread = none ∧ r.1.psend = none))
    sid s e (fun hd => ⟨hd, fun hn => by rw [hn] at hd; cases hd⟩)
    (fun _ => ⟨by rw [h2.1, h1.1]; rfl, fun _ => ⟨h2.2.1, h2.2.2.trans h1.2.1⟩⟩)

theorem serveReturns_released (s : Srv α) (err : Option String) :
    ∀ e ∈ (s.serveReturns err).1.streams, e.2.ctxDone.isSome = true := by
  intro e he
  obtain ⟨st, _, heq⟩ := serveReturns_mem he
  rw [heq]; exact (cancelCtx_released _ st .canceled).1

theorem finishCore_frames_of_closed (sid : Sid) (s : SStream α) (err : Option SErr) (hcl : s.closed = true) :
    (s.finishCore sid err).2.frames = [] := by
  rw [finishCore_snd, hcl]; rfl

theorem finishCore_closed (sid : Sid) (s : SStream α) (err : Option SErr) :
    (s.finishCore sid err).1.closed = true ∧ (s.finishCore sid err).1.inTable = false := by
  rw [finishCore_fst]; exact ⟨rfl, rfl⟩

theorem finishCore_close_frame (sid : Sid) (s : SStream α) (err : Option SErr) (hc : s.closed = false) :
    (sid, S2C.close (SErr.wireStatus err) s.trailers) ∈ (s.finishCore sid err).2.frames := by
  rw [finishCore_snd, hc]
  exact List.mem_append_right _ (List.mem_singleton.mpr rfl)

theorem ccSend_closed (sid : Sid) (s : SStream α) (e : CtxErr) (h : s.closed = true ∧ s.inTable = false) :
    (ccSend sid s e).1.closed = true ∧ (ccSend sid s e).1.inTable = false :=
  ccSend_elim (motive := fun r => r.1.closed = true ∧ r.1.inTable = false) sid s e (fun _ => h)
    (fun _ _ _ => finishCore_closed ..) (fun _ _ _ => h)

theorem ccRead_closed (sid : Sid) (s : SStream α) (e : CtxErr) (h : s.closed = true ∧ s.inTable = false) :
    (ccRead sid s e).1.closed = true ∧ (ccRead sid s e).1.inTable = false :=
  ccRead_elim (motive := fun r => r.1.closed = true ∧ r.1.inTable = false) sid s e (fun _ => h)
    (fun _ _ _ => finishCore_closed ..) (fun _ _ _ => h)

theorem cancelCtx_closed (sid : Sid) (s : SStream α) (e : CtxErr)
    (hc : s.closed = true) (ht : s.inTable = false) :
    (s.cancelCtx sid e).1.closed = true ∧ (s.cancelCtx sid e).1.inTable = false :=
  cancelCtx_elim (motive := fun r => r.1.closed = true ∧ r.1.inTable = false) sid s e (fun _ => ⟨hc, ht⟩)
    (fun _ => ccRead_closed sid _ e (ccSend_closed sid (ctxMark s e) e ⟨hc, ht⟩))

theorem finish_closed (sid : Sid) (s : SStream α) (err : Option SErr) (b : Bool) :
    (s.finish sid err b).1.closed = true ∧ (s.finish sid err b).1.inTable = false := by
  rw [finish_eq]
  exact cancelCtx_closed sid _ _ (finishCore_closed sid s _).1 (finishCore_closed sid s _).2

theorem finish_ctxDone (sid : Sid) (s : SStream α) (err : Option SErr) (b : Bool) :
    (s.finish sid err b).1.ctxDone.isSome = true := by
  rw [finish_eq]
  exact (cancelCtx_released sid _ .canceled).1

theorem finish_close_frame (sid : Sid) (s : SStream α) (err : Option SErr) (hc : s.closed = false) :
    (sid, S2C.close (SErr.wireStatus err) s.trailers) ∈ (s.finish sid err false).2.frames := by
  rw [finish_eq]
  exact List.mem_append_right _ (finishCore_close_frame sid s err hc)

theorem failWith_finishes (sid : Sid) (cf : List (Sid × S2C α)) (s : SStream α) (e : SErr) :
    (∃ rest, (failWith sid cf s e false).2.dones = (sid, opName s, e.toRes) :: rest) ∧
    delivered (failWith sid cf s e false).2 = 0 ∧
    (failWith sid cf s e false).1.readErr = some e ∧ (failWith sid cf s e false).1.pread = none ∧
    (failWith sid cf s e false).1.closed = true ∧ (failWith sid cf s e false).1.inTable = false ∧
    (s.closed = false →
      (sid, S2C.close (SErr.wireStatus (some e)) s.trailers) ∈ (failWith sid cf s e false).2.frames) := by
  unfold failWith
  rw [if_neg Bool.false_ne_true]
  have hk := (finish_quiet sid ({ s with pread := none, readErr := some e } : SStream α) (some e) false).keep rfl
  have hcl := finish_closed sid ({ s with pread := none, readErr := some e } : SStream α) (some e) false
  refine ⟨⟨_, rfl⟩, ?_, hk.2, hk.1, hcl.1, hcl.2, fun hc => ?_⟩
  · rw [delivered_add, finish_delivered, delivered_single, isMsg_toRes]; rfl
  · exact List.mem_append_right _ (finish_close_frame sid _ (some e) hc)

/-- **C16 (server), a second request fails the RPC.**  If the eager look-ahead read of a non-client-stream
    method (first message `m` complete) finds a complete second message in the queue, the pending call is
    completed with `InvalidArgument`, nothing is delivered, the sticky read error is set and the stream is
    finished (closed and out of the table; if it was not closed before, the close frame carries
    `InvalidArgument`). -/
theorem C16_second_request_fails (sid : Sid) (fuel : Nat) (s : SStream α) (p : PRead α) (m m2 : List α)
    (w : Nat) (q : List (DFrame α)) (cs' : List Nat)
    (hp : s.pread = some p) (hl : p.lookahead = some m)
    (hr : readLoop s.rcv.rwin s.rcv.queue p.rst = (w, q, cs', some (.msg m2))) :
    let r := s.resumeRead sid "" (fuel + 1)
    let e : SErr := .status (mkStatus codeInvalidArgument "Already received request for non-client-stream method")
    (∃ rest, r.2.dones =
      (sid, (if s.hstatus == .decoding then "decode" else "recv"), .status codeInvalidArgument) :: rest) ∧
    delivered r.2 = 0 ∧
    r.1.readErr = some e ∧ r.1.pread = none ∧ r.1.closed = true ∧ r.1.inTable = false ∧
    (s.closed = false → (sid, S2C.close (mkStatus codeInvalidArgument
        "Already received request for non-client-stream method") s.trailers) ∈ r.2.frames) := by
  intro r e
  have hr' : r = failWith sid (s.creditFrames sid cs') (drained s w q) e false := by
    show s.resumeRead sid "" (fuel + 1) = _
    rw [resumeRead_succ sid "" fuel hp, readPass_second hr hl]
  rw [hr']
  exact failWith_finishes sid _ (drained s w q) e

-- the bound is attained: one request then half-close delivers exactly one message,
-- and a late second request / further reads deliver nothing
example :
    let s : SStream Nat := { cs := false, ss := true, unary := false, fc := true, rcv := RcvQ.init 10, win := 10,
                             hstatus := .running }
    (runOps {} 1 s [.call .recv, .frame (.msg 1 [7]), .frame .halfClose]).2 = 1 ∧
    (runOps {} 1 s [.call .recv, .frame (.msg 1 [7]), .frame .halfClose, .call .recv, .frame (.msg 1 [8]),
                    .call .recv, .ctx .canceled]).2 = 1 := by
  decide

-- two requests before the half-close: nothing is delivered, the stream is finished
example :
    let s : SStream Nat := { cs := false, ss := true, unary := false, fc := true, rcv := RcvQ.init 10, win := 10,
                             hstatus := .running }
    let r := runOps {} 1 s [.call .recv, .frame (.msg 1 [7]), .frame (.msg 1 [8]), .frame .halfClose, .call .recv]
    r.2 = 0 ∧ r.1.closed = true := by
  decide

end Proofs.ServerShape

#print axioms Proofs.ServerShape.C16_server_at_most_one
#print axioms Proofs.ServerShape.C16_server_delivered_then_done
#print axioms Proofs.ServerShape.C16_server_reads_fail_after_delivery
#print axioms Proofs.ServerShape.runOps_done
#print axioms Proofs.ServerShape.recv_when_done
#print axioms Proofs.ServerShape.C16_second_request_fails
