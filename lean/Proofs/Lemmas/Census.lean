import Proofs.Lemmas.Teardown
import TunnelModel.LFrame.Census
/-!
  # Census: no goroutine is left behind by a finished RPC / a finished tunnel

  Goroutines are not objects of the model; what the model has is the state that
  keeps each of them alive.  On the server every stream object accounts for two
  goroutines: the handler goroutine (alive until `hstatus = .returned`) and the
  context watcher started by `createStream` (alive until the stream context
  ends, `ctxDone.isSome`).  On the client every stream accounts for its context
  watcher, and the channel for its receive loop (alive until `finished.isSome`).

  The server half rests on two invariants of the stream objects, `CD` and `RC`.  Both come from one
  relation `GRel s s'` between a stream object before and after anything the endpoint does to it, checked
  on the elementary state changes of `ServerOps.Step`.
  `finishCore` alone is NOT in `GRel` (it marks the stream closed and leaves the context alone); the model
  only ever runs it followed by `cancelCtx` (`finish`, the model of `finishStream`, whose Go original
  cancels first; the net effect of the atomic step is the same) or on a stream whose context has just
  ended (inside `cancelCtx`): `finish_abs`, `finishCore_abs`.  Nor is the write `hstatus := .returned`
  alone; the model always runs `finish` next (`Step.retFinish`).

  `CD` holds of a new stream object whatever its `hstatus`.  `RC` does not: a new object with
  `hstatus = .returned` is not closed; it holds of the `hstatus` that `createStream` installs
  (`if unary then .decoding else .running`, recorded in `ServerOps.Fresh`).
-/
namespace Proofs.Census
open TunnelModel TunnelModel.LFrame TunnelModel.Framing
open Proofs.Teardown
open Proofs.ServerOps (Step Fresh)
open Proofs.ServerBound (AllS allS_init)

variable {α : Type}

/-- a finished stream's context has ended -/
def CD (s : SStream α) : Prop := s.closed = true → s.ctxDone.isSome = true

/-- a stream whose handler has returned is finished -/
def RC (s : SStream α) : Prop := s.hstatus = .returned → s.closed = true

structure GRel (s s' : SStream α) : Prop where
  t : TRel s s'
  cd : s'.closed = true → s.closed = true ∨ s'.ctxDone.isSome = true
  rc : s'.hstatus = .returned → s.hstatus = .returned ∨ s'.closed = true

theorem GRel.refl (s : SStream α) : GRel s s := ⟨TRel.refl s, Or.inl, Or.inl⟩

theorem GRel.trans {a b c : SStream α} (h1 : GRel a b) (h2 : GRel b c) : GRel a c := by
  refine ⟨h1.t.trans h2.t, fun hc => ?_, fun hr => ?_⟩
  · rcases h2.cd hc with hb | hx
    · rcases h1.cd hb with ha | hx
      · exact Or.inl ha
      · exact Or.inr (h2.t.ctxDone hx)
    · exact Or.inr hx
  · rcases h2.rc hr with hb | hx
    · rcases h1.rc hb with ha | hx
      · exact Or.inl ha
      · exact Or.inr (h2.t.closed hx)
    · exact Or.inr hx

theorem GRel.of_eq {s s' : SStream α} (hc : s'.closed = s.closed) (ht : s'.inTable = s.inTable)
    (hx : s'.ctxDone = s.ctxDone) (hh : s'.hstatus = s.hstatus) : GRel s s' :=
  ⟨TRel.of_eq hc ht hx, fun h => Or.inl (hc ▸ h), fun h => Or.inl (hh ▸ h)⟩

theorem GRel.keeps_cd {s s' : SStream α} (h : GRel s s') (hi : CD s) : CD s' := by
  intro hc
  rcases h.cd hc with h0 | hx
  · exact h.t.ctxDone (hi h0)
  · exact hx

theorem GRel.keeps_rc {s s' : SStream α} (h : GRel s s') (hi : RC s) : RC s' := by
  intro hr
  rcases h.rc hr with h0 | hx
  · exact h.t.closed (hi h0)
  · exact hx

/-- `finishStream` absorbs whatever was done to the stream object before it: afterwards the stream is
    closed and its context has ended -/
theorem finish_abs {s0 s : SStream α} (sid : Sid) (err : Option SErr) (b : Bool) (h : TRel s0 s) :
    GRel s0 (s.finish sid err b).1 :=
  ⟨h.trans (finish_tab sid s err b), fun _ => Or.inr (Proofs.ServerShape.finish_ctxDone sid s err b),
   fun _ => Or.inr (Proofs.ServerShape.finish_closed sid s err b).1⟩

theorem finishCore_abs {s0 s : SStream α} (sid : Sid) (err : Option SErr) (h : TRel s0 s)
    (hx : s.ctxDone.isSome = true) : GRel s0 (s.finishCore sid err).1 := by
  refine ⟨h.trans (finishCore_tab sid s err), fun _ => Or.inr ?_, fun _ => Or.inr ?_⟩
  · rw [ServerOps.finishCore_fst]; exact hx
  · rw [ServerOps.finishCore_fst]

theorem ccSend_g (sid : Sid) (s : SStream α) (e : CtxErr) (hx : s.ctxDone.isSome = true) :
    GRel s (ServerOps.ccSend sid s e).1 := by
  unfold ServerOps.ccSend
  split
  · dsimp only
    split
    · exact finishCore_abs sid _ (TRel.of_eq rfl rfl rfl) hx
    · exact GRel.of_eq rfl rfl rfl rfl
  · exact GRel.refl s

theorem ccRead_g (sid : Sid) (s : SStream α) (e : CtxErr) (hx : s.ctxDone.isSome = true) :
    GRel s (ServerOps.ccRead sid s e).1 := by
  unfold ServerOps.ccRead
  split
  · dsimp only
    split
    · exact finishCore_abs sid _ (TRel.of_eq rfl rfl rfl) hx
    · exact GRel.of_eq rfl rfl rfl rfl
  · exact GRel.refl s

theorem cancelCtx_g (sid : Sid) (s : SStream α) (e : CtxErr) : GRel s (s.cancelCtx sid e).1 := by
  cases hc : s.ctxDone with
  | some c => rw [ServerOps.cancelCtx_of_done sid e (by rw [hc]; rfl)]; exact GRel.refl s
  | none =>
    rw [ServerOps.cancelCtx_of_open sid e hc]
    have h1 : GRel s (ServerOps.ctxMark s e) :=
      ⟨⟨Or.inl ⟨rfl, rfl⟩, fun h => by rw [hc] at h; cases h⟩, Or.inl, Or.inl⟩
    exact (h1.trans (ccSend_g sid _ e rfl)).trans (ccRead_g sid _ e ((ccSend_tab sid _ e).ctxDone rfl))

theorem GRel.of_step {pumps : Bool} {cfg : SCfg} {sid : Sid} {s s' : SStream α} {o : Out α}
    (h : Step pumps cfg sid s s' o) : GRel s s' := by
  induction h with
  | refl s => exact GRel.refl s
  | seq _ _ ih₁ ih₂ => exact ih₁.trans ih₂
  | halfClose s e => rw [ServerOps.halfClose_eq]; exact GRel.of_eq rfl rfl rfl rfl
  | finish s err b => exact finish_abs sid err b (TRel.refl s)
  | retFinish s keep err => exact finish_abs sid err false (TRel.of_eq rfl rfl rfl)
  | cancelCtx s e => exact cancelCtx_g sid s e
  | dropSend _ _ _ ih => exact ih
  | decoded => exact ⟨TRel.of_eq rfl rfl rfl, Or.inl, fun h => by cases h⟩
  -- the other elementary changes write neither `closed`, `inTable`, `ctxDone` nor `hstatus`
  | _ => exact GRel.of_eq rfl rfl rfl rfl

theorem cd_lift (cfg : SCfg) :
    (∀ sid (s : SStream α) ev, CD s → CD (s.stepEv cfg sid ev).1) ∧
    ∀ rev win dl (st : SStream α), Fresh cfg rev win dl st → CD st :=
  ⟨fun _ s ev => (GRel.of_step (Step.stepEv s ev (fun _ => rfl))).keeps_cd,
   fun _ _ _ _ hf hc => by cases hf; cases hc⟩

theorem closed_ctxDone_run (cfg : SCfg) (xs : List (SStim α)) (s : Srv α) (h : AllS CD s) :
    AllS CD (Srv.run cfg s xs).1 :=
  ServerOps.allS_run (cd_lift cfg).1 (cd_lift cfg).2 xs s h

theorem CD.not_closed {s : SStream α} (h : CD s) (hn : s.ctxDone = none) : s.closed = false := by
  cases hc : s.closed with
  | false => rfl
  | true =>
    have := h hc
    rw [hn] at this; cases this

theorem open_ctx_not_closed_run (cfg : SCfg) (xs : List (SStim α)) (s : Srv α) (h : AllS CD s) :
    ∀ e ∈ (Srv.run cfg s xs).1.streams, e.2.ctxDone = none → e.2.closed = false :=
  fun e he => (closed_ctxDone_run cfg xs s h e he).not_closed

theorem returned_closed_run (cfg : SCfg) (xs : List (SStim α)) (s : Srv α) (h : AllS RC s) :
    AllS RC (Srv.run cfg s xs).1 :=
  ServerOps.allS_run (P := RC) (fun _ s ev => (GRel.of_step (Step.stepEv s ev (fun _ => rfl))).keeps_rc)
    (fun _ _ _ _ hf hr => by cases hf with | mk unary => cases unary <;> cases hr) xs s h

/-! The census is stated for any endpoint state whose stream objects satisfy `CD` and `RC`; the reachable
  ones do (`closed_ctxDone_run`, `returned_closed_run` from `{}`). -/

theorem sGoroutines_zero_iff (s : SStream α) :
    sGoroutines s = 0 ↔ s.hstatus = .returned ∧ s.ctxDone.isSome = true := by
  unfold sGoroutines
  cases s.hstatus <;> cases s.ctxDone.isSome <;> simp

/-- **Server: a finished RPC whose handler has returned leaves no goroutine behind.** -/
theorem server_no_goroutine_left {s : Srv α} (hcd : AllS CD s) :
    ∀ e ∈ s.streams, e.2.closed = true → e.2.hstatus = .returned → sGoroutines e.2 = 0 :=
  fun e he hc hr => (sGoroutines_zero_iff e.2).mpr ⟨hr, hcd e he hc⟩

theorem sum_map_indicators {β : Type} (f : β → Nat) (p q : β → Bool)
    (h : ∀ x, f x = (if p x then 1 else 0) + (if q x then 1 else 0)) (l : List β) :
    (l.map f).sum = (l.filter p).length + (l.filter q).length := by
  rw [← List.countP_eq_length_filter, ← List.countP_eq_length_filter]
  induction l with
  | nil => rfl
  | cons x rest ih =>
    rw [List.map_cons, List.sum_cons, ih, h x, List.countP_cons, List.countP_cons]
    omega

theorem sGoroutines_eq (s : SStream α) :
    sGoroutines s = (if s.hstatus != .returned then 1 else 0) + (if s.ctxDone.isNone then 1 else 0) := by
  unfold sGoroutines
  cases s.hstatus <;> cases s.ctxDone <;> rfl

theorem census_split (l : List (Sid × SStream α)) :
    (l.map (fun e => sGoroutines e.2)).sum =
      (l.filter (fun e => e.2.hstatus != .returned)).length + (l.filter (fun e => e.2.ctxDone.isNone)).length :=
  -- `β` is given: inferring it from the three functions is slow
  sum_map_indicators (β := Sid × SStream α) (fun e => sGoroutines e.2) (fun e => e.2.hstatus != .returned)
    (fun e => e.2.ctxDone.isNone) (fun e => sGoroutines_eq e.2) l

theorem census_of_ctxEnded (l : List (Sid × SStream α)) (h : ∀ e ∈ l, e.2.ctxDone.isSome = true) :
    (l.map (fun e => sGoroutines e.2)).sum = (l.filter (fun e => e.2.hstatus != .returned)).length := by
  have hw : l.filter (fun e => e.2.ctxDone.isNone) = [] :=
    List.filter_eq_nil_iff.mpr (fun e he hn => by rw [Option.isNone_eq_false_iff.mpr (h e he)] at hn; cases hn)
  rw [census_split, hw]
  rfl

/-- **Server: after `serve` has returned the only goroutines left are handlers that have not returned
    yet** (every context watcher is gone, `RetDone`; by `C04_server_returned_never_blocks` none of those
    handlers is blocked in the tunnel). -/
theorem server_census_after_return {s : Srv α} (hrd : RetDone s) (hret : s.returned.isSome = true) :
    srvCensus s = (s.streams.filter (fun e => e.2.hstatus != .returned)).length :=
  census_of_ctxEnded _ (hrd hret)

/-- **Server: the census is the number of handlers that have not returned plus the number of live stream
    contexts; a stream with a live context is not finished; a stream whose handler returned is finished,
    its context has ended and it accounts for no goroutine.** -/
theorem server_quiescent_census {s : Srv α} (hcd : AllS CD s) (hrc : AllS RC s) :
    srvCensus s = (s.streams.filter (fun e => e.2.hstatus != .returned)).length +
                  (s.streams.filter (fun e => e.2.ctxDone.isNone)).length ∧
    (∀ e ∈ s.streams, e.2.ctxDone = none → e.2.closed = false) ∧
    (∀ e ∈ s.streams, e.2.hstatus = .returned →
      e.2.closed = true ∧ e.2.ctxDone.isSome = true ∧ sGoroutines e.2 = 0) := by
  refine ⟨census_split _, fun e he => (hcd e he).not_closed, fun e he hr => ?_⟩
  have hc := hrc e he hr
  exact ⟨hc, hcd e he hc, server_no_goroutine_left hcd e he hc hr⟩

theorem server_goroutines_zero_iff {s : Srv α} (hcd : AllS CD s) (hrc : AllS RC s) :
    ∀ e ∈ s.streams, (sGoroutines e.2 = 0 ↔ e.2.hstatus = .returned) :=
  fun e he => ⟨fun h => ((sGoroutines_zero_iff e.2).mp h).1,
    fun hr => ((server_quiescent_census hcd hrc).2.2 e he hr).2.2⟩

/-- **Server: the census is zero exactly when every handler has returned.** -/
theorem server_census_zero_iff {s : Srv α} (hcd : AllS CD s) (hrc : AllS RC s) :
    srvCensus s = 0 ↔ ∀ e ∈ s.streams, e.2.hstatus = .returned := by
  unfold srvCensus
  rw [List.sum_eq_zero_iff_forall_eq_nat, List.forall_mem_map]
  exact ⟨fun h e he => (server_goroutines_zero_iff hcd hrc e he).mp (h e he),
    fun h e he => (server_goroutines_zero_iff hcd hrc e he).mpr (h e he)⟩

/-- **Client: an RPC with its terminal result leaves no goroutine behind.** -/
theorem client_no_goroutine_left {c : Cli α} (hwf : Proofs.ClientShape.AllWF c) :
    ∀ e ∈ c.streams, e.2.done.isSome = true → cGoroutines e.2 = 0 := by
  intro e he hd
  unfold cGoroutines
  rw [(hwf e he).1, hd]
  rfl

theorem ccensus_of_ctxEnded (l : List (Sid × CStream α)) (h : ∀ e ∈ l, e.2.ctxDone.isSome = true) :
    (l.map (fun e => cGoroutines e.2)).sum = 0 := by
  rw [List.sum_eq_zero_iff_forall_eq_nat, List.forall_mem_map]
  intro e he
  unfold cGoroutines
  rw [h e he]
  rfl

/-- **Client: a finished channel leaves no goroutine behind** (the receive loop is gone and so is every
    context watcher). -/
theorem client_census_after_close {c : Cli α} (h : Reach c) (hf : c.finished.isSome = true) : cliCensus c = 0 := by
  unfold cliCensus
  rw [hf, ccensus_of_ctxEnded c.streams (fun e he => (settled_of_finished h hf e he).2.1)]
  rfl

section Examples

/-- service `[1]` with one unary method `[3]` and one bidi stream method `[2]` -/
def exCfg : SCfg := { services := [([1], { methods := [[3]], streams := [([2], true, true)] })] }

-- mid-RPC: the handler of a streaming RPC is blocked in a read — handler + context watcher
example :
    let s := (Srv.run (α := Nat) exCfg {} [.frame 0 (.newStream [47, 1, 47, 2] [] 1 10), .call 0 .recv]).1
    srvCensus s = 2 ∧
    s.streams.map (fun e => (e.1, sGoroutines e.2, e.2.closed, e.2.ctxDone.isSome)) = [(0, 2, false, false)] := by
  decide +kernel

-- ... the handler returns: census 0, stream finished, context ended
example :
    let s := (Srv.run (α := Nat) exCfg {}
      [.frame 0 (.newStream [47, 1, 47, 2] [] 1 10), .call 0 .recv, .frame 0 .halfClose,
       .call 0 (.ret (mkStatus 0 ""))]).1
    srvCensus s = 0 ∧
    s.streams.map (fun e => (e.1, sGoroutines e.2, e.2.closed, e.2.ctxDone.isSome)) = [(0, 0, true, true)] := by
  decide +kernel

-- a cancel frame while the handler runs: `finishStream` by the receive loop — the stream
-- is finished and its context watcher is gone (`CD`), the handler goroutine is still
-- there (census 1) until it returns (census 0)
example :
    let s1 := (Srv.run (α := Nat) exCfg {} [.frame 0 (.newStream [47, 1, 47, 2] [] 1 10), .frame 0 .cancel]).1
    let s2 := (Srv.run (α := Nat) exCfg s1 [.call 0 (.ret (mkStatus 1 "canceled"))]).1
    srvCensus s1 = 1 ∧
    s1.streams.map (fun e => (e.1, e.2.closed, e.2.ctxDone.isSome, e.2.hstatus == .returned)) = [(0, true, true, false)] ∧
    srvCensus s2 = 0 := by
  decide +kernel

-- a unary RPC blocked in its decode callback is released by the cancel frame: the handler
-- returns the context error in the same step — nothing is left
example :
    let s0 := (Srv.run (α := Nat) exCfg {} [.frame 0 (.newStream [47, 1, 47, 3] [] 1 10)]).1
    let s1 := (Srv.run (α := Nat) exCfg s0 [.frame 0 .cancel]).1
    srvCensus s0 = 2 ∧ srvCensus s1 = 0 ∧
    s1.streams.map (fun e => (e.1, e.2.closed, e.2.ctxDone.isSome, e.2.hstatus == .returned)) = [(0, true, true, true)] := by
  decide +kernel

-- `serve` returns with two RPCs in flight (one blocked in a read, one running): the
-- context watchers are gone, the two handlers remain (`server_census_after_return`)
-- until they return
example :
    let xs : List (SStim Nat) :=
      [.frame 0 (.newStream [47, 1, 47, 2] [] 1 10), .frame 2 (.newStream [47, 1, 47, 2] [] 1 10), .call 0 .recv]
    let s0 := (Srv.run exCfg {} xs).1
    let s1 := (Srv.run exCfg s0 [.carrierEnds none]).1
    let s2 := (Srv.run exCfg s1 [.call 0 (.ret (mkStatus 1 "")), .call 2 (.ret (mkStatus 0 ""))]).1
    srvCensus s0 = 4 ∧ s1.returned.isSome = true ∧ srvCensus s1 = 2 ∧
    (s1.streams.filter (fun e => e.2.hstatus != .returned)).length = 2 ∧ srvCensus s2 = 0 := by
  decide +kernel

-- client: receive loop + two context watchers; a close frame ends one RPC; `close` ends everything
example :
    let xs : List (CStim Nat) :=
      [.frame (-1) (.settings 100 [1]), .new true true [1] [] none false, .new true true [1] [] none false]
    let c0 := (Cli.run {} (Cli.start {}) xs).1
    let c1 := (Cli.run {} c0 [.frame 1 (.close (mkStatus 0 "") [])]).1
    let c2 := (Cli.run {} c1 [.close]).1
    cliCensus c0 = 3 ∧ cliCensus c1 = 2 ∧
    c1.streams.map (fun e => (e.1, e.2.done.isSome, cGoroutines e.2)) = [(1, true, 0), (2, false, 1)] ∧
    c2.finished.isSome = true ∧ cliCensus c2 = 0 := by
  decide +kernel

end Examples

end Proofs.Census

#print axioms Proofs.Census.cd_lift
#print axioms Proofs.Census.closed_ctxDone_run
#print axioms Proofs.Census.open_ctx_not_closed_run
#print axioms Proofs.Census.returned_closed_run
#print axioms Proofs.Census.server_no_goroutine_left
#print axioms Proofs.Census.server_census_after_return
#print axioms Proofs.Census.server_quiescent_census
#print axioms Proofs.Census.server_goroutines_zero_iff
#print axioms Proofs.Census.server_census_zero_iff
#print axioms Proofs.Census.client_no_goroutine_left
#print axioms Proofs.Census.client_census_after_close
