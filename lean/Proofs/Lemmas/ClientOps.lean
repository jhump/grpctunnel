import TunnelModel.LFrame.Trace
import Proofs.Lemmas.ReadLoop
/-!
  The client stream operations (`TunnelModel.LFrame.Client`) in a form that proofs can use without
  unfolding them.  Every operation is given as an explicit pair (state, output) under its guard, and
  then as a `Chain` of elementary steps (`Atom`), listed with the guards under which the model performs
  them: a relation between state before, state after and output that holds of the steps and is closed
  under composition holds of every operation (`Chain.fold`).  An invariant that is only restored at the
  end of `finishStream` or of a read is followed along the coarser `Op`.  `CLift` lifts a per-stream
  invariant to all streams of the endpoint.
-/
namespace Proofs.ClientOps
open TunnelModel TunnelModel.LFrame TunnelModel.Framing

variable {α : Type}

theorem COut.empty_add (o : COut α) : ({} : COut α).add o = o := rfl

theorem COut.add_empty (o : COut α) : o.add {} = o := by
  simp only [COut.add, List.append_nil]

theorem COut.add_assoc (a b c : COut α) : (a.add b).add c = a.add (b.add c) := by
  simp only [COut.add, List.append_assoc]

theorem isSome_of_eq_some {A : Type} {o : Option A} {a : A} (h : o = some a) : o.isSome = true := by
  rw [h]; rfl

theorem eq_none_of_isSome_false {A : Type} {o : Option A} (h : ¬ o.isSome = true) : o = none := by
  cases o with
  | none => rfl
  | some a => exact absurd rfl h

theorem ctxEnds_done (sid : Sid) (s : CStream α) (e : CtxErr) (b : Bool) (h : s.ctxDone.isSome = true) :
    s.ctxEnds sid e b = (s, {}) := by
  unfold CStream.ctxEnds
  rw [if_pos h]

theorem ctxEnds_eq (sid : Sid) (s : CStream α) (e : CtxErr) (b : Bool) (h : s.ctxDone = none) :
    s.ctxEnds sid e b =
      ({ s with ctxDone := some e, psend := none, pheader := false },
       { dones := (match s.psend with | some _ => [(sid, "send", Res.ctx e)] | none => []) ++
                  (if s.pheader then
                     [(sid, "header", if s.gotHeaders then Res.md s.headers
                                      else if b then .other "RACE:ctx-or-nil-headers" else .ctx e)]
                   else []) }) := by
  obtain ⟨cs, ss, fc, ctxDone, dl, rcv, done, gh, hd, tr, ds, re, pread, pheader, win, psend, ns, hc, it, un⟩ := s
  subst h
  cases psend <;> cases pheader <;> rfl

theorem finish_done (sid : Sid) (s : CStream α) (err : Option SErr) (tr : MD) (h : s.done.isSome = true) :
    s.finish sid err tr = (s, {}, false) := by
  unfold CStream.finish
  rw [if_pos h]

/-- the state on which `finishStream` wakes the blocked read -/
def finPre (s : CStream α) (err : Option SErr) (tr : MD) : CStream α :=
  { s with done := some (mapFinishErr err), inTable := false, rcv := s.rcv.close, trailers := tr,
           gotHeaders := true, doneSignal := true, pheader := false }

theorem finish_eq (sid : Sid) (s : CStream α) (err : Option SErr) (tr : MD) (h : s.done = none) :
    s.finish sid err tr =
      ((((finPre s err tr).resumeRead sid 3).1.ctxEnds sid .canceled false).1,
       (({ dones := if s.pheader then [(sid, "header", Res.md s.headers)] else [] } : COut α).add
          ((finPre s err tr).resumeRead sid 3).2.1).add
          (((finPre s err tr).resumeRead sid 3).1.ctxEnds sid .canceled false).2,
       true) := by
  unfold CStream.finish finPre
  simp only [h, Option.isSome_none, Bool.false_eq_true, if_false]
  cases s.pheader <;> simp only [Bool.false_eq_true, if_false, if_true]

theorem finish_won (sid : Sid) (s : CStream α) (err : Option SErr) (tr : MD) (h : s.done = none) :
    (s.finish sid err tr).2.2 = true := by
  rw [finish_eq sid s err tr h]

theorem cancelStream_done (sid : Sid) (s : CStream α) (err : SErr) (h : s.done.isSome = true) :
    s.cancelStream sid err = (s, {}) := by
  unfold CStream.cancelStream
  rw [finish_done sid s _ _ h]
  rfl

theorem cancelStream_eq (sid : Sid) (s : CStream α) (err : SErr) (h : s.done = none) :
    s.cancelStream sid err =
      ({ (s.finish sid (some err) []).1 with
           rcv := if (s.finish sid (some err) []).1.fc then (s.finish sid (some err) []).1.rcv.cancel
                  else (s.finish sid (some err) []).1.rcv.close },
       (s.finish sid (some err) []).2.1.add { frames := [(sid, .cancel)] }) := by
  unfold CStream.cancelStream
  have hw := finish_won sid s (some err) [] h
  simp only [hw]
  rfl

theorem afterRead_eq (sid : Sid) (r : CStream α × COut α × Option SErr) :
    CStream.afterRead sid r =
      match r.2.2 with
      | none => (r.1, r.2.1)
      | some e => ((r.1.cancelStream sid e).1, r.2.1.add (r.1.cancelStream sid e).2) := by
  obtain ⟨a, o, c⟩ := r
  cases c <;> simp only [CStream.afterRead]

theorem ctxCancelled_done (sid : Sid) (s : CStream α) (e : CtxErr) (h : s.ctxDone.isSome = true) :
    s.ctxCancelled sid e = (s, {}) := by
  unfold CStream.ctxCancelled
  rw [if_pos h]

theorem ctxCancelled_eq (sid : Sid) (s : CStream α) (e : CtxErr) (h : s.ctxDone = none) :
    s.ctxCancelled sid e =
      (((s.ctxEnds sid e s.done.isNone).1.cancelStream sid (.ctx e)).1,
       (s.ctxEnds sid e s.done.isNone).2.add ((s.ctxEnds sid e s.done.isNone).1.cancelStream sid (.ctx e)).2) := by
  unfold CStream.ctxCancelled
  simp only [h]
  rfl

abbrev tagged (sid : Sid) (fs : List (DFrame α)) : List (Sid × C2S α) := fs.map (fun f => (sid, dframeToC2S f))

/-- the three outcomes of the sending loop `pumpSend`: message out (`SendMsg` returns OK), context over (returns
    its error), window exhausted with the context alive (still pending); frames emitted in each -/
inductive Sent (sid : Sid) : CStream α → CStream α → COut α → Prop
  | done (s : CStream α) (fs : List (DFrame α)) (w : Nat) :
      Sent sid s { s with win := w, psend := none } { frames := tagged sid fs, dones := [(sid, "send", .ok)] }
  | ctx (s : CStream α) (fs : List (DFrame α)) (w : Nat) (e : CtxErr) : s.ctxDone = some e →
      Sent sid s { s with win := w, psend := none } { frames := tagged sid fs, dones := [(sid, "send", .ctx e)] }
  | pending (s : CStream α) (fs : List (DFrame α)) (w : Nat) (snd' : Snd α) : s.ctxDone = none →
      Sent sid s { s with win := w, psend := some snd' } { frames := tagged sid fs }

theorem pumpSend_sent (cfg : CCfg) (sid : Sid) (s : CStream α) (snd : Snd α) :
    Sent sid s (s.pumpSend cfg sid snd).1 (s.pumpSend cfg sid snd).2 := by
  unfold CStream.pumpSend
  by_cases hfc : s.fc = true
  · rw [if_pos hfc]
    generalize pump cfg.chunkMax s.win snd = r
    obtain ⟨fs, w, rest⟩ := r
    cases rest with
    | none => exact .done s fs w
    | some snd' =>
      dsimp only
      split
      · rename_i e hc; exact .ctx s fs w e hc
      · rename_i hc; exact .pending s fs w snd' hc
  · rw [if_neg hfc]
    exact .done s _ s.win

/-- the data-frame branch of `acceptServerFrame` -/
def dataFrame (sid : Sid) (s : CStream α) (df : DFrame α) : CStream α × COut α :=
  if s.fc then
    match s.rcv.accept df with
    | (_, .dropped) => (s, {})
    | (_, .windowExceeded) =>
      ((s.finish sid (some (.status (mkStatus codeResourceExhausted "flow control window exceeded"))) []).1,
       (s.finish sid (some (.status (mkStatus codeResourceExhausted "flow control window exceeded"))) []).2.1)
    | (r, .ok) => CStream.afterRead sid (({ s with rcv := r } : CStream α).resumeRead sid 3)
  else
    if s.rcv.closed then (s, {})
    else if !s.rcv.queue.isEmpty then ({ s with unsupported := true }, {})
    else CStream.afterRead sid (({ s with rcv := { s.rcv with queue := [df] } } : CStream α).resumeRead sid 3)

theorem onFrame_msg (cfg : CCfg) (sid : Sid) (s : CStream α) (size : Nat) (d : List α) :
    s.onFrame cfg sid (.msg size d) = dataFrame sid s (.env size d) := rfl

theorem onFrame_more (cfg : CCfg) (sid : Sid) (s : CStream α) (d : List α) :
    s.onFrame cfg sid (.more d) = dataFrame sid s (.more d) := rfl

theorem onFrame_close (cfg : CCfg) (sid : Sid) (s : CStream α) (st : Status) (tr : MD) :
    s.onFrame cfg sid (.close st tr) = ((s.finish sid (statusErr st) tr).1, (s.finish sid (statusErr st) tr).2.1) := rfl

theorem onFrame_settings (cfg : CCfg) (sid : Sid) (s : CStream α) (w : Nat) (rv : List Int) :
    s.onFrame cfg sid (.settings w rv) =
      ((s.finish sid (some (.plain "protocol error: unexpected settings frame")) []).1,
       (s.finish sid (some (.plain "protocol error: unexpected settings frame")) []).2.1) := rfl

theorem onFrame_unset (cfg : CCfg) (sid : Sid) (s : CStream α) :
    s.onFrame cfg sid .unset =
      ((s.finish sid (some (.plain "protocol error: unrecognized frame type")) []).1,
       (s.finish sid (some (.plain "protocol error: unrecognized frame type")) []).2.1) := rfl

theorem onFrame_headers_eq (cfg : CCfg) (sid : Sid) (s : CStream α) (md : MD) :
    s.onFrame cfg sid (.headers md) =
      if s.gotHeaders then (s, {})
      else if s.pheader then
        ({ s with gotHeaders := true, headers := md, pheader := false }, { dones := [(sid, "header", .md md)] })
      else ({ s with gotHeaders := true, headers := md }, {}) := rfl

theorem onFrame_headers (cfg : CCfg) (sid : Sid) (s : CStream α) (md : MD) (h : s.gotHeaders = false) :
    s.onFrame cfg sid (.headers md) =
      ({ s with gotHeaders := true, headers := md, pheader := false },
       { dones := if s.pheader then [(sid, "header", Res.md md)] else [] }) := by
  rw [onFrame_headers_eq, h, if_neg Bool.false_ne_true]
  cases hp : s.pheader
  · rw [if_neg Bool.false_ne_true, if_neg Bool.false_ne_true, ← hp]
  · rfl

theorem onFrame_windowUpdate_eq (cfg : CCfg) (sid : Sid) (s : CStream α) (n : Nat) :
    s.onFrame cfg sid (.windowUpdate n) =
      if !s.fc || n = 0 then (s, {})
      else match s.psend with
        | none => ({ s with win := wrap32c (s.win + n) }, {})
        | some snd => ({ s with win := wrap32c (s.win + n) } : CStream α).pumpSend cfg sid snd := rfl

theorem onCall_send (cfg : CCfg) (sid : Sid) (s : CStream α) (m : List α) :
    s.onCall cfg sid (.send m) =
      if !s.cs && s.numSent == 1 then (s, { dones := [(sid, "send", .status codeInternal)] })
      else ({ s with numSent := s.numSent + 1 } : CStream α).pumpSend cfg sid (Snd.start m) := rfl

theorem onCall_closeSend (cfg : CCfg) (sid : Sid) (s : CStream α) :
    s.onCall cfg sid .closeSend =
      if s.doneSignal then (s, { dones := [(sid, "closesend", (s.done.getD .eof).toRes)] })
      else if s.halfClosed then (s, { dones := [(sid, "closesend", .other "already half-closed")] })
      else ({ s with halfClosed := true }, { frames := [(sid, .halfClose)], dones := [(sid, "closesend", .ok)] }) := rfl

theorem onCall_recv (cfg : CCfg) (sid : Sid) (s : CStream α) :
    s.onCall cfg sid .recv =
      match s.readErr with
      | some e => (s, { dones := [(sid, "recv", e.toRes)] })
      | none => CStream.afterRead sid
          (({ s with pread := some { lookahead := none, rst := none } } : CStream α).resumeRead sid 3) := rfl

theorem onCall_header (cfg : CCfg) (sid : Sid) (s : CStream α) :
    s.onCall cfg sid .header =
      if s.gotHeaders then (s, { dones := [(sid, "header", .md s.headers)] })
      else match s.ctxDone with
        | some e => (s, { dones := [(sid, "header", .ctx e)] })
        | none => ({ s with pheader := true }, {}) := rfl

theorem onCall_trailer (cfg : CCfg) (sid : Sid) (s : CStream α) :
    s.onCall cfg sid .trailer =
      (s, { dones := [(sid, "trailer", .md (if s.doneSignal then s.trailers else []))] }) := rfl

theorem onCall_cancel (cfg : CCfg) (sid : Sid) (s : CStream α) :
    s.onCall cfg sid .cancel = s.ctxCancelled sid .canceled := rfl

theorem resumeRead_none (sid : Sid) (fuel : Nat) (s : CStream α) (h : s.pread = none) :
    s.resumeRead sid fuel = (s, {}, none) := by
  cases fuel with
  | zero => rfl
  | succ n => rw [CStream.resumeRead]; simp only [h]

abbrev readRcv (s : CStream α) (w : Nat) (q : List (DFrame α)) : RcvQ α :=
  { s.rcv with rwin := if s.fc then w else s.rcv.rwin, queue := q }

abbrev readFrames (sid : Sid) (s : CStream α) (cr : List Nat) : List (Sid × C2S α) :=
  if s.fc && s.done.isNone then cr.map (fun n => (sid, C2S.windowUpdate n)) else []

abbrev secondResponse : SErr :=
  .status (mkStatus codeInternal "Server sent multiple responses for non-server-stream method")

section Pass
variable {sid : Sid} {n : Nat} {s : CStream α} {p : PRead α} {w : Nat} {q : List (DFrame α)} {cr : List Nat}

theorem resumeRead_blocked {st' : RState α} (hp : s.pread = some p)
    (hr : readLoop s.rcv.rwin s.rcv.queue p.rst = (w, q, cr, some (.cont st')))
    (hc : (s.rcv.closed || s.rcv.cancelled) = false) :
    s.resumeRead sid (n + 1) =
      ({ s with rcv := readRcv s w q, pread := some { p with rst := st' } },
       { frames := readFrames sid s cr }, none) := by
  rw [CStream.resumeRead]
  simp only [hp, hr, hc, Bool.false_eq_true, if_false]

theorem resumeRead_ended_msg {st' : RState α} {m : List α} (hp : s.pread = some p)
    (hr : readLoop s.rcv.rwin s.rcv.queue p.rst = (w, q, cr, some (.cont st')))
    (hc : (s.rcv.closed || s.rcv.cancelled) = true) (hl : p.lookahead = some m)
    (hd : s.done.getD .eof = .eof) :
    s.resumeRead sid (n + 1) =
      ({ s with rcv := readRcv s w q, pread := none, readErr := some .eof },
       { frames := readFrames sid s cr, dones := [(sid, "recv", .msg m)] }, none) := by
  rw [CStream.resumeRead]
  simp only [hp, hr, hc, if_true, hl, hd]

/-- the result is `io.EOF` if the RPC has none -/
theorem resumeRead_ended {st' : RState α} (hp : s.pread = some p)
    (hr : readLoop s.rcv.rwin s.rcv.queue p.rst = (w, q, cr, some (.cont st')))
    (hc : (s.rcv.closed || s.rcv.cancelled) = true)
    (hl : p.lookahead = none ∨ s.done.getD .eof ≠ .eof) :
    s.resumeRead sid (n + 1) =
      ({ s with rcv := readRcv s w q, pread := none, readErr := some (s.done.getD .eof) },
       { frames := readFrames sid s cr, dones := [(sid, "recv", (s.done.getD .eof).toRes)] }, none) := by
  rw [CStream.resumeRead]
  simp only [hp, hr, hc, if_true]
  split
  · rename_i m h1 h2
    rcases hl with hl | hl
    · rw [hl] at h1; cases h1
    · exact absurd h2 hl
  · rfl

theorem resumeRead_second {m m2 : List α} (hp : s.pread = some p)
    (hr : readLoop s.rcv.rwin s.rcv.queue p.rst = (w, q, cr, some (.msg m2))) (hl : p.lookahead = some m) :
    s.resumeRead sid (n + 1) =
      ({ s with rcv := readRcv s w q, pread := none, readErr := some secondResponse },
       { frames := readFrames sid s cr, dones := [(sid, "recv", secondResponse.toRes)] },
       some secondResponse) := by
  rw [CStream.resumeRead]
  simp only [hp, hr, hl]
  rfl

theorem resumeRead_msg {m : List α} (hp : s.pread = some p)
    (hr : readLoop s.rcv.rwin s.rcv.queue p.rst = (w, q, cr, some (.msg m))) (hl : p.lookahead = none)
    (hss : s.ss = true) :
    s.resumeRead sid (n + 1) =
      ({ s with rcv := readRcv s w q, pread := none },
       { frames := readFrames sid s cr, dones := [(sid, "recv", .msg m)] }, none) := by
  rw [CStream.resumeRead]
  simp only [hp, hr, hl, hss, if_true]

/-- the first message on a method with a single response is held back and the read goes on to
    look for the end of the stream -/
theorem resumeRead_look {m : List α} (hp : s.pread = some p)
    (hr : readLoop s.rcv.rwin s.rcv.queue p.rst = (w, q, cr, some (.msg m))) (hl : p.lookahead = none)
    (hss : s.ss = false) :
    s.resumeRead sid (n + 1) =
      ((({ s with rcv := readRcv s w q, pread := some { lookahead := some m, rst := none } } :
          CStream α).resumeRead sid n).1,
       ({ frames := readFrames sid s cr } : COut α).add
         (({ s with rcv := readRcv s w q, pread := some { lookahead := some m, rst := none } } :
          CStream α).resumeRead sid n).2.1,
       (({ s with rcv := readRcv s w q, pread := some { lookahead := some m, rst := none } } :
          CStream α).resumeRead sid n).2.2) := by
  rw [CStream.resumeRead]
  simp only [hp, hr, hl, hss, Bool.false_eq_true, if_false]

theorem resumeRead_perr {e : PErr} (hp : s.pread = some p)
    (hr : readLoop s.rcv.rwin s.rcv.queue p.rst = (w, q, cr, some (.err e))) :
    s.resumeRead sid (n + 1) =
      ({ s with rcv := readRcv s w q, pread := none, readErr := some (cperrStatus e) },
       { frames := readFrames sid s cr, dones := [(sid, "recv", (cperrStatus e).toRes)] },
       some (cperrStatus e)) := by
  rw [CStream.resumeRead]
  simp only [hp, hr]
  rfl

end Pass

inductive Chain (A : CStream α → CStream α → COut α → Prop) : CStream α → CStream α → COut α → Prop
  | refl (s : CStream α) : Chain A s s {}
  | atom {s s' : CStream α} {o : COut α} : A s s' o → Chain A s s' o
  | seq {a b c : CStream α} {o₁ o₂ : COut α} : Chain A a b o₁ → Chain A b c o₂ → Chain A a c (o₁.add o₂)

section Chain
variable {A B : CStream α → CStream α → COut α → Prop} {s s' : CStream α} {o : COut α}

theorem Chain.fold {R : CStream α → CStream α → COut α → Prop} (refl : ∀ s, R s s {})
    (seq : ∀ {a b c o₁ o₂}, R a b o₁ → R b c o₂ → R a c (o₁.add o₂))
    (atom : ∀ {s s' o}, A s s' o → R s s' o) (h : Chain A s s' o) : R s s' o := by
  induction h with
  | refl s => exact refl s
  | atom a => exact atom a
  | seq _ _ ih₁ ih₂ => exact seq ih₁ ih₂

theorem Chain.fold_state {R : CStream α → CStream α → Prop} (refl : ∀ s, R s s)
    (trans : ∀ {a b c}, R a b → R b c → R a c) (atom : ∀ {s s' o}, A s s' o → R s s')
    (h : Chain A s s' o) : R s s' :=
  Chain.fold (R := fun s s' _ => R s s') refl trans atom h

theorem Chain.fold_out {T : COut α → Prop} (empty : T {}) (add : ∀ {a b}, T a → T b → T (a.add b))
    (atom : ∀ {s s' o}, A s s' o → T o) (h : Chain A s s' o) : T o :=
  Chain.fold (R := fun _ _ o => T o) (fun _ => empty) add atom h

theorem Chain.mono (hAB : ∀ {s s' o}, A s s' o → B s s' o) (h : Chain A s s' o) : Chain B s s' o :=
  Chain.fold Chain.refl Chain.seq (fun a => Chain.atom (hAB a)) h

theorem Chain.bind (hAB : ∀ {s s' o}, A s s' o → Chain B s s' o) (h : Chain A s s' o) : Chain B s s' o :=
  Chain.fold Chain.refl Chain.seq hAB h

theorem Chain.inv {P : CStream α → Prop} (atom : ∀ {s s' o}, A s s' o → P s → P s')
    (h : Chain A s s' o) : P s → P s' :=
  Chain.fold_state (R := fun s s' => P s → P s') (fun _ h => h) (fun h₁ h₂ h => h₂ (h₁ h)) atom h

theorem Chain.after {s₁ : CStream α} (a : A s s₁ {}) (h : Chain A s₁ s' o) : Chain A s s' o :=
  (Chain.atom a).seq h

end Chain

/-- one pass of `resumeRead` over the queue: one constructor per outcome of `readLoop` -/
inductive ReadPass (sid : Sid) : CStream α → CStream α → COut α → Prop
  | blocked {s : CStream α} {p : PRead α} {w : Nat} {q : List (DFrame α)} {cr : List Nat} {st' : RState α} :
      s.pread = some p → readLoop s.rcv.rwin s.rcv.queue p.rst = (w, q, cr, some (.cont st')) →
      (s.rcv.closed || s.rcv.cancelled) = false →
      ReadPass sid s { s with rcv := readRcv s w q, pread := some { p with rst := st' } }
        { frames := readFrames sid s cr }
  | endedMsg {s : CStream α} {p : PRead α} {w : Nat} {q : List (DFrame α)} {cr : List Nat} {st' : RState α}
      {m : List α} :
      s.pread = some p → readLoop s.rcv.rwin s.rcv.queue p.rst = (w, q, cr, some (.cont st')) →
      (s.rcv.closed || s.rcv.cancelled) = true → p.lookahead = some m → s.done.getD .eof = .eof →
      ReadPass sid s { s with rcv := readRcv s w q, pread := none, readErr := some .eof }
        { frames := readFrames sid s cr, dones := [(sid, "recv", .msg m)] }
  | ended {s : CStream α} {p : PRead α} {w : Nat} {q : List (DFrame α)} {cr : List Nat} {st' : RState α} :
      s.pread = some p → readLoop s.rcv.rwin s.rcv.queue p.rst = (w, q, cr, some (.cont st')) →
      (s.rcv.closed || s.rcv.cancelled) = true → (p.lookahead = none ∨ s.done.getD .eof ≠ .eof) →
      ReadPass sid s { s with rcv := readRcv s w q, pread := none, readErr := some (s.done.getD .eof) }
        { frames := readFrames sid s cr, dones := [(sid, "recv", (s.done.getD .eof).toRes)] }
  | second {s : CStream α} {p : PRead α} {w : Nat} {q : List (DFrame α)} {cr : List Nat} {m m2 : List α} :
      s.pread = some p → readLoop s.rcv.rwin s.rcv.queue p.rst = (w, q, cr, some (.msg m2)) →
      p.lookahead = some m →
      ReadPass sid s { s with rcv := readRcv s w q, pread := none, readErr := some secondResponse }
        { frames := readFrames sid s cr, dones := [(sid, "recv", secondResponse.toRes)] }
  | msg {s : CStream α} {p : PRead α} {w : Nat} {q : List (DFrame α)} {cr : List Nat} {m : List α} :
      s.pread = some p → readLoop s.rcv.rwin s.rcv.queue p.rst = (w, q, cr, some (.msg m)) →
      p.lookahead = none → s.ss = true →
      ReadPass sid s { s with rcv := readRcv s w q, pread := none }
        { frames := readFrames sid s cr, dones := [(sid, "recv", .msg m)] }
  | look {s : CStream α} {p : PRead α} {w : Nat} {q : List (DFrame α)} {cr : List Nat} {m : List α} :
      s.pread = some p → readLoop s.rcv.rwin s.rcv.queue p.rst = (w, q, cr, some (.msg m)) →
      p.lookahead = none → s.ss = false →
      ReadPass sid s { s with rcv := readRcv s w q, pread := some { lookahead := some m, rst := none } }
        { frames := readFrames sid s cr }
  | perr {s : CStream α} {p : PRead α} {w : Nat} {q : List (DFrame α)} {cr : List Nat} {e : PErr} :
      s.pread = some p → readLoop s.rcv.rwin s.rcv.queue p.rst = (w, q, cr, some (.err e)) →
      ReadPass sid s { s with rcv := readRcv s w q, pread := none, readErr := some (cperrStatus e) }
        { frames := readFrames sid s cr, dones := [(sid, "recv", (cperrStatus e).toRes)] }

theorem ReadPass.shape {sid : Sid} {s s' : CStream α} {o : COut α} (h : ReadPass sid s s' o) :
    ∃ p w q cr out p' r', s.pread = some p ∧ readLoop s.rcv.rwin s.rcv.queue p.rst = (w, q, cr, out) ∧
      s' = { s with rcv := readRcv s w q, pread := p', readErr := r' } ∧
      o.frames = readFrames sid s cr ∧ o.events = [] := by
  cases h <;> exact ⟨_, _, _, _, _, _, _, ‹_›, ‹_›, rfl, rfl, rfl⟩

/-- a read is a chain of passes (two at most: the second looks for the end of
    the stream behind a single response) -/
theorem resumeRead_chain (sid : Sid) : ∀ (n : Nat) (s : CStream α),
    Chain (ReadPass sid) s (s.resumeRead sid n).1 (s.resumeRead sid n).2.1 := by
  intro n
  induction n with
  | zero => intro s; exact Chain.refl s
  | succ n ih =>
    intro s
    cases hp : s.pread with
    | none => rw [resumeRead_none sid _ s hp]; exact Chain.refl s
    | some p =>
      rcases hr : readLoop s.rcv.rwin s.rcv.queue p.rst with ⟨w, q, cr, out⟩
      obtain ⟨_, r, _, _, rfl, _⟩ := ReadLoop.readLoop_eq hr
      cases r with
      | cont st' =>
        cases hc : (s.rcv.closed || s.rcv.cancelled) with
        | false => rw [resumeRead_blocked hp hr hc]; exact .atom (.blocked hp hr hc)
        | true =>
          cases hl : p.lookahead with
          | none => rw [resumeRead_ended hp hr hc (.inl hl)]; exact .atom (.ended hp hr hc (.inl hl))
          | some m =>
            by_cases hd : s.done.getD .eof = .eof
            · rw [resumeRead_ended_msg hp hr hc hl hd]; exact .atom (.endedMsg hp hr hc hl hd)
            · rw [resumeRead_ended hp hr hc (.inr hd)]; exact .atom (.ended hp hr hc (.inr hd))
      | msg m =>
        cases hl : p.lookahead with
        | some m1 => rw [resumeRead_second hp hr hl]; exact .atom (.second hp hr hl)
        | none =>
          cases hss : s.ss with
          | true => rw [resumeRead_msg hp hr hl hss]; exact .atom (.msg hp hr hl hss)
          | false => rw [resumeRead_look hp hr hl hss]; exact (Chain.atom (.look hp hr hl hss)).seq (ih _)
      | err e => rw [resumeRead_perr hp hr]; exact .atom (.perr hp hr)

theorem resumeRead_shape (sid : Sid) (n : Nat) (s : CStream α) :
    ∃ w q p' r', (s.resumeRead sid n).1 =
      { s with rcv := { s.rcv with rwin := w, queue := q }, pread := p', readErr := r' } := by
  refine Chain.fold_state (R := fun s s' => ∃ w q p' r',
      s' = { s with rcv := { s.rcv with rwin := w, queue := q }, pread := p', readErr := r' })
    (fun s => ⟨_, _, _, _, rfl⟩) ?_ ?_ (resumeRead_chain sid n s)
  · rintro a b c ⟨_, _, _, _, rfl⟩ ⟨_, _, _, _, rfl⟩
    exact ⟨_, _, _, _, rfl⟩
  · intro s s' o h
    obtain ⟨_, _, _, _, _, _, _, -, -, rfl, -⟩ := h.shape
    exact ⟨_, _, _, _, rfl⟩

theorem resumeRead_done (sid : Sid) (n : Nat) (s : CStream α) : (s.resumeRead sid n).1.done = s.done := by
  obtain ⟨_, _, _, _, h⟩ := resumeRead_shape sid n s
  rw [h]

/-- the steps `finishStream`, `cancelStream` and the context watcher are made of -/
inductive TAtom (sid : Sid) : CStream α → CStream α → COut α → Prop
  /-- the context ends: blocked `SendMsg` and `Header` calls return.  Both callers pass
      `s.done.isNone` for `hdrRace`: the watcher literally, `finishStream` because it has
      just written the result. -/
  | ctxEnds (s : CStream α) (e : CtxErr) : s.ctxDone = none →
      TAtom sid s { s with ctxDone := some e, psend := none, pheader := false }
        { dones := (match s.psend with | some _ => [(sid, "send", Res.ctx e)] | none => []) ++
                   (if s.pheader then
                      [(sid, "header", if s.gotHeaders then Res.md s.headers
                                       else if s.done.isNone then .other "RACE:ctx-or-nil-headers" else .ctx e)]
                    else []) }
  /-- `finishStream` wins: the result is written, a blocked `Header` returns -/
  | finPre (s : CStream α) (err : Option SErr) (tr : MD) : s.done = none →
      TAtom sid s (finPre s err tr) { dones := if s.pheader then [(sid, "header", Res.md s.headers)] else [] }
  /-- `cancelStream` after its `finishStream` has won: the cancel frame -/
  | cancelTail (s : CStream α) : s.done.isSome = true →
      TAtom sid s { s with rcv := if s.fc then s.rcv.cancel else s.rcv.close } { frames := [(sid, .cancel)] }
  | read {s s' : CStream α} {o : COut α} : ReadPass sid s s' o → TAtom sid s s' o

theorem ctxEnds_chain (sid : Sid) (s : CStream α) (e : CtxErr) :
    Chain (TAtom sid) s (s.ctxEnds sid e s.done.isNone).1 (s.ctxEnds sid e s.done.isNone).2 := by
  cases h : s.ctxDone with
  | some c => rw [ctxEnds_done sid s e _ (isSome_of_eq_some h)]; exact .refl s
  | none => rw [ctxEnds_eq sid s e _ h]; exact .atom (.ctxEnds s e h)

theorem finish_chain (sid : Sid) (s : CStream α) (err : Option SErr) (tr : MD) :
    Chain (TAtom sid) s (s.finish sid err tr).1 (s.finish sid err tr).2.1 := by
  cases h : s.done with
  | some c => rw [finish_done sid s err tr (isSome_of_eq_some h)]; exact .refl s
  | none =>
    rw [finish_eq sid s err tr h]
    have hb : false = ((finPre s err tr).resumeRead sid 3).1.done.isNone := by rw [resumeRead_done]; rfl
    have h3 := ctxEnds_chain sid ((finPre s err tr).resumeRead sid 3).1 .canceled
    rw [← hb] at h3
    exact ((Chain.atom (.finPre s err tr h)).seq ((resumeRead_chain sid 3 _).mono .read)).seq h3

theorem finish_done_isSome (sid : Sid) (s : CStream α) (err : Option SErr) (tr : MD) :
    (s.finish sid err tr).2.2 = true → (s.finish sid err tr).1.done.isSome = true := by
  cases h : s.done with
  | some c => rw [finish_done sid s err tr (isSome_of_eq_some h)]; intro h'; cases h'
  | none =>
    intro _
    rw [finish_eq sid s err tr h]
    cases hc : ((finPre s err tr).resumeRead sid 3).1.ctxDone with
    | some c => rw [ctxEnds_done _ _ _ _ (isSome_of_eq_some hc), resumeRead_done]; rfl
    | none => rw [ctxEnds_eq _ _ _ _ hc]; show ((finPre s err tr).resumeRead sid 3).1.done.isSome = true
              rw [resumeRead_done]; rfl

theorem cancelStream_chain (sid : Sid) (s : CStream α) (err : SErr) :
    Chain (TAtom sid) s (s.cancelStream sid err).1 (s.cancelStream sid err).2 := by
  cases h : s.done with
  | some c => rw [cancelStream_done sid s err (isSome_of_eq_some h)]; exact .refl s
  | none =>
    rw [cancelStream_eq sid s err h]
    exact (finish_chain sid s _ _).seq
      (.atom (.cancelTail _ (finish_done_isSome sid s _ _ (finish_won sid s _ _ h))))

/-- `RecvMsg` after its read: `cancelStream` if the read failed -/
theorem afterRead_chain {sid : Sid} {A : CStream α → CStream α → COut α → Prop}
    (hA : ∀ {s s' o}, TAtom sid s s' o → A s s' o) {s : CStream α} (r : CStream α × COut α × Option SErr)
    (h : Chain A s r.1 r.2.1) :
    Chain A s (CStream.afterRead sid r).1 (CStream.afterRead sid r).2 := by
  rw [afterRead_eq]
  split
  · exact h
  · exact h.seq ((cancelStream_chain sid _ _).mono hA)

theorem ctxCancelled_chain (sid : Sid) (s : CStream α) (e : CtxErr) :
    Chain (TAtom sid) s (s.ctxCancelled sid e).1 (s.ctxCancelled sid e).2 := by
  cases h : s.ctxDone with
  | some c => rw [ctxCancelled_done sid s e (isSome_of_eq_some h)]; exact .refl s
  | none => rw [ctxCancelled_eq sid s e h]; exact (ctxEnds_chain sid s e).seq (cancelStream_chain sid _ _)

/-- updates of single fields, with the conditions under which the model makes them -/
inductive Upd (sid : Sid) : CStream α → CStream α → COut α → Prop
  | headers (s : CStream α) (md : MD) : s.gotHeaders = false →
      Upd sid s { s with gotHeaders := true, headers := md, pheader := false }
        { dones := if s.pheader then [(sid, "header", Res.md md)] else [] }
  | win (s : CStream α) (n : Nat) : s.fc = true → n ≠ 0 → Upd sid s { s with win := wrap32c (s.win + n) } {}
  | unsupported (s : CStream α) : s.fc = false → s.rcv.closed = false → s.rcv.queue ≠ [] →
      Upd sid s { s with unsupported := true } {}
  | numSent (s : CStream α) : (!s.cs && s.numSent == 1) = false → Upd sid s { s with numSent := s.numSent + 1 } {}
  | halfClose (s : CStream α) : s.doneSignal = false → s.halfClosed = false →
      Upd sid s { s with halfClosed := true } { frames := [(sid, .halfClose)], dones := [(sid, "closesend", .ok)] }
  | pheader (s : CStream α) : s.gotHeaders = false → s.ctxDone = none → Upd sid s { s with pheader := true } {}

/-- what precedes a read: a data frame is queued, or a `RecvMsg` starts -/
inductive ReadPrep : CStream α → CStream α → Prop
  | accepted (s : CStream α) (df : DFrame α) (r : RcvQ α) : s.fc = true → s.rcv.accept df = (r, .ok) →
      ReadPrep s { s with rcv := r }
  | queued (s : CStream α) (df : DFrame α) : s.fc = false → s.rcv.closed = false → s.rcv.queue = [] →
      ReadPrep s { s with rcv := { s.rcv with queue := [df] } }
  | recv (s : CStream α) : s.readErr = none → ReadPrep s { s with pread := some { lookahead := none, rst := none } }

/-- the calls that return at once, without changing the state -/
inductive Completes (s : CStream α) : String → Res α → Prop
  | sendRefused : (!s.cs && s.numSent == 1) = true → Completes s "send" (.status codeInternal)
  | closeSendDone : s.doneSignal = true → Completes s "closesend" (s.done.getD .eof).toRes
  | closeSendTwice : s.doneSignal = false → s.halfClosed = true →
      Completes s "closesend" (.other "already half-closed")
  | recvErr (e : SErr) : s.readErr = some e → Completes s "recv" e.toRes
  | header : s.gotHeaders = true → Completes s "header" (.md s.headers)
  | headerCtx (e : CtxErr) : s.gotHeaders = false → s.ctxDone = some e → Completes s "header" (.ctx e)
  | trailer : Completes s "trailer" (.md (if s.doneSignal then s.trailers else []))

def framePumps : S2C α → Bool
  | .windowUpdate _ => true
  | _ => false

def callPumps : CCall α → Bool
  | .send _ => true
  | _ => false

def evPumps : CEv α → Bool
  | .frame f => framePumps f
  | .call c => callPumps c
  | .ctx _ => false

/-- the errors with which a frame calls `finishStream` itself (a failed read goes
    through `cancelStream`, inside `Op.read`) -/
inductive frameFinishes : S2C α → Option SErr → Prop
  | settings (w : Nat) (rv : List Int) :
      frameFinishes (.settings w rv) (some (.plain "protocol error: unexpected settings frame"))
  | close (st : Status) (tr : MD) : frameFinishes (.close st tr) (statusErr st)
  | unset : frameFinishes .unset (some (.plain "protocol error: unrecognized frame type"))
  | msg (size : Nat) (d : List α) : frameFinishes (.msg size d)
      (some (.status (mkStatus codeResourceExhausted "flow control window exceeded")))
  | more (d : List α) : frameFinishes (.more d)
      (some (.status (mkStatus codeResourceExhausted "flow control window exceeded")))

/-- calls and context ends reach `finishStream` only through `ctxCancelled` and reads -/
def evFinishes : CEv α → Option SErr → Prop
  | .frame f, err => frameFinishes f err
  | _, _ => False

/-- the operations a frame, a call or the end of the context consists of.
    With `pumps = false` a send cannot occur: that describes every event but a
    window update and a `SendMsg` (`framePumps`, `callPumps`, `evPumps`).  The
    error of a `finishStream` that can still win satisfies `E`. -/
inductive OpE (E : Option SErr → Prop) (pumps : Bool) (sid : Sid) : CStream α → CStream α → COut α → Prop
  | finish (s : CStream α) (err : Option SErr) (tr : MD) (hE : s.done = none → E err) :
      OpE E pumps sid s (s.finish sid err tr).1 (s.finish sid err tr).2.1
  | ctx (s : CStream α) (e : CtxErr) : OpE E pumps sid s (s.ctxCancelled sid e).1 (s.ctxCancelled sid e).2
  | read {s s₁ : CStream α} : ReadPrep s s₁ →
      OpE E pumps sid s (CStream.afterRead sid (s₁.resumeRead sid 3)).1
        (CStream.afterRead sid (s₁.resumeRead sid 3)).2
  | sent (hpump : pumps = true) (cfg : CCfg) {s : CStream α} (snd : Snd α) :
      OpE E pumps sid s (s.pumpSend cfg sid snd).1 (s.pumpSend cfg sid snd).2
  | upd {s s' : CStream α} {o : COut α} : Upd sid s s' o → OpE E pumps sid s s' o
  | completes {s : CStream α} {op : String} {r : Res α} :
      Completes s op r → OpE E pumps sid s s { dones := [(sid, op, r)] }

abbrev Op (pumps : Bool) (sid : Sid) : CStream α → CStream α → COut α → Prop := OpE (fun _ => True) pumps sid

inductive Atom (sid : Sid) : CStream α → CStream α → COut α → Prop
  | tear {s s' : CStream α} {o : COut α} : TAtom sid s s' o → Atom sid s s' o
  | prep {s s' : CStream α} : ReadPrep s s' → Atom sid s s' {}
  /-- a send runs; `pumpSend_sent` says what that can do -/
  | sent (cfg : CCfg) {s : CStream α} (snd : Snd α) :
      Atom sid s (s.pumpSend cfg sid snd).1 (s.pumpSend cfg sid snd).2
  | upd {s s' : CStream α} {o : COut α} : Upd sid s s' o → Atom sid s s' o
  | completes {s : CStream α} {op : String} {r : Res α} : Completes s op r → Atom sid s s { dones := [(sid, op, r)] }

theorem Op.chain {pumps : Bool} {sid : Sid} {s s' : CStream α} {o : COut α} :
    Op pumps sid s s' o → Chain (Atom sid) s s' o
  | .finish s err tr _ => (finish_chain sid s err tr).mono .tear
  | .ctx s e => (ctxCancelled_chain sid s e).mono .tear
  | .read hp =>
    .after (.prep hp) (afterRead_chain .tear _ ((resumeRead_chain sid 3 _).mono (fun h => .tear (.read h))))
  | .sent _ cfg snd => .atom (.sent cfg snd)
  | .upd h => .atom (.upd h)
  | .completes h => .atom (.completes h)

theorem dataFrame_opsE {E : Option SErr → Prop} {pumps : Bool} (sid : Sid) (s : CStream α) (df : DFrame α)
    (hE : s.done = none → E (some (.status (mkStatus codeResourceExhausted "flow control window exceeded")))) :
    Chain (OpE E pumps sid) s (dataFrame sid s df).1 (dataFrame sid s df).2 := by
  unfold dataFrame
  by_cases hfc : s.fc = true
  · rw [if_pos hfc]
    rcases hacc : s.rcv.accept df with ⟨r, a⟩
    cases a with
    | dropped => exact .refl s
    | windowExceeded => exact .atom (.finish s _ _ hE)
    | ok => exact .atom (.read (.accepted s df r hfc hacc))
  · rw [if_neg hfc]
    have hfc := (Bool.not_eq_true _).mp hfc
    by_cases hcl : s.rcv.closed = true
    · rw [if_pos hcl]; exact .refl s
    · rw [if_neg hcl]
      have hcl := (Bool.not_eq_true _).mp hcl
      cases hq : s.rcv.queue with
      | nil => exact .atom (.read (.queued s df hfc hcl hq))
      | cons f q => exact .atom (.upd (.unsupported s hfc hcl (by rw [hq]; exact List.cons_ne_nil f q)))

theorem onFrame_opsE {E : Option SErr → Prop} {pumps : Bool} (cfg : CCfg) (sid : Sid) (s : CStream α) (f : S2C α)
    (hp : framePumps f = true → pumps = true) (hE : ∀ err, frameFinishes f err → s.done = none → E err) :
    Chain (OpE E pumps sid) s (s.onFrame cfg sid f).1 (s.onFrame cfg sid f).2 := by
  cases f with
  | settings w rv => exact .atom (.finish s _ _ (hE _ (.settings w rv)))
  | headers md =>
    cases hg : s.gotHeaders with
    | true => rw [onFrame_headers_eq, hg, if_pos rfl]; exact .refl s
    | false => rw [onFrame_headers cfg sid s md hg]; exact .atom (.upd (.headers s md hg))
  | msg size d => exact dataFrame_opsE sid s _ (hE _ (.msg size d))
  | more d => exact dataFrame_opsE sid s _ (hE _ (.more d))
  | close st tr => exact .atom (.finish s _ _ (hE _ (.close st tr)))
  | windowUpdate n =>
    rw [onFrame_windowUpdate_eq]
    by_cases h : (!s.fc || decide (n = 0)) = true
    · rw [if_pos h]; exact .refl s
    · rw [if_neg h]
      simp only [Bool.or_eq_true, Bool.not_eq_true', decide_eq_true_eq, not_or, Bool.not_eq_false] at h
      split
      · exact .atom (.upd (.win s n h.1 h.2))
      · exact .after (.upd (.win s n h.1 h.2)) (.atom (.sent (hp rfl) cfg _))
  | unset => exact .atom (.finish s _ _ (hE _ .unset))

theorem onFrame_ops {pumps : Bool} (cfg : CCfg) (sid : Sid) (s : CStream α) (f : S2C α)
    (hp : framePumps f = true → pumps = true) :
    Chain (Op pumps sid) s (s.onFrame cfg sid f).1 (s.onFrame cfg sid f).2 :=
  onFrame_opsE cfg sid s f hp (fun _ _ _ => trivial)

/-- a call never calls `finishStream` itself -/
theorem onCall_opsE {E : Option SErr → Prop} {pumps : Bool} (cfg : CCfg) (sid : Sid) (s : CStream α) (c : CCall α)
    (hp : callPumps c = true → pumps = true) :
    Chain (OpE E pumps sid) s (s.onCall cfg sid c).1 (s.onCall cfg sid c).2 := by
  cases c with
  | send m =>
    rw [onCall_send]
    by_cases h : (!s.cs && s.numSent == 1) = true
    · rw [if_pos h]; exact .atom (.completes (.sendRefused h))
    · rw [if_neg h]
      exact .after (.upd (.numSent s ((Bool.not_eq_true _).mp h))) (.atom (.sent (hp rfl) cfg _))
  | closeSend =>
    rw [onCall_closeSend]
    by_cases hd : s.doneSignal = true
    · rw [if_pos hd]; exact .atom (.completes (.closeSendDone hd))
    · rw [if_neg hd]
      have hd := (Bool.not_eq_true _).mp hd
      by_cases hh : s.halfClosed = true
      · rw [if_pos hh]; exact .atom (.completes (.closeSendTwice hd hh))
      · rw [if_neg hh]; exact .atom (.upd (.halfClose s hd ((Bool.not_eq_true _).mp hh)))
  | recv =>
    rw [onCall_recv]
    split
    · rename_i e he; exact .atom (.completes (.recvErr e he))
    · rename_i he; exact .atom (.read (.recv s he))
  | header =>
    rw [onCall_header]
    by_cases hg : s.gotHeaders = true
    · rw [if_pos hg]; exact .atom (.completes (.header hg))
    · rw [if_neg hg]
      have hg := (Bool.not_eq_true _).mp hg
      split
      · rename_i e he; exact .atom (.completes (.headerCtx e hg he))
      · rename_i he; exact .atom (.upd (.pheader s hg he))
  | trailer => exact .atom (.completes .trailer)
  | cancel => exact .atom (.ctx s .canceled)

theorem onCall_ops {pumps : Bool} (cfg : CCfg) (sid : Sid) (s : CStream α) (c : CCall α)
    (hp : callPumps c = true → pumps = true) :
    Chain (Op pumps sid) s (s.onCall cfg sid c).1 (s.onCall cfg sid c).2 :=
  onCall_opsE cfg sid s c hp

theorem stepEv_opsE {E : Option SErr → Prop} {pumps : Bool} (cfg : CCfg) (sid : Sid) (s : CStream α) (ev : CEv α)
    (hp : evPumps ev = true → pumps = true) (hE : ∀ err, evFinishes ev err → s.done = none → E err) :
    Chain (OpE E pumps sid) s (s.stepEv cfg sid ev).1 (s.stepEv cfg sid ev).2 := by
  cases ev with
  | frame f => exact onFrame_opsE cfg sid s f hp hE
  | call c => exact onCall_opsE cfg sid s c hp
  | ctx e => exact .atom (.ctx s e)

theorem stepEv_ops {pumps : Bool} (cfg : CCfg) (sid : Sid) (s : CStream α) (ev : CEv α)
    (hp : evPumps ev = true → pumps = true) :
    Chain (Op pumps sid) s (s.stepEv cfg sid ev).1 (s.stepEv cfg sid ev).2 :=
  stepEv_opsE cfg sid s ev hp (fun _ _ _ => trivial)

theorem onFrame_chain (cfg : CCfg) (sid : Sid) (s : CStream α) (f : S2C α) :
    Chain (Atom sid) s (s.onFrame cfg sid f).1 (s.onFrame cfg sid f).2 :=
  (onFrame_ops cfg sid s f (fun _ => rfl)).bind Op.chain

theorem onCall_chain (cfg : CCfg) (sid : Sid) (s : CStream α) (c : CCall α) :
    Chain (Atom sid) s (s.onCall cfg sid c).1 (s.onCall cfg sid c).2 :=
  (onCall_ops cfg sid s c (fun _ => rfl)).bind Op.chain

theorem stepEv_chain (cfg : CCfg) (sid : Sid) (s : CStream α) (ev : CEv α) :
    Chain (Atom sid) s (s.stepEv cfg sid ev).1 (s.stepEv cfg sid ev).2 :=
  (stepEv_ops cfg sid s ev (fun _ => rfl)).bind Op.chain

theorem runEv_cons (cfg : CCfg) (sid : Sid) (s : CStream α) (e : CEv α) (es : List (CEv α)) :
    CStream.runEv cfg sid s (e :: es) =
      ((CStream.runEv cfg sid (s.stepEv cfg sid e).1 es).1,
       (s.stepEv cfg sid e).2 :: (CStream.runEv cfg sid (s.stepEv cfg sid e).1 es).2) := rfl

theorem runEv_append (cfg : CCfg) (sid : Sid) (a b : List (CEv α)) : ∀ (s : CStream α),
    CStream.runEv cfg sid s (a ++ b) =
      ((CStream.runEv cfg sid (CStream.runEv cfg sid s a).1 b).1,
       (CStream.runEv cfg sid s a).2 ++ (CStream.runEv cfg sid (CStream.runEv cfg sid s a).1 b).2) := by
  induction a with
  | nil => intro s; rfl
  | cons e a ih => intro s; rw [List.cons_append, runEv_cons, ih, runEv_cons]; rfl

def total (os : List (COut α)) : COut α := os.foldr COut.add {}

theorem runEv_ops {pumps : Bool} (cfg : CCfg) (sid : Sid) (evs : List (CEv α))
    (hp : ∀ ev ∈ evs, evPumps ev = true → pumps = true) : ∀ (s : CStream α),
    Chain (Op pumps sid) s (CStream.runEv cfg sid s evs).1 (total (CStream.runEv cfg sid s evs).2) := by
  induction evs with
  | nil => intro s; exact .refl s
  | cons e es ih =>
    intro s
    rw [runEv_cons]
    exact (stepEv_ops cfg sid s e (hp e List.mem_cons_self)).seq
      (ih (fun ev h => hp ev (List.mem_cons_of_mem _ h)) _)

theorem runEv_chain (cfg : CCfg) (sid : Sid) (evs : List (CEv α)) (s : CStream α) :
    Chain (Atom sid) s (CStream.runEv cfg sid s evs).1 (total (CStream.runEv cfg sid s evs).2) :=
  (runEv_ops cfg sid evs (fun _ _ _ => rfl) s).bind Op.chain

theorem runEv_out (cfg : CCfg) (sid : Sid) (evs : List (CEv α)) : ∀ (s : CStream α),
    ∀ o ∈ (CStream.runEv cfg sid s evs).2, ∃ s₁ ev, o = (CStream.stepEv cfg sid s₁ ev).2 := by
  induction evs with
  | nil => intro s o ho; cases ho
  | cons e es ih =>
    intro s o ho
    rw [runEv_cons] at ho
    rcases List.mem_cons.mp ho with rfl | ho
    · exact ⟨s, e, rfl⟩
    · exact ih _ o ho

theorem run_cons (cfg : CCfg) (c : Cli α) (x : CStim α) (xs : List (CStim α)) :
    Cli.run cfg c (x :: xs) =
      ((Cli.run cfg (c.step cfg x).1 xs).1, (c.step cfg x).2 :: (Cli.run cfg (c.step cfg x).1 xs).2) := rfl

theorem run_append (cfg : CCfg) (xs ys : List (CStim α)) : ∀ (c : Cli α),
    Cli.run cfg c (xs ++ ys) =
      ((Cli.run cfg (Cli.run cfg c xs).1 ys).1, (Cli.run cfg c xs).2 ++ (Cli.run cfg (Cli.run cfg c xs).1 ys).2) := by
  induction xs with
  | nil => intro c; rfl
  | cons x xs ih => intro c; rw [List.cons_append, run_cons, ih, run_cons]; rfl

theorem run_inv {cfg : CCfg} {P : Cli α → Prop} (step : ∀ c x, P c → P (c.step cfg x).1) :
    ∀ (xs : List (CStim α)) (c : Cli α), P c → P (Cli.run cfg c xs).1 := by
  intro xs
  induction xs with
  | nil => intro c h; exact h
  | cons x xs ih => intro c h; rw [run_cons]; exact ih _ (step c x h)

def goGen (f : Sid → CStream α → CStream α × COut α) :
    List (Sid × CStream α) → List (Sid × CStream α) × COut α
  | [] => ([], {})
  | (sid, st) :: rest => ((sid, (f sid st).1) :: (goGen f rest).1, (f sid st).2.add (goGen f rest).2)

def closeF (sid : Sid) (st : CStream α) : CStream α × COut α :=
  if st.inTable then st.ctxCancelled sid .canceled else (st, {})

def tickF (now : Nat) (sid : Sid) (st : CStream α) : CStream α × COut α :=
  match st.deadline with
  | some dl => if dl ≤ now then st.ctxCancelled sid .deadline else (st, {})
  | none => (st, {})

theorem close_go_eq (l : List (Sid × CStream α)) : Cli.close.go l = goGen closeF l := by
  induction l with
  | nil => rfl
  | cons x rest ih =>
    obtain ⟨sid, st⟩ := x
    simp only [Cli.close.go, goGen, ih, closeF]

theorem tick_go_eq (now : Nat) (l : List (Sid × CStream α)) : Cli.tick.go now l = goGen (tickF now) l := by
  induction l with
  | nil => rfl
  | cons x rest ih =>
    obtain ⟨sid, st⟩ := x
    simp only [Cli.tick.go, goGen, ih, tickF]
    cases st.deadline <;> rfl

theorem goGen_fst (f : Sid → CStream α → CStream α × COut α) (l : List (Sid × CStream α)) :
    (goGen f l).1 = l.map (fun e => (e.1, (f e.1 e.2).1)) := by
  induction l with
  | nil => rfl
  | cons x rest ih => obtain ⟨sid, st⟩ := x; simp only [goGen, ih, List.map_cons]

theorem goGen_ids (f : Sid → CStream α → CStream α × COut α) (l : List (Sid × CStream α)) :
    (goGen f l).1.map (·.1) = l.map (·.1) := by
  rw [goGen_fst, List.map_map]; rfl

theorem goGen_snd (f : Sid → CStream α → CStream α × COut α) (l : List (Sid × CStream α)) :
    (goGen f l).2 = total (l.map (fun e => (f e.1 e.2).2)) := by
  induction l with
  | nil => rfl
  | cons x rest ih => obtain ⟨sid, st⟩ := x; simp only [goGen, ih, List.map_cons, total, List.foldr_cons]

theorem total_proj {β : Type} (π : COut α → List β) (h0 : π {} = []) (hadd : ∀ a b, π (a.add b) = π a ++ π b)
    (os : List (COut α)) : π (total os) = os.flatMap π := by
  induction os with
  | nil => exact h0
  | cons o os ih => rw [List.flatMap_cons, ← ih]; exact hadd o (total os)

theorem total_frames (os : List (COut α)) : (total os).frames = os.flatMap (·.frames) :=
  total_proj (·.frames) rfl (fun _ _ => rfl) os

theorem total_dones (os : List (COut α)) : (total os).dones = os.flatMap (·.dones) :=
  total_proj (·.dones) rfl (fun _ _ => rfl) os

theorem goGen_frames (f : Sid → CStream α → CStream α × COut α) (l : List (Sid × CStream α)) :
    (goGen f l).2.frames = l.flatMap (fun e => (f e.1 e.2).2.frames) := by
  rw [goGen_snd, total_frames, List.flatMap_map]

theorem goGen_dones (f : Sid → CStream α → CStream α × COut α) (l : List (Sid × CStream α)) :
    (goGen f l).2.dones = l.flatMap (fun e => (f e.1 e.2).2.dones) := by
  rw [goGen_snd, total_dones, List.flatMap_map]

theorem closeF_cases (sid : Sid) (st : CStream α) :
    closeF sid st = st.ctxCancelled sid .canceled ∨ closeF sid st = (st, {}) := by
  unfold closeF
  split
  · exact .inl rfl
  · exact .inr rfl

theorem tickF_cases (now : Nat) (sid : Sid) (st : CStream α) :
    tickF now sid st = st.ctxCancelled sid .deadline ∨ tickF now sid st = (st, {}) := by
  unfold tickF
  split
  · split
    · exact .inl rfl
    · exact .inr rfl
  · exact .inr rfl

theorem close_finished (c : Cli α) (err : Option String) (b : Bool) (h : c.finished.isSome = true) :
    c.close err b = (c, {}) := by
  unfold Cli.close
  rw [if_pos h]

theorem close_eq (c : Cli α) (err : Option String) (b : Bool) (h : c.finished = none) :
    c.close err b =
      ({ c with streams := (goGen closeF c.streams).1, finished := some err },
       (if b then (goGen closeF c.streams).2 else { (goGen closeF c.streams).2 with frames := [] }).add
         { events := [s!"chan-finished {err.getD "nil"}"] }) := by
  unfold Cli.close
  rw [h, close_go_eq]
  rfl

theorem tick_eq (c : Cli α) (d : Nat) :
    c.tick d =
      ({ c with now := c.now + d, streams := (goGen (tickF (c.now + d)) c.streams).1 },
       if c.finished.isSome then { (goGen (tickF (c.now + d)) c.streams).2 with frames := [] }
       else (goGen (tickF (c.now + d)) c.streams).2) := by
  unfold Cli.tick
  dsimp only
  rw [tick_go_eq]

theorem getAny_mem {c : Cli α} {sid : Sid} {st : CStream α} (h : c.getAny sid = some st) :
    (sid, st) ∈ c.streams := by
  simp only [Cli.getAny, Option.map_eq_some_iff] at h
  obtain ⟨e, he, rfl⟩ := h
  have := List.find?_some he
  rw [← beq_iff_eq.mp this]
  exact List.mem_of_find?_eq_some he

theorem getStream_mem {c : Cli α} {sid : Sid} {st : CStream α} (h : c.getStream sid = some st) :
    (sid, st) ∈ c.streams ∧ st.inTable = true := by
  simp only [Cli.getStream, Option.map_eq_some_iff] at h
  obtain ⟨e, he, rfl⟩ := h
  have := List.find?_some he
  simp only [Bool.and_eq_true, beq_iff_eq] at this
  rw [← this.1]
  exact ⟨List.mem_of_find?_eq_some he, this.2⟩

theorem mem_setAny {c : Cli α} {sid : Sid} {st : CStream α} {e : Sid × CStream α} :
    e ∈ (c.setAny sid st).streams ↔
      (e ∈ c.streams ∧ e.1 ≠ sid) ∨ (e = (sid, st) ∧ ∃ e₀ ∈ c.streams, e₀.1 = sid) := by
  simp only [Cli.setAny, List.mem_map]
  constructor
  · rintro ⟨e₀, he₀, rfl⟩
    by_cases h : e₀.1 = sid
    · rw [if_pos (beq_iff_eq.mpr h)]; exact .inr ⟨rfl, e₀, he₀, h⟩
    · rw [if_neg (fun h' => h (beq_iff_eq.mp h'))]; exact .inl ⟨he₀, h⟩
  · rintro (⟨he, hne⟩ | ⟨rfl, e₀, he₀, h⟩)
    · exact ⟨e, he, if_neg (fun h' => hne (beq_iff_eq.mp h'))⟩
    · exact ⟨e₀, he₀, if_pos (beq_iff_eq.mpr h)⟩

theorem ids_setAny (c : Cli α) (sid : Sid) (st : CStream α) :
    (c.setAny sid st).streams.map (·.1) = c.streams.map (·.1) := by
  simp only [Cli.setAny, List.map_map]
  apply List.map_congr_left
  intro e _
  show (if e.1 == sid then (sid, st) else e).1 = e.1
  split
  · rename_i h; exact (beq_iff_eq.mp h).symm
  · rfl

theorem setAny_all {P : CStream α → Prop} {c : Cli α} {sid : Sid} {st : CStream α}
    (h : ∀ e ∈ c.streams, P e.2) (hst : P st) : ∀ e ∈ (c.setAny sid st).streams, P e.2 := by
  intro e he
  rcases mem_setAny.mp he with ⟨he, _⟩ | ⟨rfl, _⟩
  · exact h e he
  · exact hst

def freshStream (cfg : CCfg) (c : Cli α) (cs ss : Bool) (t : Option Nat) : CStream α :=
  { cs := cs, ss := ss, fc := c.rev != 0, rcv := RcvQ.init cfg.W, win := c.peerWin, deadline := t.map (· + c.now) }

/-- the endpoint after `NewStream` allocated id `n`: `st` appended to the table, `lastStreamID` advanced -/
def grown (c : Cli α) (n : Sid) (st : CStream α) : Cli α :=
  { c with lastStreamID := n, streamCreated := true, streams := c.streams ++ [(n, st)] }

theorem newStream_cases (cfg : CCfg) (c : Cli α) (cs ss : Bool) (m : List Nat) (md : MD)
    (t : Option Nat) (cn : Bool) :
    (∃ msg, c.newStream cfg cs ss m md t cn = (c, { dones := [(0, "new", .other msg)] }, none)) ∨
    (∃ n, IdRules.allocate c.lastStreamID = some n ∧ c.finished = none ∧
      c.newStream cfg cs ss m md t cn =
        if cn then
          ((grown c n (freshStream cfg c cs ss t)).setAny n
             ((freshStream cfg c cs ss t).ctxCancelled n .canceled).1,
           ({ frames := [(n, .newStream m md c.rev cfg.W)], dones := [(n, "new", .ok)] } : COut α).add
             ((freshStream cfg c cs ss t).ctxCancelled n .canceled).2, some n)
        else (grown c n (freshStream cfg c cs ss t),
              { frames := [(n, .newStream m md c.rev cfg.W)], dones := [(n, "new", .ok)] }, some n)) := by
  unfold Cli.newStream
  by_cases hfin : c.finished.isSome = true
  · rw [if_pos hfin]; exact .inl ⟨_, rfl⟩
  rw [if_neg hfin]
  cases hn : IdRules.allocate c.lastStreamID with
  | none => exact .inl ⟨_, rfl⟩
  | some n => exact .inr ⟨n, rfl, eq_none_of_isSome_false hfin, by cases cn <;> rfl⟩

theorem onFrame_elim {motive : Cli α × COut α → Prop} (cfg : CCfg) (c : Cli α) (sid : Sid) (f : S2C α)
    (ignore : motive (c, {}))
    (settings : ∀ (r : Int) (w : Nat) (o : COut α), c.finished = none →
      motive ({ c with phase := .running, rev := r, peerWin := w }, o))
    (stream : ∀ st, c.finished = none → c.getStream sid = some st →
      motive (c.setAny sid (st.onFrame cfg sid f).1, (st.onFrame cfg sid f).2))
    (close : ∀ err, c.finished = none → motive (c.close err false)) : motive (c.onFrame cfg sid f) := by
  unfold Cli.onFrame
  by_cases hfin : c.finished.isSome = true
  · rw [if_pos hfin]; exact ignore
  rw [if_neg hfin]
  have hfin := eq_none_of_isSome_false hfin
  by_cases hph : (c.phase == Phase.awaitingSettings) = true
  · rw [if_pos hph]
    unfold Cli.onSettingsPhase
    by_cases hs : (sid != -1) = true
    · rw [if_pos hs]; exact close _ hfin
    rw [if_neg hs]
    cases f with
    | settings win revs =>
      dsimp only
      cases Negotiate.select cfg.revs revs with
      | none => exact close _ hfin
      | some r => exact settings _ _ _ hfin
    | _ => exact close _ hfin
  rw [if_neg hph]
  cases hst : c.getStream sid with
  | some st => exact stream st hfin hst
  | none =>
    dsimp only
    by_cases hc : (c.streamCreated && decide (sid ≤ c.lastStreamID)) = true
    · rw [if_pos hc]; exact ignore
    · rw [if_neg hc]; exact close _ hfin

/-- on a channel that is torn down the frames of the call are lost, and a `SendMsg` returns
    the carrier's error -/
theorem onCall_elim {motive : Cli α × COut α → Prop} (cfg : CCfg) (c : Cli α) (sid : Sid) (call : CCall α)
    (absent : c.getAny sid = none → motive (c, { events := [s!"no-such-stream {sid}"] }))
    (run : ∀ st, c.getAny sid = some st →
      motive (c.setAny sid (st.onCall cfg sid call).1, (st.onCall cfg sid call).2))
    (sendFails : ∀ st, c.getAny sid = some st → c.finished.isSome = true →
      motive (c.setAny sid { (st.onCall cfg sid call).1 with psend := none },
              { dones := [(sid, "send", .other "carrier-closed")] }))
    (muted : ∀ st, c.getAny sid = some st → c.finished.isSome = true →
      motive (c.setAny sid (st.onCall cfg sid call).1, { (st.onCall cfg sid call).2 with frames := [] })) :
    motive (c.onCall cfg sid call) := by
  unfold Cli.onCall
  cases hst : c.getAny sid with
  | none => exact absent hst
  | some st =>
    dsimp only
    by_cases h : (c.finished.isSome && !(st.onCall cfg sid call).2.frames.isEmpty) = true
    · rw [if_pos h]
      have hfin := (Bool.and_eq_true _ _ ▸ h).1
      cases call with
      | send m => exact sendFails st hst hfin
      | _ => exact muted st hst hfin
    · rw [if_neg h]; exact run st hst

/-- what a property of stream objects needs in order to hold of every stream of
    every reachable endpoint state -/
structure CLift (cfg : CCfg) (P : CStream α → Prop) : Prop where
  ev : ∀ (sid : Sid) (s : CStream α) (ev : CEv α), P s → P (s.stepEv cfg sid ev).1
  /-- a `SendMsg` that finds the carrier torn down returns its error -/
  clearSend : ∀ (s : CStream α), P s → P { s with psend := none }
  fresh : ∀ (c : Cli α) (cs ss : Bool) (t : Option Nat), P (freshStream cfg c cs ss t)

theorem CLift.of_ops {cfg : CCfg} {P : CStream α → Prop}
    (op : ∀ {sid s s' o}, Op true sid s s' o → P s → P s') (clearSend : ∀ s, P s → P { s with psend := none })
    (fresh : ∀ (c : Cli α) (cs ss : Bool) (t : Option Nat), P (freshStream cfg c cs ss t)) : CLift cfg P :=
  ⟨fun sid s ev => (stepEv_ops cfg sid s ev (fun _ => rfl)).inv op, clearSend, fresh⟩

section Lift
variable {cfg : CCfg} {P : CStream α → Prop}

theorem goGen_all {f : Sid → CStream α → CStream α × COut α} (hf : ∀ sid s, P s → P (f sid s).1)
    {l : List (Sid × CStream α)} (h : ∀ e ∈ l, P e.2) : ∀ e ∈ (goGen f l).1, P e.2 := by
  intro e he
  rw [goGen_fst] at he
  obtain ⟨e₀, he₀, rfl⟩ := List.mem_map.mp he
  exact hf _ _ (h e₀ he₀)

theorem close_all (hP : CLift cfg P) (c : Cli α) (err : Option String) (b : Bool)
    (h : ∀ e ∈ c.streams, P e.2) : ∀ e ∈ (c.close err b).1.streams, P e.2 := by
  cases hf : c.finished with
  | some v => rw [close_finished c err b (isSome_of_eq_some hf)]; exact h
  | none =>
    rw [close_eq c err b hf]
    refine goGen_all (fun sid s hs => ?_) h
    rcases closeF_cases sid s with h' | h' <;> rw [h']
    · exact hP.ev sid s (.ctx .canceled) hs
    · exact hs

theorem tick_all (hP : CLift cfg P) (c : Cli α) (d : Nat)
    (h : ∀ e ∈ c.streams, P e.2) : ∀ e ∈ (c.tick d).1.streams, P e.2 := by
  rw [tick_eq]
  refine goGen_all (fun sid s hs => ?_) h
  rcases tickF_cases (c.now + d) sid s with h' | h' <;> rw [h']
  · exact hP.ev sid s (.ctx .deadline) hs
  · exact hs

theorem newStream_all (hP : CLift cfg P) (c : Cli α) (cs ss : Bool) (m : List Nat) (md : MD)
    (t : Option Nat) (cn : Bool) (h : ∀ e ∈ c.streams, P e.2) :
    ∀ e ∈ (c.newStream cfg cs ss m md t cn).1.streams, P e.2 := by
  rcases newStream_cases cfg c cs ss m md t cn with ⟨_, he⟩ | ⟨n, _, _, he⟩ <;> rw [he]
  · exact h
  · have hg : ∀ e ∈ (grown c n (freshStream cfg c cs ss t)).streams, P e.2 := by
      intro e he
      rcases List.mem_append.mp he with he | he
      · exact h e he
      · rw [List.mem_singleton.mp he]; exact hP.fresh c cs ss t
    cases cn with
    | false => exact hg
    | true => exact setAny_all hg (hP.ev n _ (.ctx .canceled) (hP.fresh c cs ss t))

theorem onFrame_all (hP : CLift cfg P) (c : Cli α) (sid : Sid) (f : S2C α)
    (h : ∀ e ∈ c.streams, P e.2) : ∀ e ∈ (c.onFrame cfg sid f).1.streams, P e.2 :=
  onFrame_elim (motive := fun r => ∀ e ∈ r.1.streams, P e.2) cfg c sid f h (fun _ _ _ _ => h)
    (fun st _ hst => setAny_all h (hP.ev sid st (.frame f) (h _ (getStream_mem hst).1)))
    (fun _ _ => close_all hP c _ _ h)

theorem onCall_all (hP : CLift cfg P) (c : Cli α) (sid : Sid) (call : CCall α)
    (h : ∀ e ∈ c.streams, P e.2) : ∀ e ∈ (c.onCall cfg sid call).1.streams, P e.2 :=
  have hst {st : CStream α} (hg : c.getAny sid = some st) : P (st.onCall cfg sid call).1 :=
    hP.ev sid st (.call call) (h _ (getAny_mem hg))
  onCall_elim (motive := fun r => ∀ e ∈ r.1.streams, P e.2) cfg c sid call (fun _ => h)
    (fun _ hg => setAny_all h (hst hg)) (fun _ hg _ => setAny_all h (hP.clearSend _ (hst hg)))
    (fun _ hg _ => setAny_all h (hst hg))

theorem call_step (hP : CLift cfg P) (c : Cli α) (x : CStim α) (h : ∀ e ∈ c.streams, P e.2) :
    ∀ e ∈ (c.step cfg x).1.streams, P e.2 := by
  cases x with
  | frame sid f => exact onFrame_all hP c sid f h
  | new cs ss m md t cn => exact newStream_all hP c cs ss m md t cn h
  | call sid call => exact onCall_all hP c sid call h
  | tick d => exact tick_all hP c d h
  | carrierEnds err =>
    show ∀ e ∈ (c.carrierEnds err).1.streams, P e.2
    unfold Cli.carrierEnds
    split <;> exact close_all hP c _ _ h
  | close => exact close_all hP c _ _ h

theorem call_run (hP : CLift cfg P) (xs : List (CStim α)) (c : Cli α) (h : ∀ e ∈ c.streams, P e.2) :
    ∀ e ∈ (Cli.run cfg c xs).1.streams, P e.2 :=
  run_inv (P := fun c => ∀ e ∈ c.streams, P e.2) (call_step hP) xs c h

end Lift

end Proofs.ClientOps
