import TunnelModel.RegAtomic
import Proofs.Lemmas.Run
/-!
  Reverse-tunnel REGISTRATION under concurrency (`TunnelModel.RegAtomic`): for every number of
  tunnels, every key assignment and every schedule of the atomic actions of the goroutines
  `G t` (`openReverseTunnel`), `U t` (`unregister`) and the `close t` events.
  `step gd sg` / `run gd sg` have two flags.  `gd` (`guarded`): `true` = `reverseChannelsForKey`
  looks up or creates the pool in one critical section, as the code does; `false` = the seeded
  double-checked lookup whose second half does not re-check.  `sg` (`singleUnregister`): `false` =
  `G t` runs its two deferred removes, as the code does; `true` = the seeded variant that replaces
  them by one `unregister`-like call.  `run true false` is called the correct model below.
  (1)–(6): program points as numbered at the head of `TunnelModel/RegAtomic.lean`.

  Everything about reachable states follows from one inductive invariant `Inv`.  Each seeded fault
  breaks one of the theorems on a concrete schedule (`faulty_*`), on which the correct model behaves
  (`guarded_same_schedule_exact`, `two_removes_same_schedule_empty`).

  * Resting.  `resting strict s` has two readings.  `strict = true`: `G t` returned, or parked with
    the channel open; `U t` not started or finished.  `strict = false` additionally lets `G t` sit
    in `start` ("tunnel not opened yet": the schedule decides which tunnels exist).
    `Inv.registry_exact_at_rest` is proved for the LENIENT reading (more states, hence the stronger
    theorem; `resting_of_strict`), `progress` for the complement of the STRICT reading (fewer resting
    states, hence again the stronger theorem; `progress'` is the other one).
  * Exactness about tunnel `t` needs only `G t` to be at rest (`exactAt_of_gResting`) — `U t` may
    be anywhere (it only ever removes, and it removes nothing that `G t` will not remove itself),
    and so may all other tunnels.
    The dangerous interleaving — `U t` runs `uRemGlobal` BEFORE `G t` has done `addGlobal`, finds
    nothing and returns; `G t` then registers a closed tunnel on both levels — is covered:
    `G t` is parked-but-closed, not at rest, and runs its two deferred removes
    (`progress_G`); the non-vacuity run contains exactly this tunnel (tunnel 2).
  * "At rest" cannot be dropped (`transient_inexact`): between the close and `G`'s deferred removes
    `KeyAsChannel(key)` can still pick a tunnel that `AsChannel()` can not.
  * Modelling decisions: `remove` is the Go loop (drops the FIRST entry for the tunnel); that it
    drops every entry is a consequence of the no-duplicates invariant (`not_mem_removeFirst`,
    `not_mem_poolAt_updPool_erase`).  The map is an association list, first entry wins; the
    guarded `getPool` only ever adds an entry for a key that has none (`Inv.byKey_nodup`).
    The faulty single `unregister` reuses the pool pointer `G t` already holds.
-/

namespace Proofs.RegAtomic
open TunnelModel.RegAtomic Proofs.Run

theorem assoc_mem {a b : Nat} {l : List (Nat × Nat)} (h : assoc a l = some b) : (a, b) ∈ l := by
  induction l with
  | nil => cases h
  | cons e r ih =>
    dsimp only [assoc] at h
    split at h
    next e => cases h; subst e; exact List.mem_cons_self
    next => exact List.mem_cons_of_mem _ (ih h)

theorem assoc_none {a : Nat} {l : List (Nat × Nat)} (h : assoc a l = none) : ∀ e ∈ l, e.1 ≠ a := by
  induction l with
  | nil => exact nofun
  | cons e r ih =>
    dsimp only [assoc] at h
    split at h
    · cases h
    next ne => exact List.forall_mem_cons.mpr ⟨ne, ih h⟩

theorem assoc_cons_self {a b : Nat} {l : List (Nat × Nat)} : assoc a ((a, b) :: l) = some b :=
  if_pos rfl

theorem assoc_cons_of_none {a b a' b' : Nat} {l : List (Nat × Nat)} (hn : assoc a l = none)
    (h : assoc a' l = some b') : assoc a' ((a, b) :: l) = some b' := by
  dsimp only [assoc]
  split
  next e => rw [e, h] at hn; cases hn
  next => exact h

/-- the Go `remove` loop is `List.eraseP` -/
theorem removeFirst_eq_eraseP {a : Nat} {l : List (Nat × Nat)} :
    removeFirst a l = l.eraseP (·.1 == a) := by
  induction l with
  | nil => rfl
  | cons e r ih =>
    rw [removeFirst, List.eraseP_cons, ih]
    by_cases h : e.1 = a
    · rw [if_pos h, beq_iff_eq.mpr h]; rfl
    · rw [if_neg h, beq_eq_false_iff_ne.mpr h]; rfl

theorem mem_removeFirst_of_ne {a : Nat} {e : Nat × Nat} (ne : e.1 ≠ a) {l : List (Nat × Nat)} :
    e ∈ removeFirst a l ↔ e ∈ l :=
  removeFirst_eq_eraseP ▸ List.mem_eraseP_of_neg (by simpa using ne)

/-- in a list without duplicates the Go `remove` loop removes every entry -/
theorem not_mem_removeFirst {a b : Nat} {l : List (Nat × Nat)} (hp : l.Pairwise (fun x y => x.1 ≠ y.1)) :
    (a, b) ∉ removeFirst a l := by
  induction l with
  | nil => exact nofun
  | cons e r ih =>
    rw [List.pairwise_cons] at hp
    intro h
    dsimp only [removeFirst] at h
    split at h
    next e => exact hp.1 _ h e
    next ne =>
      rcases List.mem_cons.mp h with h | h
      · cases h; exact ne rfl
      · exact ih hp.2 h

theorem poolAt_of_le {pools : List (List Nat)} {p : Nat} (h : pools.length ≤ p) : poolAt pools p = [] := by
  simp [poolAt, List.getElem?_eq_none h]

theorem length_updPool {pools : List (List Nat)} {p : Nat} {f : List Nat → List Nat} :
    (updPool pools p f).length = pools.length := by
  unfold updPool
  split
  · exact List.length_set
  · rfl

theorem poolAt_updPool_ne {pools : List (List Nat)} {p q : Nat} {f : List Nat → List Nat} (h : q ≠ p) :
    poolAt (updPool pools p f) q = poolAt pools q := by
  unfold updPool
  split
  · unfold poolAt
    rw [List.getElem?_set_ne (fun e => h e.symm)]
  · rfl

theorem poolAt_updPool_eq {pools : List (List Nat)} {p : Nat} {f : List Nat → List Nat} (h : p < pools.length) :
    poolAt (updPool pools p f) p = f (poolAt pools p) := by
  unfold updPool poolAt
  rw [List.getElem?_eq_getElem h]
  dsimp only
  rw [List.getElem?_set_self h]
  rfl

/-- updating a pool that does not exist does nothing, and `erase` leaves the empty list empty -/
theorem poolAt_updPool_erase {pools : List (List Nat)} {p t : Nat} :
    poolAt (updPool pools p (·.erase t)) p = (poolAt pools p).erase t := by
  rcases Nat.lt_or_ge p pools.length with h | h
  · exact poolAt_updPool_eq h
  · unfold updPool
    rw [List.getElem?_eq_none h, poolAt_of_le h]
    rfl

theorem poolAt_append_nil {pools : List (List Nat)} {q : Nat} : poolAt (pools ++ [[]]) q = poolAt pools q := by
  unfold poolAt
  rcases Nat.lt_or_ge q pools.length with h | h
  · rw [List.getElem?_append_left h]
  · rw [List.getElem?_append_right h, List.getElem?_eq_none h]
    cases q - pools.length <;> rfl

theorem mem_poolAt_updPool {pools : List (List Nat)} {p q t' : Nat} {f : List Nat → List Nat}
    (hf : ∀ l, t' ∈ f l ↔ t' ∈ l) : t' ∈ poolAt (updPool pools p f) q ↔ t' ∈ poolAt pools q := by
  by_cases e : q = p
  · subst e
    rcases Nat.lt_or_ge q pools.length with h | h
    · rw [poolAt_updPool_eq h]; exact hf _
    · unfold updPool
      rw [List.getElem?_eq_none h]
  · rw [poolAt_updPool_ne e]

theorem mem_poolAt_updPool_erase {pools : List (List Nat)} {p q t t' : Nat}
    (h : t' ∈ poolAt (updPool pools p (·.erase t)) q) : t' ∈ poolAt pools q := by
  by_cases e : q = p
  · subst e
    rw [poolAt_updPool_erase] at h
    exact List.mem_of_mem_erase h
  · rwa [poolAt_updPool_ne e] at h

theorem not_mem_poolAt_updPool_erase {pools : List (List Nat)} {p t : Nat}
    (h : (poolAt pools p).Nodup) : t ∉ poolAt (updPool pools p (·.erase t)) p := by
  rw [poolAt_updPool_erase]
  exact h.not_mem_erase

theorem map_key_set {l : List Tun} {t : Nat} {x x' : Tun} (h : l[t]? = some x) (hk : x'.key = x.key) :
    (l.set t x').map (·.key) = l.map (·.key) := by
  apply List.ext_getElem?
  intro i
  rw [List.getElem?_map, List.getElem?_map, List.getElem?_set]
  by_cases e : t = i
  · subst e
    simp only [if_true, lt_of_get h, h, Option.map_some, hk]
  · simp only [e, if_false]

/-- `step` as a relation, in three layers that mirror the three actors of a tunnel.
    `GStep s t k gd sg c a g g' r`: in the variant `gd`, `sg` of the model action `a` takes `G t` (key
    `k`; `c`: channel closed) from `g` to `g'` and the registry from `s` to `r`; `UStep` likewise for
    `U t`; `Step` looks up `tuns[t]` and writes the new record over `r`. -/
inductive GStep (s : St) (t k : Nat) : Bool → Bool → Bool → Act → GPc → GPc → St → Prop
  | addGlobal {gd sg c} :
      GStep s t k gd sg c (.addGlobal t) .start .addedGlobal { s with global := s.global ++ [(t, k)] }
  | getPoolHit {sg c p} (hp : assoc k s.byKey = some p) :
      GStep s t k true sg c (.getPool t) .addedGlobal (.gotPool p) s
  | getPoolMiss {sg c} (hp : assoc k s.byKey = none) :
      GStep s t k true sg c (.getPool t) .addedGlobal (.gotPool s.pools.length)
        { s with byKey := (k, s.pools.length) :: s.byKey, pools := s.pools ++ [[]] }
  | peekHit {sg c p} (hp : assoc k s.byKey = some p) :
      GStep s t k false sg c (.peekPool t) .addedGlobal (.gotPool p) s
  | peekMiss {sg c} (hp : assoc k s.byKey = none) :
      GStep s t k false sg c (.peekPool t) .addedGlobal .missed s
  | createPool {sg c} :
      GStep s t k false sg c (.createPool t) .missed (.gotPool s.pools.length)
        { s with byKey := (k, s.pools.length) :: s.byKey, pools := s.pools ++ [[]] }
  | addKey {gd sg c p} :
      GStep s t k gd sg c (.addKey t) (.gotPool p) (.addedKey p)
        { s with pools := updPool s.pools p (· ++ [t]) }
  | remKey {gd p} :
      GStep s t k gd false true (.remKey t) (.addedKey p) .removedKey
        { s with pools := updPool s.pools p (·.erase t) }
  | remGlobal {gd c} :
      GStep s t k gd false c (.remGlobal t) .removedKey .done { s with global := removeFirst t s.global }
  | sRemGlobalHit {gd p k'} (hk : assoc t s.global = some k') :
      GStep s t k gd true true (.sRemGlobal t) (.addedKey p) (.removedGlobal p)
        { s with global := removeFirst t s.global }
  | sRemGlobalMiss {gd p} (hk : assoc t s.global = none) :
      GStep s t k gd true true (.sRemGlobal t) (.addedKey p) .done s
  | sRemKey {gd c p} :
      GStep s t k gd true c (.sRemKey t) (.removedGlobal p) .done
        { s with pools := updPool s.pools p (·.erase t) }

inductive UStep (s : St) (t : Nat) : Bool → Act → UPc → UPc → St → Prop
  | remGlobalHit {k'} (hk : assoc t s.global = some k') :
      UStep s t true (.uRemGlobal t) .idle (.gotKey k') { s with global := removeFirst t s.global }
  | remGlobalMiss (hk : assoc t s.global = none) : UStep s t true (.uRemGlobal t) .idle .finished s
  | lookupHit {c k' p} (hp : assoc k' s.byKey = some p) :
      UStep s t c (.uLookup t) (.gotKey k') (.gotPool p) s
  | lookupMiss {c k'} (hp : assoc k' s.byKey = none) : UStep s t c (.uLookup t) (.gotKey k') .finished s
  | remKey {c p} :
      UStep s t c (.uRemKey t) (.gotPool p) .finished { s with pools := updPool s.pools p (·.erase t) }

inductive Step (s : St) (gd sg : Bool) : Act → St → Prop
  | g {t k c g g' u a r} (ht : s.tuns[t]? = some ⟨k, c, g, u⟩) (h : GStep s t k gd sg c a g g' r) :
      Step s gd sg a { r with tuns := s.tuns.set t ⟨k, c, g', u⟩ }
  | close {t k g u} (ht : s.tuns[t]? = some ⟨k, false, g, u⟩) :
      Step s gd sg (.close t) { s with tuns := s.tuns.set t ⟨k, true, g, u⟩ }
  | u {t k c g u u' a r} (ht : s.tuns[t]? = some ⟨k, c, g, u⟩) (h : UStep s t c a u u' r) :
      Step s gd sg a { r with tuns := s.tuns.set t ⟨k, c, g, u'⟩ }

theorem step_spec {gd sg : Bool} {s s' : St} {a : Act} (hs : step gd sg s a = some s') :
    Step s gd sg a s' := by
  cases a <;> dsimp only [step] at hs
  case addGlobal t =>
    split at hs
    next ht => cases hs; exact .g ht .addGlobal
    · cases hs
  case getPool t =>
    cases gd with
    | false => cases hs
    | true =>
      rw [if_pos rfl] at hs
      split at hs
      next ht =>
        split at hs
        next hp => cases hs; exact .g ht (.getPoolHit hp)
        next hp => cases hs; exact .g ht (.getPoolMiss hp)
      · cases hs
  case peekPool t =>
    cases gd with
    | true => cases hs
    | false =>
      rw [if_neg Bool.false_ne_true] at hs
      split at hs
      next ht =>
        split at hs
        next hp => cases hs; exact .g ht (.peekHit hp)
        next hp => cases hs; exact .g ht (.peekMiss hp)
      · cases hs
  case createPool t =>
    cases gd with
    | true => cases hs
    | false =>
      rw [if_neg Bool.false_ne_true] at hs
      split at hs
      next ht => cases hs; exact .g ht .createPool
      · cases hs
  case addKey t =>
    split at hs
    next ht => cases hs; exact .g ht .addKey
    · cases hs
  case remKey t =>
    cases sg with
    | true => cases hs
    | false =>
      rw [if_neg Bool.false_ne_true] at hs
      split at hs
      next ht => cases hs; exact .g ht .remKey
      · cases hs
  case remGlobal t =>
    cases sg with
    | true => cases hs
    | false =>
      rw [if_neg Bool.false_ne_true] at hs
      split at hs
      next ht => cases hs; exact .g ht .remGlobal
      · cases hs
  case sRemGlobal t =>
    cases sg with
    | false => cases hs
    | true =>
      rw [if_pos rfl] at hs
      split at hs
      next ht =>
        split at hs
        next hk => cases hs; exact .g ht (.sRemGlobalHit hk)
        next hk => cases hs; exact .g ht (.sRemGlobalMiss hk)
      · cases hs
  case sRemKey t =>
    cases sg with
    | false => cases hs
    | true =>
      rw [if_pos rfl] at hs
      split at hs
      next ht => cases hs; exact .g ht .sRemKey
      · cases hs
  case close t =>
    split at hs
    next ht => cases hs; exact .close ht
    · cases hs
  case uRemGlobal t =>
    split at hs
    next ht =>
      split at hs
      next hk => cases hs; exact .u ht (.remGlobalHit hk)
      next hk => cases hs; exact .u ht (.remGlobalMiss hk)
    · cases hs
  case uLookup t =>
    split at hs
    next ht =>
      split at hs
      next hp => cases hs; exact .u ht (.lookupHit hp)
      next hp => cases hs; exact .u ht (.lookupMiss hp)
    · cases hs
  case uRemKey t =>
    split at hs
    next ht => cases hs; exact .u ht .remKey
    · cases hs

theorem isRun (gd sg : Bool) : IsRun (step gd sg) (run gd sg) :=
  ⟨fun _ => rfl, fun s a as => by
    show (match step gd sg s a with | some s' => _ | none => _) = _
    cases step gd sg s a <;> rfl⟩

/-- `G` is between (1) `s.reverse.add` and (6) `s.reverse.remove` -/
def registered : GPc → Bool
  | .addedGlobal | .gotPool _ | .addedKey _ | .removedKey => true
  | _ => false

structure TunInv (s : St) (t : Nat) (x : Tun) : Prop where
  /-- the global pool stores the tunnel with ITS key -/
  glob_key : ∀ k, (t, k) ∈ s.global → k = x.key
  /-- in the global pool only between (1) and (6) -/
  glob_sound : ∀ k, (t, k) ∈ s.global → registered x.g = true
  /-- between (1) and (6) it IS in the global pool unless `unregister` has taken it out -/
  glob_complete : x.u = .idle → registered x.g = true → (t, x.key) ∈ s.global
  /-- in a key pool only while `G` is past (3) and before (5), and only in the pool `G` holds -/
  pool_sound : ∀ p, t ∈ poolAt s.pools p → x.g = .addedKey p
  /-- past (3), before (5): it IS in that pool unless `unregister` has started -/
  pool_complete : ∀ p, x.u = .idle → x.g = .addedKey p → t ∈ poolAt s.pools p
  /-- the pool `G` holds is THE pool registered under the tunnel's key -/
  holds : ∀ p, x.g = .gotPool p ∨ x.g = .addedKey p → assoc x.key s.byKey = some p
  /-- `unregister` runs only after the close -/
  u_closed : x.u ≠ .idle → x.closed = true
  u_key : ∀ k, x.u = .gotKey k → k = x.key
  u_pool : ∀ p, x.u = .gotPool p → assoc x.key s.byKey = some p
  /-- the program counters of the faulty variants are not used -/
  no_faulty : x.g ≠ .missed ∧ ∀ p, x.g ≠ .removedGlobal p

/-- `TunInv` only depends on the tunnel's own entries and is monotone in the map -/
theorem TunInv.frame {s s' : St} {t : Nat} {x : Tun} (h : TunInv s t x)
    (hg : ∀ k, (t, k) ∈ s'.global ↔ (t, k) ∈ s.global)
    (hp : ∀ p, t ∈ poolAt s'.pools p ↔ t ∈ poolAt s.pools p)
    (hb : ∀ k p, assoc k s.byKey = some p → assoc k s'.byKey = some p) : TunInv s' t x :=
  ⟨fun k hk => h.glob_key k ((hg k).mp hk),
   fun k hk => h.glob_sound k ((hg k).mp hk),
   fun hu hr => (hg _).mpr (h.glob_complete hu hr),
   fun p hm => h.pool_sound p ((hp p).mp hm),
   fun p hu hx => (hp p).mpr (h.pool_complete p hu hx),
   fun p hx => hb _ _ (h.holds p hx),
   h.u_closed, h.u_key,
   fun p hx => hb _ _ (h.u_pool p hx),
   h.no_faulty⟩

structure Inv (keys : List Nat) (s : St) : Prop where
  /-- tunnel `t` exists and has key `keys[t]`, for ever -/
  keys_eq : s.tuns.map (·.key) = keys
  glob_nodup : s.global.Pairwise (fun a b => a.1 ≠ b.1)
  pool_nodup : ∀ p, (poolAt s.pools p).Nodup
  byKey_nodup : s.byKey.Pairwise (fun a b => a.1 ≠ b.1)
  byKey_exists : ∀ k p, (k, p) ∈ s.byKey → p < s.pools.length
  glob_dom : ∀ t k, (t, k) ∈ s.global → t < s.tuns.length
  pool_dom : ∀ p t, t ∈ poolAt s.pools p → t < s.tuns.length
  tun : ∀ t x, s.tuns[t]? = some x → TunInv s t x

theorem inv_init (keys : List Nat) : Inv keys (init keys) := by
  refine ⟨?_, .nil, fun _ => .nil, .nil, fun _ _ h => (by cases h), fun _ _ h => (by cases h),
    fun _ _ h => (by cases h), fun t x h => ?_⟩
  · simp [init, Function.comp_def]
  · rw [init, List.getElem?_map, Option.map_eq_some_iff] at h
    obtain ⟨k, -, rfl⟩ := h
    exact ⟨fun _ h => (by cases h), fun _ h => (by cases h), fun _ h => (by cases h), fun _ h => (by cases h),
      fun _ _ h => (by cases h), fun _ h => (by rcases h with h | h <;> cases h), fun h => absurd rfl h,
      fun _ h => (by cases h), fun _ h => (by cases h), fun h => (by cases h), fun _ h => (by cases h)⟩

/-- Every action belongs to one tunnel `t` and replaces its record.  The invariant survives if the
    registry-wide clauses and the clauses about `t` hold afterwards, the registry says about the
    other tunnels what it said before, and no map entry has changed. -/
theorem Inv.replace {keys : List Nat} {s s' : St} {t : Nat} {x x' : Tun} (I : Inv keys s)
    (ht : s.tuns[t]? = some x) (htuns : s'.tuns = s.tuns.set t x') (hkey : x'.key = x.key)
    (glob_nodup : s'.global.Pairwise (fun a b => a.1 ≠ b.1))
    (pool_nodup : ∀ p, (poolAt s'.pools p).Nodup)
    (byKey_nodup : s'.byKey.Pairwise (fun a b => a.1 ≠ b.1))
    (byKey_exists : ∀ k p, (k, p) ∈ s'.byKey → p < s'.pools.length)
    (hg : ∀ t' k, t' ≠ t → ((t', k) ∈ s'.global ↔ (t', k) ∈ s.global))
    (hp : ∀ t' p, t' ≠ t → (t' ∈ poolAt s'.pools p ↔ t' ∈ poolAt s.pools p))
    (hb : ∀ k p, assoc k s.byKey = some p → assoc k s'.byKey = some p)
    (self : TunInv s' t x') : Inv keys s' := by
  have hdom : ∀ t', (t' ≠ t → t' < s.tuns.length) → t' < s'.tuns.length := fun t' h => by
    rw [htuns, List.length_set]
    by_cases e : t' = t
    · rw [e]; exact lt_of_get ht
    · exact h e
  refine ⟨?_, glob_nodup, pool_nodup, byKey_nodup, byKey_exists, ?_, ?_, ?_⟩
  · rw [htuns]; exact (map_key_set ht hkey).trans I.keys_eq
  · exact fun t' k h => hdom t' fun ne => I.glob_dom t' k ((hg t' k ne).mp h)
  · exact fun p t' h => hdom t' fun ne => I.pool_dom p t' ((hp t' p ne).mp h)
  · intro t' y h
    rw [htuns] at h
    rcases get_set h with ⟨rfl, rfl⟩ | ⟨ne, h'⟩
    · exact self
    · exact (I.tun t' y h').frame (fun k => hg t' k ne) (fun p => hp t' p ne) hb

theorem Inv.set_tun {keys : List Nat} {s : St} {t : Nat} {x x' : Tun} (I : Inv keys s)
    (ht : s.tuns[t]? = some x) (hkey : x'.key = x.key) (self : TunInv s t x → TunInv s t x') :
    Inv keys { s with tuns := s.tuns.set t x' } :=
  I.replace ht rfl hkey I.glob_nodup I.pool_nodup I.byKey_nodup I.byKey_exists
    (fun _ _ _ => Iff.rfl) (fun _ _ _ => Iff.rfl) (fun _ _ h => h)
    ((self (I.tun t x ht)).frame (fun _ => Iff.rfl) (fun _ => Iff.rfl) (fun _ _ h => h))

/-- `s.reverse.remove`: afterwards `t` is not in the global pool -/
theorem Inv.remGlobal {keys : List Nat} {s : St} {t : Nat} {x x' : Tun} (I : Inv keys s)
    (ht : s.tuns[t]? = some x) (hkey : x'.key = x.key)
    (self : TunInv s t x → (∀ k, (t, k) ∉ removeFirst t s.global) →
      TunInv { s with global := removeFirst t s.global, tuns := s.tuns.set t x' } t x') :
    Inv keys { s with global := removeFirst t s.global, tuns := s.tuns.set t x' } :=
  I.replace ht rfl hkey (I.glob_nodup.sublist (removeFirst_eq_eraseP ▸ List.eraseP_sublist)) I.pool_nodup I.byKey_nodup I.byKey_exists
    (fun _ _ ne => mem_removeFirst_of_ne ne) (fun _ _ _ => Iff.rfl) (fun _ _ h => h)
    (self (I.tun t x ht) fun _ => not_mem_removeFirst I.glob_nodup)

/-- `rc.remove` on pool `p` -/
theorem Inv.remKey {keys : List Nat} {s : St} {t p : Nat} {x x' : Tun} (I : Inv keys s)
    (ht : s.tuns[t]? = some x) (hkey : x'.key = x.key)
    (self : TunInv s t x →
      TunInv { s with pools := updPool s.pools p (·.erase t), tuns := s.tuns.set t x' } t x') :
    Inv keys { s with pools := updPool s.pools p (·.erase t), tuns := s.tuns.set t x' } :=
  I.replace ht rfl hkey I.glob_nodup (fun q => by
      by_cases e : q = p
      · rw [e, poolAt_updPool_erase]; exact (I.pool_nodup p).erase t
      · rw [poolAt_updPool_ne e]; exact I.pool_nodup q) I.byKey_nodup
    (fun k q h => Nat.lt_of_lt_of_eq (I.byKey_exists k q h) length_updPool.symm)
    (fun _ _ _ => Iff.rfl) (fun _ _ ne => mem_poolAt_updPool fun _ => List.mem_erase_of_ne ne)
    (fun _ _ h => h) (self (I.tun t x ht))

theorem inv_step {keys : List Nat} {s s' : St} {a : Act} (I : Inv keys s)
    (hs : step true false s a = some s') : Inv keys s' := by
  cases step_spec hs with
  | close ht => exact I.set_tun ht rfl fun T => { T with u_closed := fun _ => rfl }
  | @g t k _ _ _ _ _ _ ht h =>
    cases h with
    | addGlobal =>
      have T := I.tun t _ ht
      have hnot : ∀ k', (t, k') ∉ s.global := fun k' h => nomatch T.glob_sound k' h
      refine I.replace ht rfl rfl ?_ I.pool_nodup I.byKey_nodup I.byKey_exists ?_ (fun _ _ _ => Iff.rfl)
        (fun _ _ h => h) ?_
      · refine List.pairwise_append.mpr ⟨I.glob_nodup, List.pairwise_singleton _ _, ?_⟩
        rintro ⟨t', k'⟩ ha b hb e
        cases List.mem_singleton.mp hb
        cases e
        exact hnot k' ha
      · intro t' k' ne
        refine ⟨fun h => (List.mem_append.mp h).resolve_right fun h => ?_, List.mem_append_left _⟩
        cases List.mem_singleton.mp h
        exact ne rfl
      · exact { T with
          glob_key := fun k' h => (List.mem_append.mp h).elim (fun h => absurd h (hnot k'))
            fun h => by cases List.mem_singleton.mp h; rfl
          glob_sound := fun _ _ => rfl
          glob_complete := fun _ _ => List.mem_append_right _ (List.mem_singleton_self _)
          pool_sound := fun p h => by cases T.pool_sound p h
          pool_complete := fun _ _ h => by cases h
          holds := fun _ h => by rcases h with h | h <;> cases h
          no_faulty := ⟨fun h => (by cases h), fun _ h => (by cases h)⟩ }
    | getPoolMiss hk =>
      have T := I.tun t _ ht
      have hb : ∀ k' p', assoc k' s.byKey = some p' → assoc k' ((k, s.pools.length) :: s.byKey) = some p' :=
        fun _ _ => assoc_cons_of_none hk
      refine I.replace ht rfl rfl I.glob_nodup ?_ ?_ ?_ (fun _ _ _ => Iff.rfl) ?_ hb ?_
      · intro q
        show (poolAt (s.pools ++ [[]]) q).Nodup
        rw [poolAt_append_nil]
        exact I.pool_nodup q
      · exact List.pairwise_cons.mpr ⟨fun e he h => assoc_none hk e he h.symm, I.byKey_nodup⟩
      · intro k' p' h
        refine Nat.lt_of_lt_of_eq ?_ List.length_append.symm
        rcases List.mem_cons.mp h with h | h
        · cases h; exact Nat.lt_succ_self _
        · exact Nat.lt_succ_of_lt (I.byKey_exists _ _ h)
      · intro t' q _
        show t' ∈ poolAt (s.pools ++ [[]]) q ↔ _
        rw [poolAt_append_nil]
      · exact { T with
          glob_sound := fun _ _ => rfl
          glob_complete := fun hu _ => T.glob_complete hu rfl
          pool_sound := fun q h => by cases T.pool_sound q (poolAt_append_nil ▸ h)
          pool_complete := fun _ _ h => by cases h
          holds := fun _ h => h.elim (fun h => by cases h; exact assoc_cons_self) (fun h => by cases h)
          u_pool := fun q h => hb _ _ (T.u_pool q h)
          no_faulty := ⟨fun h => (by cases h), fun _ h => (by cases h)⟩ }
    | @addKey _ _ _ p =>
      have T := I.tun t _ ht
      have hp : assoc k s.byKey = some p := T.holds p (Or.inl rfl)
      have hnot : ∀ q, t ∉ poolAt s.pools q := fun q h => by cases T.pool_sound q h
      have hself : poolAt (updPool s.pools p (· ++ [t])) p = poolAt s.pools p ++ [t] :=
        poolAt_updPool_eq (I.byKey_exists _ _ (assoc_mem hp))
      refine I.replace ht rfl rfl I.glob_nodup ?_ I.byKey_nodup
        (fun k' p' h => Nat.lt_of_lt_of_eq (I.byKey_exists k' p' h) length_updPool.symm) (fun _ _ _ => Iff.rfl)
        (fun _ _ ne => mem_poolAt_updPool fun _ => by simp [ne]) (fun _ _ h => h) ?_
      · intro q
        show (poolAt (updPool s.pools p (· ++ [t])) q).Nodup
        by_cases e : q = p
        · rw [e, hself]
          refine List.nodup_append.mpr ⟨I.pool_nodup p, List.pairwise_singleton _ t, fun a ha b hb e => ?_⟩
          cases List.mem_singleton.mp hb
          exact hnot p (e ▸ ha)
        · rw [poolAt_updPool_ne e]; exact I.pool_nodup q
      · exact { T with
          glob_sound := fun _ _ => rfl
          glob_complete := fun hu _ => T.glob_complete hu rfl
          pool_sound := fun q h => by
            by_cases e : q = p
            · rw [e]
            · exact absurd (poolAt_updPool_ne e ▸ h) (hnot q)
          pool_complete := fun _ _ h => by cases h; exact hself ▸ List.mem_append_right _ (List.mem_singleton_self t)
          holds := fun _ h => h.elim (fun h => by cases h) (fun h => by cases h; exact hp)
          no_faulty := ⟨fun h => (by cases h), fun _ h => (by cases h)⟩ }
    | getPoolHit hp =>
      exact I.set_tun ht rfl fun T => { T with
        glob_sound := fun _ _ => rfl
        glob_complete := fun hu _ => T.glob_complete hu rfl
        pool_sound := fun q h => by cases T.pool_sound q h
        pool_complete := fun _ _ h => by cases h
        holds := fun _ h => h.elim (fun h => by cases h; exact hp) (fun h => by cases h)
        no_faulty := ⟨fun h => (by cases h), fun _ h => (by cases h)⟩ }
    | @remKey _ p =>
      exact I.remKey ht rfl fun T => { T with
        glob_sound := fun _ _ => rfl
        glob_complete := fun hu _ => T.glob_complete hu rfl
        pool_sound := fun q h => by
          cases T.pool_sound q (mem_poolAt_updPool_erase h)
          exact absurd h (not_mem_poolAt_updPool_erase (I.pool_nodup p))
        pool_complete := fun _ _ h => by cases h
        holds := fun _ h => by rcases h with h | h <;> cases h
        no_faulty := ⟨fun h => (by cases h), fun _ h => (by cases h)⟩ }
    | remGlobal =>
      exact I.remGlobal ht rfl fun T hn => { T with
        glob_key := fun k h => absurd h (hn k)
        glob_sound := fun k h => absurd h (hn k)
        glob_complete := fun _ h => by cases h
        pool_sound := fun q h => by cases T.pool_sound q h
        pool_complete := fun _ _ h => by cases h
        holds := fun _ h => by rcases h with h | h <;> cases h
        no_faulty := ⟨fun h => (by cases h), fun _ h => (by cases h)⟩ }
  | u ht h =>
    cases h with
    | remGlobalHit hk =>
      exact I.remGlobal ht rfl fun T hn => { T with
        glob_key := fun k h => absurd h (hn k)
        glob_sound := fun k h => absurd h (hn k)
        glob_complete := fun h => by cases h
        pool_complete := fun _ h => by cases h
        u_closed := fun _ => rfl
        u_key := fun _ h => by cases h; exact T.glob_key _ (assoc_mem hk)
        u_pool := fun _ h => by cases h }
    | remGlobalMiss =>
      exact I.set_tun ht rfl fun T => { T with
        glob_complete := fun h => by cases h
        pool_complete := fun _ h => by cases h
        u_closed := fun _ => rfl
        u_key := fun _ h => by cases h
        u_pool := fun _ h => by cases h }
    | lookupHit hp =>
      exact I.set_tun ht rfl fun T => { T with
        glob_complete := fun h => by cases h
        pool_complete := fun _ h => by cases h
        u_closed := fun _ => T.u_closed (fun h => by cases h)
        u_key := fun _ h => by cases h
        u_pool := fun _ h => by cases h; exact T.u_key _ rfl ▸ hp }
    | lookupMiss =>
      exact I.set_tun ht rfl fun T => { T with
        glob_complete := fun h => by cases h
        pool_complete := fun _ h => by cases h
        u_closed := fun _ => T.u_closed (fun h => by cases h)
        u_key := fun _ h => by cases h
        u_pool := fun _ h => by cases h }
    | remKey =>
      exact I.remKey ht rfl fun T => { T with
        glob_complete := fun h => by cases h
        pool_sound := fun q h => T.pool_sound q (mem_poolAt_updPool_erase h)
        pool_complete := fun _ h => by cases h
        u_closed := fun _ => T.u_closed (fun h => by cases h)
        u_key := fun _ h => by cases h
        u_pool := fun _ h => by cases h }

theorem inv_reachable (keys : List Nat) (as : List Act) {s : St}
    (hr : run true false (init keys) as = some s) : Inv keys s :=
  (isRun true false).preserves inv_step (inv_init keys) hr

/-- a tunnel in a key pool is a tunnel, parked (or about to run its deferred remove) with a
    pointer to that pool, and the pool is THE pool registered under the tunnel's key -/
theorem in_pool_of_its_key {keys : List Nat} {s : St} (I : Inv keys s) {p t : Nat}
    (h : t ∈ poolAt s.pools p) :
    ∃ x, s.tuns[t]? = some x ∧ x.g = .addedKey p ∧ assoc x.key s.byKey = some p ∧ p < s.pools.length := by
  have hx := List.getElem?_eq_getElem (I.pool_dom p t h)
  have T := I.tun t _ hx
  have hg := T.pool_sound p h
  have hb := T.holds p (Or.inr hg)
  exact ⟨_, hx, hg, hb, I.byKey_exists _ _ (assoc_mem hb)⟩

theorem tun_key {keys : List Nat} {s : St} (I : Inv keys s) {t : Nat} {x : Tun}
    (ht : s.tuns[t]? = some x) : keys[t]? = some x.key := by
  rw [← I.keys_eq, List.getElem?_map, ht]; rfl

theorem byKey_stable_step {sg : Bool} {s s' : St} {a : Act} (hs : step true sg s a = some s')
    {k p : Nat} (hb : assoc k s.byKey = some p) : assoc k s'.byKey = some p := by
  cases step_spec hs with
  | close => exact hb
  | u _ h => cases h <;> exact hb
  | g _ h =>
    cases h with
    | getPoolMiss hk => exact assoc_cons_of_none hk hb
    | _ => exact hb

/-- an entry of `reverseByKey`, once made, is never changed (`guarded = true`) -/
theorem byKey_stable {sg : Bool} : ∀ (as : List Act) {s s' : St}, run true sg s as = some s' →
    ∀ {k p : Nat}, assoc k s.byKey = some p → assoc k s'.byKey = some p := by
  intro as s s' hr k p
  exact (isRun true sg).rel (Rel := fun s s' => ∀ k p, assoc k s.byKey = some p → assoc k s'.byKey = some p)
    (fun _ _ _ h => h) (fun h1 h2 k p h => h2 k p (h1 k p h)) (fun hs _ _ => byKey_stable_step hs) hr k p

theorem mem_globalIds {s : St} {t : Nat} : t ∈ globalIds s ↔ ∃ k, (t, k) ∈ s.global := by
  unfold globalIds
  rw [List.mem_map]
  constructor
  · rintro ⟨⟨a, b⟩, h, rfl⟩; exact ⟨b, h⟩
  · rintro ⟨k, h⟩; exact ⟨(t, k), h, rfl⟩

theorem mem_keyPool {s : St} {t k : Nat} :
    t ∈ keyPool s k ↔ ∃ p, assoc k s.byKey = some p ∧ t ∈ poolAt s.pools p := by
  unfold keyPool
  split
  next p hp =>
    constructor
    · intro h; exact ⟨p, hp, h⟩
    · rintro ⟨q, hq, h⟩; rw [hp] at hq; cases hq; exact h
  next hp =>
    constructor
    · intro h; cases h
    · rintro ⟨q, hq, _⟩; rw [hp] at hq; cases hq

/-- the two levels of the registry say exactly "open and fully registered" about tunnel `t` -/
structure ExactAt (s : St) (t : Nat) (x : Tun) : Prop where
  /-- in the global pool ↔ `G t` parked at `<-ch.Done()` and the channel open -/
  global_iff : t ∈ globalIds s ↔ x.isOpen = true
  /-- ... and then stored with its own key -/
  global_key : ∀ k, (t, k) ∈ s.global → k = x.key
  /-- in the pool registered under its key ↔ the same -/
  keyPool_iff : t ∈ keyPool s x.key ↔ x.isOpen = true
  no_other : ∀ p, t ∈ poolAt s.pools p → assoc x.key s.byKey = some p

theorem exactAt_of_not_registered {s : St} {t : Nat} {x : Tun} (T : TunInv s t x)
    (hreg : registered x.g = false) : ExactAt s t x := by
  have h1 : ∀ k, (t, k) ∉ s.global := fun k h => by
    have := T.glob_sound k h
    rw [hreg] at this; cases this
  have h2 : ∀ q, t ∉ poolAt s.pools q := fun q h => by
    have := T.pool_sound q h
    rw [this] at hreg; cases hreg
  have h3 : x.isOpen = false := by
    obtain ⟨k, c, g, u⟩ := x
    cases g <;> first | rfl | cases hreg
  rw [← Bool.not_eq_true] at h3
  exact ⟨⟨fun h => by obtain ⟨k, h⟩ := mem_globalIds.mp h; exact absurd h (h1 k), fun h => absurd h h3⟩,
    fun k h => absurd h (h1 k),
    ⟨fun h => by obtain ⟨q, _, h⟩ := mem_keyPool.mp h; exact absurd h (h2 q), fun h => absurd h h3⟩,
    fun q h => absurd h (h2 q)⟩

/-- Exactness at `t` needs only `G t` to be at rest (not started, parked with the channel open, or
    returned) — wherever `U t` and all the other tunnels are. -/
theorem exactAt_of_gResting {keys : List Nat} {s : St} (I : Inv keys s) {t : Nat} {x : Tun}
    (ht : s.tuns[t]? = some x) (hr : x.gResting false = true) : ExactAt s t x := by
  have T := I.tun t x ht
  obtain ⟨k, c, g, u⟩ := x
  cases g with
  | start => exact exactAt_of_not_registered T rfl
  | done => exact exactAt_of_not_registered T rfl
  | addedKey p =>
    -- parked with the channel open, so `U` has not started: both completeness clauses apply
    have hc : c = false := by cases c <;> first | rfl | cases hr
    have hu : u = .idle := by
      cases u with
      | idle => rfl
      | _ => cases hc.symm.trans (T.u_closed (fun h => by cases h))
    subst hc hu
    have hk := T.holds p (Or.inr rfl)
    exact ⟨⟨fun _ => rfl, fun _ => mem_globalIds.mpr ⟨k, T.glob_complete rfl rfl⟩⟩, T.glob_key,
      ⟨fun _ => rfl, fun _ => mem_keyPool.mpr ⟨p, hk, T.pool_complete p rfl rfl⟩⟩,
      fun q h => by cases T.pool_sound q h; exact hk⟩
  | _ => cases hr

theorem tun_exists {keys : List Nat} {s : St} (I : Inv keys s) {t : Nat} (ht : t < keys.length) :
    ∃ x, s.tuns[t]? = some x ∧ x.key = keys[t] := by
  have h : (s.tuns.map (·.key))[t]? = some keys[t] := by
    rw [I.keys_eq]; exact List.getElem?_eq_getElem ht
  rw [List.getElem?_map, Option.map_eq_some_iff] at h
  exact h

/-- In every resting state of the correct model satisfying the invariant the registry — both levels —
    is exactly the set of open, fully registered tunnels: for every tunnel `t`

      `t` in the global pool  ↔  `t` in the pool registered under `keys[t]`
                              ↔  `G t` parked at `<-ch.Done()` ∧ channel `t` open,

    and `t` is in no other pool.  (`resting false`: tunnels whose `G` is still in `start` count
    as "not opened yet" and are allowed; this includes the states with `resting true`.) -/
theorem Inv.registry_exact_at_rest {keys : List Nat} {s : St} (I : Inv keys s)
    (hrest : resting false s = true) (t : Nat) (ht : t < keys.length) :
    ∃ x, s.tuns[t]? = some x ∧ x.key = keys[t] ∧ ExactAt s t x := by
  obtain ⟨x, hx, hk⟩ := tun_exists I ht
  exact ⟨x, hx, hk, exactAt_of_gResting I hx
    (Bool.and_eq_true_iff.mp (List.all_eq_true.mp hrest x (List.mem_of_getElem? hx))).1⟩

theorem resting_of_strict {s : St} (h : resting true s = true) : resting false s = true := by
  rw [resting, List.all_eq_true] at *
  intro x hx
  obtain ⟨hg, hu⟩ := Bool.and_eq_true_iff.mp (h x hx)
  refine Bool.and_eq_true_iff.mpr ⟨?_, hu⟩
  obtain ⟨k, c, g, u⟩ := x
  cases g with
  | start => cases hg
  | _ => exact hg

theorem Inv.only_tunnels {keys : List Nat} {s : St} (I : Inv keys s) {t : Nat} (ht : keys.length ≤ t) :
    t ∉ globalIds s ∧ ∀ p, t ∉ poolAt s.pools p := by
  have hl : s.tuns.length = keys.length := by rw [← I.keys_eq, List.length_map]
  rw [← hl] at ht
  constructor
  · intro h
    obtain ⟨k, h⟩ := mem_globalIds.mp h
    exact Nat.not_lt.mpr ht (I.glob_dom t k h)
  · exact fun p h => Nat.not_lt.mpr ht (I.pool_dom p t h)

theorem registry_only_tunnels (keys : List Nat) (as : List Act) {s : St}
    (hr : run true false (init keys) as = some s) {t : Nat} (ht : keys.length ≤ t) :
    t ∉ globalIds s ∧ ∀ p, t ∉ poolAt s.pools p :=
  (inv_reachable keys as hr).only_tunnels ht

theorem empty_of_all_done {keys : List Nat} {s : St} (I : Inv keys s)
    (h : ∀ x ∈ s.tuns, x.g = .done) : s.global = [] ∧ ∀ p, poolAt s.pools p = [] := by
  constructor
  · apply List.eq_nil_iff_forall_not_mem.mpr
    rintro ⟨t, k⟩ hm
    have hx := List.getElem?_eq_getElem (I.glob_dom t k hm)
    have := (I.tun t _ hx).glob_sound k hm
    rw [h _ (List.mem_of_getElem? hx)] at this
    cases this
  · intro p
    apply List.eq_nil_iff_forall_not_mem.mpr
    intro t hm
    have hx := List.getElem?_eq_getElem (I.pool_dom p t hm)
    have := (I.tun t _ hx).pool_sound p hm
    rw [h _ (List.mem_of_getElem? hx)] at this
    cases this

/-- When all channels are closed and all goroutines have returned, the global pool and
    every key pool are empty.  (It is enough that all the `G t` have returned.) -/
theorem Inv.nothing_left_behind {keys : List Nat} {s : St} (I : Inv keys s) (hover : allOver s = true) :
    s.global = [] ∧ (∀ l ∈ s.pools, l = []) ∧ ∀ k, keyPool s k = [] := by
  have hd : ∀ x ∈ s.tuns, x.g = .done := by
    intro x hx
    have := List.all_eq_true.mp hover x hx
    simp only [Tun.over, Bool.and_eq_true, beq_iff_eq] at this
    exact this.1.2
  obtain ⟨h1, h2⟩ := empty_of_all_done I hd
  refine ⟨h1, ?_, ?_⟩
  · intro l hl
    obtain ⟨p, hp⟩ := List.getElem?_of_mem hl
    have := h2 p
    rwa [poolAt, hp] at this
  · intro k
    unfold keyPool
    split
    · exact h2 _
    · rfl

/-- a goroutine of the tunnel holds pool pointer `p`: `G` past (2) and before (5), or `U` between (u2) and (u3) -/
def HoldsPool (x : Tun) (p : Nat) : Prop := x.g = .gotPool p ∨ x.g = .addedKey p ∨ x.u = .gotPool p

theorem holdsPool_registered {keys : List Nat} {s : St} (I : Inv keys s) {t : Nat} {x : Tun}
    (ht : s.tuns[t]? = some x) {p : Nat} (h : HoldsPool x p) :
    assoc x.key s.byKey = some p ∧ p < s.pools.length := by
  have T := I.tun t x ht
  have : assoc x.key s.byKey = some p := by
    rcases h with h | h | h
    · exact T.holds p (Or.inl h)
    · exact T.holds p (Or.inr h)
    · exact T.u_pool p h
  exact ⟨this, I.byKey_exists _ _ (assoc_mem this)⟩

/-- Two tunnels with the same key that both hold a pool (`G` past `getPool`, or `U`
    past its lookup) hold the same pool: the one registered under the key, which exists. -/
theorem Inv.one_pool_per_key {keys : List Nat} {s : St} (I : Inv keys s) {t t' : Nat} {x x' : Tun}
    (ht : s.tuns[t]? = some x) (ht' : s.tuns[t']? = some x') (hk : x.key = x'.key)
    {p p' : Nat} (hp : HoldsPool x p) (hp' : HoldsPool x' p') :
    p = p' ∧ assoc x.key s.byKey = some p ∧ p < s.pools.length := by
  have a := holdsPool_registered I ht hp
  have b := holdsPool_registered I ht' hp'
  rw [← hk, a.1] at b
  exact ⟨Option.some.inj b.1, a⟩

/-- `G t` is never stuck by itself: unless it is at rest (returned, or parked with the channel
    open) its next action is enabled -/
theorem progress_G {keys : List Nat} {s : St} (I : Inv keys s) {t : Nat} {x : Tun}
    (ht : s.tuns[t]? = some x) (h : x.gResting true = false) :
    ∃ a, a ∈ [Act.addGlobal t, .getPool t, .addKey t, .remKey t, .remGlobal t] ∧
      (step true false s a).isSome = true := by
  have T := I.tun t x ht
  obtain ⟨k, c, g, u⟩ := x
  cases g with
  | start => exact ⟨.addGlobal t, by simp, by dsimp only [step]; rw [ht]; rfl⟩
  | addedGlobal =>
    refine ⟨.getPool t, by simp, ?_⟩
    dsimp only [step]
    rw [ht, if_pos rfl]
    dsimp only
    cases assoc k s.byKey <;> rfl
  | missed => exact absurd rfl T.no_faulty.1
  | gotPool p => exact ⟨.addKey t, by simp, by dsimp only [step]; rw [ht]; rfl⟩
  | addedKey p =>
    have hc : c = true := by cases c <;> first | rfl | cases h
    subst hc
    exact ⟨.remKey t, by simp, by dsimp only [step]; rw [ht]; rfl⟩
  | removedKey => exact ⟨.remGlobal t, by simp, by dsimp only [step]; rw [ht]; rfl⟩
  | removedGlobal p => exact absurd rfl (T.no_faulty.2 p)
  | done => cases h

/-- `U t` is never stuck: once the channel is closed its next action is enabled until it has finished -/
theorem progress_U {s : St} {t : Nat} {x : Tun}
    (ht : s.tuns[t]? = some x) (h : x.uResting = false) :
    ∃ a, a ∈ [Act.uRemGlobal t, .uLookup t, .uRemKey t] ∧ (step true false s a).isSome = true := by
  obtain ⟨k, c, g, u⟩ := x
  have hc : c = true := by cases c <;> first | rfl | cases h
  subst hc
  cases u with
  | idle =>
    refine ⟨.uRemGlobal t, by simp, ?_⟩
    dsimp only [step]
    rw [ht]
    dsimp only
    cases assoc t s.global <;> rfl
  | gotKey k' =>
    refine ⟨.uLookup t, by simp, ?_⟩
    dsimp only [step]
    rw [ht]
    dsimp only
    cases assoc k' s.byKey <;> rfl
  | gotPool p => exact ⟨.uRemKey t, by simp, by dsimp only [step]; rw [ht]; rfl⟩
  | finished => cases h

/-- under `Inv`, if some `G t` or `U t` is not at rest (strict reading), some action is enabled -/
theorem Inv.progress {keys : List Nat} {s : St} (I : Inv keys s) (h : resting true s = false) :
    ∃ a, (step true false s a).isSome = true := by
  obtain ⟨x, hx, hn⟩ := List.all_eq_false.mp h
  obtain ⟨t, ht⟩ := List.getElem?_of_mem hx
  rcases Bool.and_eq_false_iff.mp (Bool.not_eq_true _ ▸ hn) with h | h
  · obtain ⟨a, _, he⟩ := progress_G I ht h
    exact ⟨a, he⟩
  · obtain ⟨a, _, he⟩ := progress_U ht h
    exact ⟨a, he⟩

/-- no reachable state of the correct model is stuck: while some `G t` is neither returned nor
    parked on an open channel, or some `U t` is mid-way, the scheduler has an enabled action -/
theorem progress (keys : List Nat) (as : List Act) {s : St}
    (hr : run true false (init keys) as = some s) (h : resting true s = false) :
    ∃ a, (step true false s a).isSome = true :=
  (inv_reachable keys as hr).progress h

/-- `progress` under the lenient reading of `resting` (a `G t` still in `start` counts as at rest) -/
theorem progress' (keys : List Nat) (as : List Act) {s : St}
    (hr : run true false (init keys) as = some s) (h : resting false s = false) :
    ∃ a, (step true false s a).isSome = true := by
  apply progress keys as hr
  cases h' : resting true s with
  | false => rfl
  | true => rw [resting_of_strict h'] at h; cases h

/-- a step of `G t` to a program counter of smaller rank lowers the rank of `t` (`h` by `rfl`) -/
theorem rank_lt_of_g {k : Nat} {c : Bool} {u : UPc} {g g' : GPc} (h : Nat.blt g'.rank g.rank = true) :
    Tun.rank ⟨k, c, g', u⟩ < Tun.rank ⟨k, c, g, u⟩ :=
  Nat.add_lt_add_right (Nat.add_lt_add_right (Nat.le_of_ble_eq_true h) _) _

theorem rank_lt_of_u {k : Nat} {c : Bool} {g : GPc} {u u' : UPc} (h : Nat.blt u'.rank u.rank = true) :
    Tun.rank ⟨k, c, g, u'⟩ < Tun.rank ⟨k, c, g, u⟩ :=
  Nat.add_lt_add_left (Nat.le_of_ble_eq_true h) _

/-- every action is an action of ONE tunnel: it replaces that tunnel's record by one of
    strictly smaller rank — in ALL variants of the model -/
theorem step_tuns {gd sg : Bool} {s s' : St} {a : Act} (hs : step gd sg s a = some s') :
    ∃ x x', s.tuns[a.tun]? = some x ∧ s'.tuns = s.tuns.set a.tun x' ∧ x'.rank < x.rank := by
  cases step_spec hs with
  | close ht => exact ⟨_, _, ht, rfl, Nat.add_lt_add_right (Nat.lt_succ_self _) _⟩
  | g ht h => cases h <;> exact ⟨_, _, ht, rfl, rank_lt_of_g rfl⟩
  | u ht h => cases h <;> exact ⟨_, _, ht, rfl, rank_lt_of_u rfl⟩

theorem total_eq (l : List Tun) : total l = (l.map Tun.rank).sum := by
  induction l with
  | nil => rfl
  | cons x r ih => rw [total, ih, List.map_cons, List.sum_cons]

theorem remaining_step {gd sg : Bool} {s s' : St} {a : Act} (hs : step gd sg s a = some s') :
    remaining s' < remaining s := by
  obtain ⟨x, x', hx, ht, hlt⟩ := step_tuns hs
  rw [remaining, remaining, ht, total_eq, total_eq]
  exact sum_map_set_lt Tun.rank hx hlt

theorem rankAt_step {gd sg : Bool} {s s' : St} {a : Act} (hs : step gd sg s a = some s') (t : Nat) :
    rankAt s' t ≤ rankAt s t ∧ (a.tun = t → rankAt s' t < rankAt s t) := by
  obtain ⟨x, x', hx, ht, hlt⟩ := step_tuns hs
  unfold rankAt
  rw [ht]
  by_cases e : a.tun = t
  · subst e
    rw [get_set_self hx, hx]
    exact ⟨Nat.le_of_lt hlt, fun _ => hlt⟩
  · rw [get_set_ne (Ne.symm e)]
    exact ⟨Nat.le_refl _, fun h => absurd h e⟩

theorem remaining_init (keys : List Nat) : remaining (init keys) = 10 * keys.length := by
  unfold remaining init
  induction keys with
  | nil => rfl
  | cons k r ih => rw [List.map_cons, total, ih, List.length_cons, Nat.mul_succ, Nat.add_comm]; rfl

theorem rankAt_init (keys : List Nat) (t : Nat) : rankAt (init keys) t ≤ 10 := by
  unfold rankAt init
  dsimp only
  rw [List.getElem?_map]
  cases keys[t]? with
  | none => exact Nat.zero_le _
  | some k => exact Nat.le_refl _

/-- Termination: `remaining` (the number of actions the tunnels can still perform)
    decreases with every action, so a schedule has at most `10 * n` actions … -/
theorem schedule_bounded {gd sg : Bool} (keys : List Nat) (as : List Act) {s : St}
    (hr : run gd sg (init keys) as = some s) : as.length + remaining s ≤ 10 * keys.length :=
  remaining_init keys ▸ (isRun gd sg).length_le (P := fun _ => True) (fun _ _ => trivial)
    (fun _ hs => remaining_step hs) trivial hr

/-- … and every tunnel contributes at most 10 of them (in all variants of the model; the
    correct model uses 9: `G` 5, `close`, `U` 3). -/
theorem tunnel_bounded {gd sg : Bool} (keys : List Nat) (as : List Act) {s : St}
    (hr : run gd sg (init keys) as = some s) (t : Nat) :
    (as.filter (fun a => a.tun == t)).length ≤ 10 := by
  have := (isRun gd sg).filter_length_le (m := (rankAt · t)) (fun a => a.tun == t)
    (fun hs hp => (rankAt_step hs t).2 (eq_of_beq hp)) (fun hs => (rankAt_step hs t).1) hr
  exact Nat.le_trans (Nat.le_of_add_right_le this) (rankAt_init keys t)

/-- a run that has used up `remaining` has come to an end: every goroutine has returned -/
theorem remaining_zero_over {s : St} (h : remaining s = 0) : ∀ x ∈ s.tuns, x.rank = 0 :=
  (sum_map_eq_zero Tun.rank).mp (total_eq s.tuns ▸ h)

/-- what the examples look at: strictly resting?, everything over?, who is open, global pool,
    the map, the pool heap -/
structure Obs where
  resting : Bool
  over : Bool
  isOpen : List Bool
  global : List (Nat × Nat)
  byKey : List (Nat × Nat)
  pools : List (List Nat)
  deriving DecidableEq, Repr

def obs (s : St) : Obs :=
  ⟨resting true s, allOver s, s.tuns.map Tun.isOpen, s.global, s.byKey, s.pools⟩

/-- a decidable property of the final state of a concrete run holds by evaluation -/
theorem exists_final {o : Option St} {P : St → Prop} [DecidablePred P]
    (h : o.map (fun s => decide (P s)) = some true) : ∃ s, o = some s ∧ P s := by
  cases o with
  | none => cases h
  | some s => exact ⟨s, rfl, of_decide_eq_true (Option.some.inj h)⟩

/-- the double-checked schedule: both tunnels (same key 7) peek before either creates -/
def doubleChecked : List Act :=
  [.addGlobal 0, .addGlobal 1, .peekPool 0, .peekPool 1, .createPool 0, .createPool 1, .addKey 0, .addKey 1]

/-- **`reverseChannelsForKey` must be ONE critical section.**  With the faulty double-checked
    lookup both tunnels create a pool; the second overwrites the map entry.  The run ends in a
    (strictly) resting state, both tunnels open and parked, both in the global pool — but the
    pool registered under their key 7 (pool 1) contains only tunnel 1; tunnel 0 sits in the
    orphaned pool 0, unreachable through `reverseByKey`, for as long as it lives. -/
theorem faulty_double_checked_orphans_a_pool :
    (run false false (init [7, 7]) doubleChecked).map (fun s => (obs s, keyPool s 7)) =
      some ((⟨true, false, [true, true], [(0, 7), (1, 7)], [(7, 1), (7, 0)], [[0], [1]]⟩ : Obs), [1]) := by
  decide +kernel

/-- … so `Inv.registry_exact_at_rest` fails for the faulty variant: a reachable resting state that is not exact -/
theorem faulty_double_checked_not_exact :
    ∃ s x, run false false (init [7, 7]) doubleChecked = some s ∧ resting true s = true ∧
      s.tuns[0]? = some x ∧ ¬ ExactAt s 0 x := by
  obtain ⟨s, hs, hrest, hx, hn⟩ := exists_final (o := run false false (init [7, 7]) doubleChecked)
    (P := fun s => resting true s = true ∧ s.tuns[0]? = some ⟨7, false, .addedKey 0, .idle⟩ ∧ 0 ∉ keyPool s 7)
    (by decide +kernel)
  exact ⟨s, _, hs, hrest, hx, fun h => hn (h.keyPool_iff.mpr rfl)⟩

/-- … and so does `Inv.one_pool_per_key`: same key, different pools -/
theorem faulty_double_checked_two_pools :
    (run false false (init [7, 7]) doubleChecked).map (fun s => s.tuns.map (fun x => (x.key, x.g))) =
      some [(7, .addedKey 0), (7, .addedKey 1)] := by
  decide +kernel

/-- the correct model on the analogous schedule (`getPool` for `peekPool`; the guarded model
    refuses `peekPool`/`createPool`): one pool, both tunnels in it -/
theorem guarded_same_schedule_exact :
    (run true false (init [7, 7])
        [.addGlobal 0, .addGlobal 1, .getPool 0, .getPool 1, .addKey 0, .addKey 1]).map
        (fun s => (obs s, keyPool s 7)) =
      some ((⟨true, false, [true, true], [(0, 7), (1, 7)], [(7, 0)], [[0, 1]]⟩ : Obs), [0, 1]) := by
  decide +kernel

example : run true false (init [7, 7]) [.addGlobal 0, .peekPool 0] = none := by decide +kernel
example : run true false (init [7, 7]) doubleChecked = none := by decide +kernel

/-- the channel closes between (1) `s.reverse.add` and (3) `rc.add`; `unregister` runs to its
    end in between (here it even finds no pool yet) -/
def closedInBetween (finish : List Act) : List Act :=
  [.addGlobal 0, .close 0, .uRemGlobal 0, .uLookup 0, .getPool 0, .addKey 0] ++ finish

/-- **The two deferred removes cannot be replaced by one `unregister`.**  `U` removes the
    tunnel from the global pool and finds it in no key pool; `G` then adds it to the key pool;
    the single deferred `unregister` finds nothing in the global pool and returns.  Everything
    is over (channel closed, both goroutines returned) and the dead tunnel is still in the pool
    of its key — for ever, and `reverseChannels.pick` would hand it out. -/
theorem faulty_single_unregister_leaves_entry :
    (run true true (init [7]) (closedInBetween [.sRemGlobal 0])).map (fun s => (obs s, keyPool s 7)) =
      some ((⟨true, true, [false], [], [(7, 0)], [[0]]⟩ : Obs), [0]) := by
  decide +kernel

/-- the same when the pool already exists and `unregister` does look into it (too early) -/
theorem faulty_single_unregister_leaves_entry' :
    (run true true (init [7])
        [.addGlobal 0, .getPool 0, .close 0, .uRemGlobal 0, .uLookup 0, .uRemKey 0, .addKey 0,
         .sRemGlobal 0]).map (fun s => (obs s, keyPool s 7)) =
      some ((⟨true, true, [false], [], [(7, 0)], [[0]]⟩ : Obs), [0]) := by
  decide +kernel

/-- … so `Inv.nothing_left_behind` fails for that variant -/
theorem faulty_single_unregister_not_empty :
    ∃ s, run true true (init [7]) (closedInBetween [.sRemGlobal 0]) = some s ∧ allOver s = true ∧
      ¬ (∀ l ∈ s.pools, l = []) :=
  exists_final (by decide +kernel)

/-- the correct model on the same schedule: the two deferred removes empty both pools -/
theorem two_removes_same_schedule_empty :
    (run true false (init [7]) (closedInBetween [.remKey 0, .remGlobal 0])).map (fun s => (obs s, keyPool s 7)) =
      some ((⟨true, true, [false], [], [(7, 0)], [[]]⟩ : Obs), []) := by
  decide +kernel

example : run true false (init [7]) (closedInBetween [.sRemGlobal 0]) = none := by decide +kernel

/-- **"At rest" cannot be dropped from `Inv.registry_exact_at_rest`.**  In the correct model, after
    `closedInBetween []` and before `G` has run its deferred removes, the closed tunnel is in the pool of its
    key and not in the global pool: the two levels disagree.  `G` is not at rest there (parked
    but closed); its next two actions repair it (`two_removes_same_schedule_empty`). -/
theorem transient_inexact :
    (run true false (init [7]) (closedInBetween [])).map (fun s => (obs s, globalIds s, keyPool s 7)) =
      some ((⟨false, false, [false], [], [(7, 0)], [[0]]⟩ : Obs), [], [0]) := by
  decide +kernel

/-! ### Non-vacuity -/

/-- three tunnels, 0 and 1 share key 7, tunnel 2 (key 9) is dead on arrival (closed and
    unregistered before `G 2` starts), tunnel 1 is closed while parked (its `unregister` and its
    deferred removes interleave), tunnel 0 stays open -/
def threeTunnels : List Act :=
  [.close 2, .addGlobal 0, .uRemGlobal 2, .addGlobal 1, .addGlobal 2, .getPool 1, .getPool 2, .getPool 0,
   .addKey 2, .addKey 1, .addKey 0, .remKey 2, .close 1, .uRemGlobal 1, .remGlobal 2, .uLookup 1, .remKey 1,
   .uRemKey 1, .remGlobal 1]

example :
    (run true false (init [7, 7, 9]) threeTunnels).map (fun s => (obs s, keyPool s 7, keyPool s 9)) =
      some ((⟨true, false, [true, false, false], [(0, 7)], [(9, 1), (7, 0)], [[0], []]⟩ : Obs), [0], []) := by
  decide +kernel

/-- the hypotheses of `Inv.registry_exact_at_rest` are satisfiable, and its conclusion says something there -/
example : ∃ s, run true false (init [7, 7, 9]) threeTunnels = some s ∧ resting true s = true ∧
    (0 ∈ globalIds s ∧ 0 ∈ keyPool s 7) ∧ (1 ∉ globalIds s ∧ 1 ∉ keyPool s 7) ∧
    (2 ∉ globalIds s ∧ 2 ∉ keyPool s 9) :=
  exists_final (by decide +kernel)

/-- while all three are open: everybody registered, the two pools hold `[1, 0]` and `[2]` -/
example :
    (run true false (init [7, 7, 9])
        [.addGlobal 0, .addGlobal 1, .addGlobal 2, .getPool 1, .getPool 2, .getPool 0,
         .addKey 2, .addKey 1, .addKey 0]).map (fun s => (obs s, keyPool s 7, keyPool s 9)) =
      some ((⟨true, false, [true, true, true], [(0, 7), (1, 7), (2, 9)], [(9, 1), (7, 0)], [[1, 0], [2]]⟩ : Obs),
            [1, 0], [2]) := by
  decide +kernel

/-- a full life of three tunnels: 25 actions (9 + 9 + 7: the `unregister` of the dead-on-arrival
    tunnel returns at once), everything empty at the end, nothing remains to be done -/
example :
    (run true false (init [7, 7, 9])
        (threeTunnels ++ [.close 0, .remKey 0, .uRemGlobal 0, .remGlobal 0, .uLookup 0, .uRemKey 0])).map
        (fun s => (obs s, remaining s)) =
      some ((⟨true, true, [false, false, false], [], [(9, 1), (7, 0)], [[], []]⟩ : Obs), 0) := by
  decide +kernel

/-- nobody can leave the parked state while the channel is open; nothing happens twice -/
example : run true false (init [7]) [.addGlobal 0, .getPool 0, .addKey 0, .remKey 0] = none := by decide +kernel
example : run true false (init [7]) [.close 0, .close 0] = none := by decide +kernel
example : run true false (init [7]) [.uRemGlobal 0] = none := by decide +kernel

end Proofs.RegAtomic
