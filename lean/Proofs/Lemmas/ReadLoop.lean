import TunnelModel.LFrame.Common
/-!
  `readLoop` (the `for` loop of `readMsgLocked`, shared by the client and the server
  stream) characterised once: it consumes a prefix of the queue, adds the sizes of that
  prefix to the window, always yields an outcome, and stops with `cont` only when the
  queue is exhausted.
-/
namespace Proofs.ReadLoop
open TunnelModel.LFrame TunnelModel.Framing

variable {α : Type}

abbrev bytes (q : List (DFrame α)) : Nat := (q.map DFrame.size).sum

theorem readLoop_spec (q : List (DFrame α)) : ∀ (w : Nat) (st : RState α),
    ∃ pre r, q = pre ++ (readLoop w q st).2.1 ∧ (readLoop w q st).1 = w + bytes pre ∧
      (readLoop w q st).2.2.2 = some r ∧ (∀ st', r = .cont st' → (readLoop w q st).2.1 = []) := by
  induction q with
  | nil => intro w st; exact ⟨[], .cont st, rfl, rfl, rfl, fun _ _ => rfl⟩
  | cons f q ih =>
    intro w st
    simp only [readLoop]
    cases hps : parseStep st f with
    | cont st1 =>
      obtain ⟨pre, r, hq, hw, hr, hc⟩ := ih (w + f.size) st1
      refine ⟨f :: pre, r, by rw [List.cons_append, ← hq], ?_, hr, hc⟩
      simp only [hw, bytes, List.map_cons, List.sum_cons, Nat.add_assoc]
    | msg m => exact ⟨[f], .msg m, rfl, by simp [bytes], rfl, fun _ h => by cases h⟩
    | err e => exact ⟨[f], .err e, rfl, by simp [bytes], rfl, fun _ h => by cases h⟩

theorem readLoop_eq {q q' : List (DFrame α)} {w w' : Nat} {st : RState α} {cr : List Nat}
    {out : Option (PStep α)} (h : readLoop w q st = (w', q', cr, out)) :
    ∃ pre r, q = pre ++ q' ∧ w' = w + bytes pre ∧ out = some r ∧ (∀ st', r = .cont st' → q' = []) := by
  have := readLoop_spec q w st
  rw [h] at this
  exact this

theorem readLoop_sum {q q' : List (DFrame α)} {w w' : Nat} {st : RState α} {cr : List Nat}
    {out : Option (PStep α)} (h : readLoop w q st = (w', q', cr, out)) :
    w' + bytes q' = w + bytes q := by
  obtain ⟨pre, _, hq, hw, _⟩ := readLoop_eq h
  subst hq hw
  simp only [bytes, List.map_append, List.sum_append]
  omega

end Proofs.ReadLoop
