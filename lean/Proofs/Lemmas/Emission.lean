import TunnelModel.LFrame.Trace
import Proofs.Lemmas.Framing
import Proofs.Lemmas.ClientOps
import Proofs.Lemmas.ServerOps
/-!
  C01 (data integrity), emission half, and the message-framing / chunk-bound clauses of C13 and
  C06, for both endpoints' stream objects: the data frames a stream puts on the wire are, in order,
  the chunkings of the messages its application submitted: one envelope frame stating the total
  size followed by continuation frames that add up exactly to that size, contiguous, nothing else.

  Formally: reassembling (`parse none`) everything emitted never hits an error and yields a prefix
  of the submitted messages.  The `_full` forms add what the reader may still hold (`Tail`: a send
  blocked on the window, or aborted by cancellation) and that everything was emitted if no send is
  pending or has failed.  On the client the message refused by the call-shape guard is counted in
  `CEv.submitted` but is necessarily the last one (the refusal is a failed send), so the prefix
  statement is unaffected.  The chunk-bound and first-frame statements hold of any run from any
  state, no legality needed.

  The server statements have two hypotheses more than the client ones (`sReplyIsLast`,
  `s0.finishAfterSend = false`); without either they are false (`cex1_facts`, `cex2_facts`).

  `Progress` says what a burst of frames does to a send in progress in terms of the reader (from
  `pumpFuel_parse`); `Inv ps dead E S` is the run invariant.  Per endpoint, every event that does
  not run the sending loop is `CQuiet`/`SQuiet` (one fold over `ClientOps.Op false` /
  `ServerOps.Step false`), `pumpSend` is a `Burst`, and a window update, `SendMsg` and the unary
  reply are read off their equations.
-/

namespace Proofs.Emission
open TunnelModel.LFrame TunnelModel.Framing Proofs.Framing

variable {α : Type}

theorem parse_nil (st : RState α) : parse st [] = ([], .ok st) := rfl

def Good (cm : Nat) (f : DFrame α) : Prop := f ≠ .other ∧ f.size ≤ cm

theorem emitChunk_good (cm k : Nat) (s : Snd α) (hk : k ≤ cm) : Good cm (emitChunk k s).1 := by
  have hl : (s.rem.take k).length ≤ cm := Nat.le_trans (List.length_take_le k s.rem) hk
  rw [emitChunk_eq]
  dsimp only
  split
  · exact ⟨nofun, hl⟩
  · exact ⟨nofun, hl⟩

theorem pumpFuel_good (cm : Nat) : ∀ (fuel win : Nat) (s : Snd α),
    ∀ f ∈ (pumpFuel cm fuel win s).1, Good cm f := by
  intro fuel
  induction fuel with
  | zero => intro win s f hf; cases hf
  | succ fuel ih =>
    intro win s f hf
    by_cases hw : win = 0
    · rw [pumpFuel, if_pos hw] at hf; cases hf
    · rw [pumpFuel_succ cm fuel win s hw _ rfl] at hf
      have hg := emitChunk_good cm (chunkSz cm win s.rem.length) s (Nat.min_le_right _ _)
      split at hf
      · rw [List.mem_singleton.mp hf]; exact hg
      · rcases List.mem_cons.mp hf with rfl | hf
        · exact hg
        · exact ih _ _ f hf

theorem sendAllFuel_good (cm : Nat) : ∀ (fuel : Nat) (s : Snd α),
    ∀ f ∈ sendAllFuel cm fuel s, Good cm f := by
  intro fuel s
  rw [sendAllFuel_eq_pumpFuel]
  exact pumpFuel_good cm fuel _ s

def StartsWithEnv (n : Nat) (fs : List (DFrame α)) : Prop :=
  fs = [] ∨ ∃ d rest, fs = .env n d :: rest

theorem pumpFuel_start (cm fuel win : Nat) (s : Snd α) (h : s.first = true) :
    StartsWithEnv s.total (pumpFuel cm fuel win s).1 := by
  cases fuel with
  | zero => exact Or.inl rfl
  | succ fuel =>
    by_cases hw : win = 0
    · rw [pumpFuel, if_pos hw]; exact Or.inl rfl
    · rw [pumpFuel_succ cm fuel win s hw _ rfl, emitChunk_eq, h]
      split
      · exact Or.inr ⟨_, _, rfl⟩
      · exact Or.inr ⟨_, _, rfl⟩

def envSizes : List (DFrame α) → List Nat
  | [] => []
  | .env n _ :: fs => n :: envSizes fs
  | _ :: fs => envSizes fs

def pendSize : RState α → List Nat
  | none => []
  | some (n, _) => [n]

theorem envSizes_cons (f : DFrame α) (fs : List (DFrame α)) :
    envSizes (f :: fs) = envSizes [f] ++ envSizes fs := by
  cases f <;> rfl

theorem parse_envSizes : ∀ (fs : List (DFrame α)) (st st' : RState α) (ms : List (List α)),
    parse st fs = (ms, .ok st') →
    pendSize st ++ envSizes fs = ms.map List.length ++ pendSize st' := by
  intro fs
  induction fs with
  | nil => intro st st' ms h; cases h; exact List.append_nil _
  | cons f fs ih =>
    intro st st' ms h
    rw [envSizes_cons, ← List.append_assoc]
    rw [parse_cons] at h
    cases hs : parseStep st f with
    | cont st1 =>
      rw [hs] at h
      have : pendSize st ++ envSizes [f] = pendSize st1 := by
        rcases parseStep_eq_cont_iff.mp hs with ⟨n, d, rfl, rfl, _, rfl⟩ | ⟨n, b, d, rfl, rfl, _, rfl⟩ <;> rfl
      rw [this]
      exact ih st1 st' ms h
    | msg m =>
      rw [hs] at h
      obtain ⟨rfl, h2⟩ := Prod.mk.inj h
      have : pendSize st ++ envSizes [f] = [m.length] := by
        rcases parseStep_eq_msg_iff.mp hs with ⟨rfl, rfl⟩ | ⟨b, d, rfl, rfl, rfl⟩ <;> rfl
      rw [this, List.map_cons, List.cons_append]
      exact congrArg (m.length :: ·) (ih none st' _ (Prod.ext rfl h2))
    | err e => rw [hs] at h; cases h

theorem filterMap_tagged {β : Type} (sid : Sid) (wire : DFrame α → β) (data : β → Option (DFrame α))
    (hw : ∀ f, f ≠ .other → data (wire f) = some f) (fs : List (DFrame α)) (h : ∀ f ∈ fs, f ≠ .other) :
    (fs.map (fun f => (sid, wire f))).filterMap (fun f => data f.2) = fs := by
  induction fs with
  | nil => rfl
  | cons f fs ih =>
    rw [List.map_cons, List.filterMap_cons_some (f := fun x : Sid × β => data x.2) (a := (sid, wire f))
        (hw f (h f List.mem_cons_self)),
      ih (fun g hg => h g (List.mem_cons_of_mem _ hg))]

def cdata (o : COut α) : List (DFrame α) := o.frames.filterMap (fun f => dataOfC2S f.2)

@[simp] theorem cdata_empty : cdata ({} : COut α) = [] := rfl

theorem cdata_add (a b : COut α) : cdata (a.add b) = cdata a ++ cdata b := List.filterMap_append ..

theorem cdata_frames_nil (o : COut α) (h : o.frames = []) : cdata o = [] := by rw [cdata, h]; rfl

theorem dataOfC2S_wire : ∀ (f : DFrame α), f ≠ .other → dataOfC2S (dframeToC2S f) = some f
  | .env _ _, _ => rfl
  | .more _, _ => rfl
  | .other, hf => absurd rfl hf

theorem c_credit_data (sid : Sid) (c : Bool) (credits : List Nat) :
    (if c then credits.map (fun n => (sid, (C2S.windowUpdate n : C2S α))) else []).filterMap
      (fun f => dataOfC2S f.2) = [] := by
  cases c
  · rfl
  · exact List.filterMap_eq_nil_iff.mpr (fun f hf => by
      obtain ⟨n, _, rfl⟩ := List.mem_map.mp hf
      rfl)

theorem sendFailedIn_append (a b : List (Sid × String × Res α)) :
    sendFailedIn (a ++ b) = (sendFailedIn a || sendFailedIn b) := List.any_append

theorem c_failed_add (a b : COut α) :
    sendFailedIn (a.add b).dones = (sendFailedIn a.dones || sendFailedIn b.dones) := sendFailedIn_append ..

/-- what the reader may still hold after all complete messages `ms`: nothing,
    or a proper prefix `pre` of the next submitted message `m`, bound to
    `m.length` by its envelope -/
def Tail (ms : List (List α)) (st : RState α) (S : List (List α)) : Prop :=
  (st = none ∧ ms <+: S) ∨
  ∃ m pre, st = some (m.length, pre) ∧ pre <+: m ∧ pre.length < m.length ∧ ms ++ [m] <+: S

theorem Tail.prefix {ms : List (List α)} {st : RState α} {S : List (List α)} (h : Tail ms st S) : ms <+: S := by
  rcases h with ⟨_, h⟩ | ⟨m, pre, _, _, _, h⟩
  · exact h
  · exact (List.prefix_append ms [m]).trans h

theorem Tail.mono {ms : List (List α)} {st : RState α} {S S' : List (List α)} (h : Tail ms st S)
    (hs : S <+: S') : Tail ms st S' := by
  rcases h with ⟨h1, h⟩ | ⟨m, pre, h1, h2, h3, h⟩
  · exact Or.inl ⟨h1, h.trans hs⟩
  · exact Or.inr ⟨m, pre, h1, h2, h3, h.trans hs⟩

theorem tail_of_linked (ms : List (List α)) (m : List α) (snd : Snd α) (st : RState α)
    (h : Linked m snd st) : Tail ms st (ms ++ [m]) := by
  obtain ⟨_, h⟩ := h
  rcases h with ⟨_, _, hst⟩ | ⟨_, hne, pre, hpre, hst⟩
  · exact Or.inl ⟨hst, List.prefix_append ms [m]⟩
  · refine Or.inr ⟨m, pre, hst, ⟨_, hpre⟩, ?_, List.prefix_refl _⟩
    have := List.length_pos_iff.mpr hne
    rw [← hpre, List.length_append]; omega

/-- what one step does to a send in progress (sender state `snd`) in terms of
    the reader: the data frames `data` either complete the message, or leave
    the reader linked to a new sender state, which is either still pending
    (`ps' = some snd'`) or was dropped with a failure reported -/
def Progress (snd : Snd α) (data : List (DFrame α)) (ps' : Option (Snd α)) (failedNow : Bool) : Prop :=
  ∀ m st, Linked m snd st →
    (parse st data = ([m], .ok none) ∧ ps' = none) ∨
    (∃ st' snd', parse st data = ([], .ok st') ∧ Linked m snd' st' ∧
      (ps' = some snd' ∨ (ps' = none ∧ failedNow = true)))

theorem Progress.nil (snd : Snd α) {ps' : Option (Snd α)} {f : Bool}
    (h : ps' = some snd ∨ (ps' = none ∧ f = true)) : Progress snd [] ps' f :=
  fun _ st hl => Or.inr ⟨st, snd, rfl, hl, h⟩

theorem Progress.mono {snd : Snd α} {data : List (DFrame α)} {ps' : Option (Snd α)} {f f' : Bool}
    (h : Progress snd data ps' f) (hf : f = true → f' = true) : Progress snd data ps' f' := by
  intro m st hl
  rcases h m st hl with h | ⟨st', snd', h1, h2, h3⟩
  · exact Or.inl h
  · refine Or.inr ⟨st', snd', h1, h2, ?_⟩
    rcases h3 with h3 | ⟨h3, h4⟩
    · exact Or.inl h3
    · exact Or.inr ⟨h3, hf h4⟩

/-- what a burst of the sending loop for the send `snd` puts on the wire (`data`), and where it leaves the
    send (`ps'`, `failed`) -/
structure Burst (cm : Nat) (snd : Snd α) (data : List (DFrame α)) (ps' : Option (Snd α)) (failed : Bool) :
    Prop where
  prog : Progress snd data ps' failed
  good : ∀ f ∈ data, Good cm f
  start : snd.first = true → StartsWithEnv snd.total data

/-- the caller drops a send the window has stopped only with a failure -/
theorem pumpFuel_burst (cm fuel win : Nat) (snd : Snd α) (ps' : Option (Snd α)) (f : Bool)
    (h : match (pumpFuel cm fuel win snd).2.2 with
         | none => ps' = none
         | some snd' => ps' = some snd' ∨ (ps' = none ∧ f = true)) :
    Burst cm snd (pumpFuel cm fuel win snd).1 ps' f := by
  refine ⟨fun m st hl => ?_, pumpFuel_good cm fuel win snd, pumpFuel_start cm fuel win snd⟩
  have hp := pumpFuel_parse cm m fuel win snd st hl
  generalize pumpFuel cm fuel win snd = r at hp h ⊢
  rcases r with ⟨fs, w, _ | snd'⟩
  · exact Or.inl ⟨hp, h⟩
  · obtain ⟨st', h1, h2⟩ := hp
    exact Or.inr ⟨st', snd', h1, h2, h⟩

theorem sendAll_burst (cm : Nat) (hcm : 0 < cm) (snd : Snd α) (f : Bool) :
    Burst cm snd (sendAllFuel cm (snd.rem.length + 1) snd) none f := by
  rw [sendAllFuel_eq_pumpFuel]
  refine pumpFuel_burst cm _ _ snd none f ?_
  rw [pumpFuel_completes cm hcm _ _ snd (Nat.lt_succ_self _) (Nat.lt_succ_self _)]

theorem Burst.mono {cm : Nat} {snd : Snd α} {data : List (DFrame α)} {ps' : Option (Snd α)} {f f' : Bool}
    (h : Burst cm snd data ps' f) (hf : f = true → f' = true) : Burst cm snd data ps' f' :=
  ⟨h.prog.mono hf, h.good, h.start⟩

theorem Burst.tagged {β : Type} {cm : Nat} {snd : Snd α} {fs : List (DFrame α)} {ps' : Option (Snd α)} {fl : Bool}
    (h : Burst cm snd fs ps' fl) (sid : Sid) {wire : DFrame α → β} {data : β → Option (DFrame α)}
    (hw : ∀ f, f ≠ .other → data (wire f) = some f) :
    Burst cm snd ((fs.map (fun f => (sid, wire f))).filterMap (fun f => data f.2)) ps' fl := by
  rw [filterMap_tagged sid wire data hw fs (fun f hf => (h.good f hf).1)]
  exact h

/-- the contract of a step that starts no new send: the pending send before (`ps`) and after (`ps'`), the
    data frames, and whether the step counts as a failed send -/
structure ResumeSpec (cm : Nat) (ps ps' : Option (Snd α)) (data : List (DFrame α)) (failed : Bool) : Prop where
  idle : ps = none → ps' = none ∧ data = []
  prog : ∀ snd, ps = some snd → Progress snd data ps' failed
  bound : ∀ f ∈ data, f.size ≤ cm

theorem ResumeSpec.of_quiet {cm : Nat} {ps ps' : Option (Snd α)} {data : List (DFrame α)} {failed : Bool}
    (hd : data = []) (hp : ps' = ps ∨ (ps' = none ∧ failed = true)) : ResumeSpec cm ps ps' data failed := by
  subst hd
  refine ⟨fun hn => ⟨?_, rfl⟩, fun snd hs => ?_, nofun⟩
  · exact hp.elim (·.trans hn) (·.1)
  · exact .nil snd (hp.imp (·.trans hs) id)

theorem ResumeSpec.of_burst {cm : Nat} {ps ps' : Option (Snd α)} {snd : Snd α} {data : List (DFrame α)}
    {failed : Bool} (hps : ps = some snd) (h : Burst cm snd data ps' failed) : ResumeSpec cm ps ps' data failed := by
  subst hps
  exact ⟨nofun, fun _ hs => Option.some.inj hs ▸ h.prog, fun f hf => (h.good f hf).2⟩

/-- the contract of a `SendMsg(m)` step: from no pending send it is a `Progress` of `Snd.start m`; chunks within
    `cm`; the first data frame, if any, is the envelope stating `m.length` -/
structure SendSpec (cm : Nat) (m : List α) (ps ps' : Option (Snd α)) (data : List (DFrame α)) (failed : Bool) :
    Prop where
  prog : ps = none → Progress (Snd.start m) data ps' failed
  bound : ∀ f ∈ data, f.size ≤ cm
  start : StartsWithEnv m.length data

theorem SendSpec.of_burst {cm : Nat} {m : List α} {ps ps' : Option (Snd α)} {data : List (DFrame α)}
    {failed : Bool} (h : Burst cm (Snd.start m) data ps' failed) : SendSpec cm m ps ps' data failed :=
  ⟨fun _ => h.prog, fun f hf => (h.good f hf).2, h.start rfl⟩

theorem SendSpec.refused (cm : Nat) (m : List α) (ps : Option (Snd α)) : SendSpec cm m ps ps [] true :=
  ⟨fun hps => .nil _ (.inr ⟨hps, rfl⟩), nofun, Or.inl rfl⟩

/-- the invariant of a run: `ps` the pending send, `dead` = a send has failed
    (or, on the server, the unary reply was issued), `E` the data frames
    emitted so far, `S` the messages submitted so far -/
structure Inv (ps : Option (Snd α)) (dead : Bool) (E : List (DFrame α)) (S : List (List α)) : Prop where
  idle : ps = none → dead = false → parse none E = (S, .ok none)
  dead : ps = none → dead = true → ∃ ms st, parse none E = (ms, .ok st) ∧ Tail ms st S
  busy : ∀ snd, ps = some snd → ∃ ms m st, S = ms ++ [m] ∧ parse none E = (ms, .ok st) ∧ Linked m snd st

theorem Inv.init : Inv (none : Option (Snd α)) false [] [] :=
  ⟨fun _ _ => rfl, fun _ h => (by cases h), fun _ h => (by cases h)⟩

theorem Inv.other {ps ps' : Option (Snd α)} {dead dead' f : Bool} {E data : List (DFrame α)}
    {S : List (List α)} (h : Inv ps dead E S)
    (hidle : ps = none → ps' = none ∧ data = [])
    (hprog : ∀ snd, ps = some snd → Progress snd data ps' f)
    (hd1 : dead = true → dead' = true) (hd2 : f = true → dead' = true) :
    Inv ps' dead' (E ++ data) S := by
  cases hps : ps with
  | none =>
    obtain ⟨h1, h2⟩ := hidle hps
    rw [h2, List.append_nil, h1]
    refine ⟨fun _ hdd => ?_, fun _ _ => ?_, fun snd hs => by cases hs⟩
    · cases hdead : dead with
      | false => exact h.idle hps hdead
      | true => rw [hd1 hdead] at hdd; cases hdd
    · cases hdead : dead with
      | false => exact ⟨_, _, h.idle hps hdead, Or.inl ⟨rfl, List.prefix_refl _⟩⟩
      | true => exact h.dead hps hdead
  | some snd =>
    obtain ⟨ms, m, st, hS, hpE, hl⟩ := h.busy snd hps
    have hpa := parse_append_ok hpE data
    rcases hprog snd hps m st hl with ⟨h1, h2⟩ | ⟨st', snd', h1, hl', h2⟩
    · rw [h1, ← hS] at hpa
      rw [h2]
      exact ⟨fun _ _ => hpa, fun _ _ => ⟨_, _, hpa, Or.inl ⟨rfl, List.prefix_refl _⟩⟩,
        fun snd hs => by cases hs⟩
    · rw [h1, List.append_nil] at hpa
      refine ⟨fun hn hdd => ?_, fun _ _ => ⟨_, _, hpa, hS ▸ tail_of_linked ms m snd' st' hl'⟩,
        fun snd2 hs => ?_⟩
      · rcases h2 with h2 | ⟨_, h2⟩
        · rw [h2] at hn; cases hn
        · rw [hd2 h2] at hdd; cases hdd
      · rcases h2 with h2 | ⟨h2, _⟩
        · rw [h2] at hs; cases hs; exact ⟨ms, m, st', hS, hpa, hl'⟩
        · rw [h2] at hs; cases hs

/-- a send is issued in the idle state: the message is submitted, then the step acts on it as on a pending
    send -/
theorem Inv.send {E : List (DFrame α)} {S : List (List α)} {m : List α} {data : List (DFrame α)}
    {ps' : Option (Snd α)} {f dead' : Bool}
    (h : parse none E = (S, .ok none)) (hp : Progress (Snd.start m) data ps' f)
    (hd : f = true → dead' = true) : Inv ps' dead' (E ++ data) (S ++ [m]) :=
  Inv.other (ps := some (Snd.start m)) (dead := false)
    ⟨nofun, nofun, fun _ hs => Option.some.inj hs ▸ ⟨S, m, none, rfl, h, linked_start m⟩⟩
    nofun (fun _ hs => Option.some.inj hs ▸ hp) nofun hd

theorem Inv.result {ps : Option (Snd α)} {dead : Bool} {E : List (DFrame α)} {S : List (List α)}
    (h : Inv ps dead E S) :
    ∃ ms st, parse none E = (ms, .ok st) ∧ Tail ms st S ∧
      (ps = none → dead = false → ms = S ∧ st = none) := by
  cases hps : ps with
  | none =>
    cases hd : dead with
    | false =>
      exact ⟨S, none, h.idle hps hd, Or.inl ⟨rfl, List.prefix_refl _⟩, fun _ _ => ⟨rfl, rfl⟩⟩
    | true =>
      obtain ⟨ms, st, h1, h2⟩ := h.dead hps hd
      exact ⟨ms, st, h1, h2, fun _ hh => by cases hh⟩
  | some snd =>
    obtain ⟨ms, m, st, hS, hpE, hl⟩ := h.busy snd hps
    exact ⟨ms, st, hpE, hS ▸ tail_of_linked ms m snd st hl, fun hh => by cases hh⟩

theorem envSizes_of_tail (E : List (DFrame α)) (ms : List (List α)) (st : RState α) (S : List (List α))
    (hp : parse none E = (ms, .ok st)) (ht : Tail ms st S) :
    envSizes E <+: S.map List.length := by
  have h : envSizes E = ms.map List.length ++ pendSize st := parse_envSizes E none st ms hp
  rw [h]
  rcases ht with ⟨rfl, hpre⟩ | ⟨m, pre, rfl, _, _, hpre⟩
  · rw [show pendSize (none : RState α) = [] from rfl, List.append_nil]
    exact hpre.map _
  · have := hpre.map List.length
    rwa [List.map_append] at this

theorem run_getElem {σ ε ω : Type} {step : σ → ε → σ × ω} {run : σ → List ε → σ × List ω}
    (hcons : ∀ s e es, run s (e :: es) = ((run (step s e).1 es).1, (step s e).2 :: (run (step s e).1 es).2))
    (hnil : ∀ s, run s [] = (s, [])) (e : ε) (post : List ε) : ∀ (pre : List ε) (s : σ),
    (run s (pre ++ e :: post)).2[pre.length]? = some (step (run s pre).1 e).2 := by
  intro pre
  induction pre with
  | nil => intro s; rw [List.nil_append, hcons, hnil]; rfl
  | cons p pre ih => intro s; rw [List.cons_append, hcons, hcons]; exact ih _

/-- a step that emits no data frame and either leaves the pending send alone or aborts it, reporting a
    failed send -/
def CQuiet (s s' : CStream α) (o : COut α) : Prop :=
  cdata o = [] ∧ (s'.psend = s.psend ∨ (s'.psend = none ∧ sendFailedIn o.dones = true))

theorem CQuiet.refl (s : CStream α) : CQuiet s s {} := ⟨rfl, Or.inl rfl⟩

theorem CQuiet.of_eq {s s' : CStream α} {o : COut α} (hp : s'.psend = s.psend) (hd : cdata o = []) :
    CQuiet s s' o := ⟨hd, Or.inl hp⟩

theorem CQuiet.trans {s s1 s2 : CStream α} {o1 o2 : COut α} (h1 : CQuiet s s1 o1) (h2 : CQuiet s1 s2 o2) :
    CQuiet s s2 (o1.add o2) := by
  refine ⟨by rw [cdata_add, h1.1, h2.1]; rfl, ?_⟩
  rw [c_failed_add]
  rcases h2.2 with h | ⟨h, hf⟩
  · rcases h1.2 with h' | ⟨h', hf'⟩
    · exact Or.inl (h.trans h')
    · exact Or.inr ⟨h.trans h', by rw [hf']; rfl⟩
  · exact Or.inr ⟨h, by rw [hf, Bool.or_true]⟩

open ClientOps in
theorem CQuiet.of_tear {sid : Sid} {s s' : CStream α} {o : COut α} (h : Chain (TAtom sid) s s' o) :
    CQuiet s s' o := by
  refine Chain.fold CQuiet.refl CQuiet.trans (fun {s s' o} h => ?_) h
  cases h with
  | ctxEnds e hc =>
    refine ⟨rfl, ?_⟩
    cases hps : s.psend with
    | none => exact Or.inl rfl
    | some snd => exact Or.inr ⟨rfl, rfl⟩
  | finPre err tr hd => exact .of_eq rfl rfl
  | cancelTail hd => exact .of_eq rfl rfl
  | read hr =>
    obtain ⟨p, w, q, cr, out, p', r', _, _, rfl, hf, _⟩ := hr.shape
    exact .of_eq rfl (by rw [cdata, hf]; exact c_credit_data sid _ cr)

theorem c_pumpSend_burst (cfg : CCfg) (hcm : 0 < cfg.chunkMax) (sid : Sid) (s : CStream α) (snd : Snd α) :
    Burst cfg.chunkMax snd (cdata (s.pumpSend cfg sid snd).2) (s.pumpSend cfg sid snd).1.psend
      (sendFailedIn (s.pumpSend cfg sid snd).2.dones) := by
  unfold CStream.pumpSend pump
  have hb := pumpFuel_burst cfg.chunkMax (snd.rem.length + 1) s.win snd
  split
  · generalize pumpFuel cfg.chunkMax (snd.rem.length + 1) s.win snd = r at hb ⊢
    rcases r with ⟨fs, w, _ | snd'⟩
    · exact (hb none _ rfl).tagged sid dataOfC2S_wire
    · dsimp only
      split
      · exact (hb none _ (Or.inr ⟨rfl, rfl⟩)).tagged sid dataOfC2S_wire
      · exact (hb (some snd') _ (Or.inl rfl)).tagged sid dataOfC2S_wire
  · exact (sendAll_burst cfg.chunkMax hcm snd _).tagged sid dataOfC2S_wire

open ClientOps in
theorem c_stepEv_quiet (cfg : CCfg) (sid : Sid) (s : CStream α) (ev : CEv α) (hev : evPumps ev = false) :
    CQuiet s (s.stepEv cfg sid ev).1 (s.stepEv cfg sid ev).2 := by
  refine Chain.fold CQuiet.refl CQuiet.trans (fun {s s' o} h => ?_)
    (stepEv_ops (pumps := false) cfg sid s ev (fun h => by rw [hev] at h; cases h))
  cases h with
  | finish err tr => exact .of_tear (finish_chain sid _ _ _)
  | ctx e => exact .of_tear (ctxCancelled_chain sid _ _)
  | @read _ s₁ hp =>
    have h := CQuiet.of_tear (afterRead_chain id _ ((resumeRead_chain sid 3 s₁).mono .read))
    cases hp <;> exact ⟨h.1, h.2⟩
  | sent hpump => cases hpump
  | upd h => cases h <;> exact .of_eq rfl rfl
  | completes h => exact .of_eq rfl rfl

def CResume (cm : Nat) (s : CStream α) (r : CStream α × COut α) : Prop :=
  ResumeSpec cm s.psend r.1.psend (cdata r.2) (sendFailedIn r.2.dones)

theorem c_resume_step (cfg : CCfg) (hcm : 0 < cfg.chunkMax) (sid : Sid) (s : CStream α) (n : Nat) :
    CResume cfg.chunkMax s (s.onFrame cfg sid (.windowUpdate n)) := by
  rw [ClientOps.onFrame_windowUpdate_eq]
  split
  · exact .of_quiet rfl (.inl rfl)
  · split
    · exact .of_quiet rfl (.inl rfl)
    · next snd hps =>
      exact .of_burst hps (c_pumpSend_burst cfg hcm sid ({ s with win := wrap32c (s.win + n) } : CStream α) snd)

theorem c_send_spec (cfg : CCfg) (hcm : 0 < cfg.chunkMax) (sid : Sid) (s : CStream α) (m : List α) :
    SendSpec cfg.chunkMax m s.psend (s.onCall cfg sid (.send m)).1.psend (cdata (s.onCall cfg sid (.send m)).2)
      (sendFailedIn (s.onCall cfg sid (.send m)).2.dones) := by
  rw [ClientOps.onCall_send]
  split
  · exact .refused _ m s.psend
  · exact .of_burst (c_pumpSend_burst cfg hcm sid ({ s with numSent := s.numSent + 1 } : CStream α) (Snd.start m))

def csub : CEv α → List (List α)
  | .call (.send m) => [m]
  | _ => []

/-- is the event a `SendMsg`? (as in `CStream.legalSends`) -/
def cIsSend : CEv α → Bool
  | .call (.send _) => true
  | _ => false

def cAnyFailed (outs : List (COut α)) : Bool := outs.any (fun o => sendFailedIn o.dones)

theorem c_submitted_cons (e : CEv α) (es : List (CEv α)) :
    CEv.submitted (e :: es) = csub e ++ CEv.submitted es := by
  rcases e with f | (m | _ | _ | _ | _ | _) | e <;> rfl

theorem c_legalSends_cons (cfg : CCfg) (sid : Sid) (s : CStream α) (failed : Bool) (e : CEv α)
    (es : List (CEv α)) :
    CStream.legalSends cfg sid s failed (e :: es) =
      ((!cIsSend e || (s.psend.isNone && !failed)) &&
        CStream.legalSends cfg sid (s.stepEv cfg sid e).1
          (failed || sendFailedIn (s.stepEv cfg sid e).2.dones) es) := by
  rcases e with f | (m | _ | _ | _ | _ | _) | e <;> rfl

theorem c_stepEv_cases (cfg : CCfg) (hcm : 0 < cfg.chunkMax) (sid : Sid) (s : CStream α) (e : CEv α) :
    (∃ m, e = .call (.send m)) ∨
    (cIsSend e = false ∧ csub e = [] ∧ CResume cfg.chunkMax s (s.stepEv cfg sid e)) := by
  have quiet : ∀ e, ClientOps.evPumps e = false → CResume cfg.chunkMax s (s.stepEv cfg sid e) :=
    fun e he => .of_quiet (c_stepEv_quiet cfg sid s e he).1 (c_stepEv_quiet cfg sid s e he).2
  rcases e with f | (m | _ | _ | _ | _ | _) | e
  · cases f
    case windowUpdate n => exact .inr ⟨rfl, rfl, c_resume_step cfg hcm sid s n⟩
    all_goals exact .inr ⟨rfl, rfl, quiet _ rfl⟩
  · exact .inl ⟨m, rfl⟩
  all_goals exact .inr ⟨rfl, rfl, quiet _ rfl⟩

theorem c_step_inv (cfg : CCfg) (hcm : 0 < cfg.chunkMax) (sid : Sid) (s : CStream α) (failed : Bool)
    (E : List (DFrame α)) (S : List (List α)) (e : CEv α) (h : Inv s.psend failed E S)
    (hok : cIsSend e = true → s.psend = none ∧ failed = false) :
    Inv (s.stepEv cfg sid e).1.psend (failed || sendFailedIn (s.stepEv cfg sid e).2.dones)
      (E ++ cdata (s.stepEv cfg sid e).2) (S ++ csub e) := by
  rcases c_stepEv_cases cfg hcm sid s e with ⟨m, rfl⟩ | ⟨_, hsub, hs⟩
  · obtain ⟨hps, hf⟩ := hok rfl
    exact Inv.send (h.idle hps hf) ((c_send_spec cfg hcm sid s m).prog hps) (fun hh => by
      show (failed || sendFailedIn (s.onCall cfg sid (.send m)).2.dones) = true
      rw [hh, Bool.or_true])
  · rw [hsub, List.append_nil]
    exact Inv.other h hs.idle hs.prog (fun hf => by rw [hf]; rfl) (fun hf => by rw [hf, Bool.or_true])

theorem c_run_inv (cfg : CCfg) (hcm : 0 < cfg.chunkMax) (sid : Sid) : ∀ (evs : List (CEv α))
    (s : CStream α) (failed : Bool) (E : List (DFrame α)) (S : List (List α)),
    Inv s.psend failed E S → CStream.legalSends cfg sid s failed evs = true →
    Inv (CStream.runEv cfg sid s evs).1.psend (failed || cAnyFailed (CStream.runEv cfg sid s evs).2)
      (E ++ COut.emittedData (CStream.runEv cfg sid s evs).2) (S ++ CEv.submitted evs) := by
  intro evs
  induction evs with
  | nil =>
    intro s failed E S h _
    show Inv s.psend (failed || false) (E ++ []) (S ++ [])
    rw [Bool.or_false, List.append_nil, List.append_nil]
    exact h
  | cons e es ih =>
    intro s failed E S h hl
    rw [c_legalSends_cons, Bool.and_eq_true] at hl
    have hstep := c_step_inv cfg hcm sid s failed E S e h (fun hs => by
      have := hl.1
      rw [hs, Bool.not_true, Bool.false_or, Bool.and_eq_true, Option.isNone_iff_eq_none,
        Bool.not_eq_true'] at this
      exact this)
    have := ih _ _ _ _ hstep hl.2
    rw [ClientOps.runEv_cons, c_submitted_cons]
    rw [List.append_assoc, List.append_assoc, Bool.or_assoc] at this
    exact this

/-- **C01 (emission half), client, full form.**  Reassembling everything a
    client stream has put on the wire never fails and yields a prefix `ms` of
    the submitted messages; what the reader still holds (`st`) is nothing, or a
    proper prefix of the next submitted message together with that message's
    exact length; and if at the end no send is pending and no send has failed,
    everything submitted has been emitted completely. -/
theorem client_emits_chunkings_full (cfg : CCfg) (hcm : 0 < cfg.chunkMax) (sid : Sid) (s0 : CStream α)
    (h0 : s0.psend = none) (evs : List (CEv α))
    (hl : CStream.legalSends cfg sid s0 false evs = true) :
    ∃ ms st, parse none (COut.emittedData (CStream.runEv cfg sid s0 evs).2) = (ms, .ok st) ∧
      Tail ms st (CEv.submitted evs) ∧
      ((CStream.runEv cfg sid s0 evs).1.psend = none → cAnyFailed (CStream.runEv cfg sid s0 evs).2 = false →
        ms = CEv.submitted evs ∧ st = none) :=
  (c_run_inv cfg hcm sid evs s0 false [] [] (h0 ▸ Inv.init) hl).result

/-- **C01 (emission half), client.** -/
theorem client_emits_chunkings (cfg : CCfg) (hcm : 0 < cfg.chunkMax) (sid : Sid) (s0 : CStream α)
    (h0 : s0.psend = none) (evs : List (CEv α))
    (hl : CStream.legalSends cfg sid s0 false evs = true) :
    ∃ ms st, parse none (COut.emittedData (CStream.runEv cfg sid s0 evs).2) = (ms, .ok st) ∧
      ms <+: CEv.submitted evs := by
  obtain ⟨ms, st, h1, h2, _⟩ := client_emits_chunkings_full cfg hcm sid s0 h0 evs hl
  exact ⟨ms, st, h1, h2.prefix⟩

/-- **C13 (envelope exactness), client.**  The `i`-th envelope frame on the
    wire states exactly the length of the `i`-th submitted message. -/
theorem client_envelopes_exact (cfg : CCfg) (hcm : 0 < cfg.chunkMax) (sid : Sid) (s0 : CStream α)
    (h0 : s0.psend = none) (evs : List (CEv α))
    (hl : CStream.legalSends cfg sid s0 false evs = true) :
    envSizes (COut.emittedData (CStream.runEv cfg sid s0 evs).2) <+:
      (CEv.submitted evs).map List.length := by
  obtain ⟨ms, st, h1, h2, _⟩ := client_emits_chunkings_full cfg hcm sid s0 h0 evs hl
  exact envSizes_of_tail _ ms st _ h1 h2

theorem c_stepEv_bound (cfg : CCfg) (hcm : 0 < cfg.chunkMax) (sid : Sid) (s : CStream α) (e : CEv α) :
    ∀ f ∈ cdata (s.stepEv cfg sid e).2, f.size ≤ cfg.chunkMax := by
  rcases c_stepEv_cases cfg hcm sid s e with ⟨m, rfl⟩ | ⟨_, _, hs⟩
  · exact (c_send_spec cfg hcm sid s m).bound
  · exact hs.bound

/-- **C06/C13 (chunk bound), client**: any run, legal or not, from any state. -/
theorem client_chunk_bound (cfg : CCfg) (hcm : 0 < cfg.chunkMax) (sid : Sid) (evs : List (CEv α)) :
    ∀ (s0 : CStream α), ∀ f ∈ COut.emittedData (CStream.runEv cfg sid s0 evs).2, f.size ≤ cfg.chunkMax := by
  intro s0 f hf
  obtain ⟨o, ho, hfo⟩ := List.mem_flatMap.mp hf
  obtain ⟨s₁, ev, rfl⟩ := ClientOps.runEv_out cfg sid evs s0 o ho
  exact c_stepEv_bound cfg hcm sid s₁ ev f hfo

/-- **C13 (envelope first), client.**  In any run, the output of a `SendMsg(m)`
    step carries no data frame or starts with the envelope stating `m.length`,
    and all its data frames obey the chunk bound. -/
theorem client_send_first_frame (cfg : CCfg) (hcm : 0 < cfg.chunkMax) (sid : Sid) (s0 : CStream α)
    (pre post : List (CEv α)) (m : List α) :
    ∃ o, (CStream.runEv cfg sid s0 (pre ++ .call (.send m) :: post)).2[pre.length]? = some o ∧
      StartsWithEnv m.length (cdata o) ∧ ∀ f ∈ cdata o, f.size ≤ cfg.chunkMax :=
  ⟨_, run_getElem (ClientOps.runEv_cons cfg sid) (fun _ => rfl) _ post pre s0,
    (c_send_spec cfg hcm sid _ m).start, (c_send_spec cfg hcm sid _ m).bound⟩

def sdata (o : Out α) : List (DFrame α) := o.frames.filterMap (fun f => dataOfS2C f.2)

theorem s_emittedData_eq (outs : List (Out α)) : Out.emittedData outs = outs.flatMap sdata := rfl

@[simp] theorem sdata_empty : sdata ({} : Out α) = [] := rfl

theorem sdata_add (a b : Out α) : sdata (a.add b) = sdata a ++ sdata b := List.filterMap_append ..

theorem dataOfS2C_wire : ∀ (f : DFrame α), f ≠ .other → dataOfS2C (dframeToS2C f) = some f
  | .env _ _, _ => rfl
  | .more _, _ => rfl
  | .other, hf => absurd rfl hf

theorem s_failed_add (a b : Out α) :
    sendFailedIn (a.add b).dones = (sendFailedIn a.dones || sendFailedIn b.dones) := sendFailedIn_append ..

theorem s_credit_data (sid : Sid) (s : SStream α) (credits : List Nat) (ds : List (Sid × String × Res α)) :
    sdata ({ frames := s.creditFrames sid credits, dones := ds } : Out α) = [] := by
  unfold SStream.creditFrames sdata
  split
  · exact List.filterMap_eq_nil_iff.mpr (fun f hf => by
      obtain ⟨n, _, rfl⟩ := List.mem_map.mp hf
      rfl)
  · rfl

/-- a server step that emits no data frame, does not raise `finishAfterSend`, and either leaves the
    pending send alone or aborts it; the abort is reported as a failed send unless the send was the
    unary reply -/
def SQuiet (s s' : SStream α) (o : Out α) : Prop :=
  sdata o = [] ∧ (s'.finishAfterSend = true → s.finishAfterSend = true) ∧
  (s'.psend = s.psend ∨ (s'.psend = none ∧ (sendFailedIn o.dones || s.finishAfterSend) = true))

theorem SQuiet.refl (s : SStream α) : SQuiet s s {} := ⟨rfl, id, Or.inl rfl⟩

theorem SQuiet.of_eq {s s' : SStream α} {o : Out α} (hp : s'.psend = s.psend)
    (hf : s'.finishAfterSend = s.finishAfterSend) (hd : sdata o = []) : SQuiet s s' o :=
  ⟨hd, fun h => hf ▸ h, Or.inl hp⟩

theorem SQuiet.trans {s s1 s2 : SStream α} {o1 o2 : Out α} (h1 : SQuiet s s1 o1) (h2 : SQuiet s1 s2 o2) :
    SQuiet s s2 (o1.add o2) := by
  obtain ⟨d1, f1, p1⟩ := h1
  obtain ⟨d2, f2, p2⟩ := h2
  refine ⟨by rw [sdata_add, d1, d2]; rfl, fun h => f1 (f2 h), ?_⟩
  rw [s_failed_add]
  rcases p2 with h | ⟨h, hf⟩
  · rcases p1 with h' | ⟨h', hf'⟩
    · exact Or.inl (h.trans h')
    · refine Or.inr ⟨h.trans h', ?_⟩
      rw [Bool.or_right_comm, hf']; rfl
  · refine Or.inr ⟨h, ?_⟩
    rcases Bool.or_eq_true_iff.mp hf with hf | hf
    · rw [hf, Bool.or_true]; rfl
    · rw [f1 hf, Bool.or_true]

/-- the same with the outputs in the other order, as `finish` composes them -/
theorem SQuiet.trans_swap {s s1 s2 : SStream α} {o1 o2 : Out α} (h1 : SQuiet s s1 o1)
    (h2 : SQuiet s1 s2 o2) : SQuiet s s2 (o2.add o1) := by
  have h := h1.trans h2
  refine ⟨by rw [sdata_add, h1.1, h2.1]; rfl, h.2.1, ?_⟩
  rw [s_failed_add, Bool.or_comm (sendFailedIn o2.dones), ← s_failed_add]
  exact h.2.2

theorem SQuiet.pre {s s0 s' : SStream α} {o : Out α} (h : SQuiet s0 s' o)
    (hp : s0.psend = s.psend) (hf : s0.finishAfterSend = true → s.finishAfterSend = true) : SQuiet s s' o := by
  obtain ⟨d1, f1, p1⟩ := h
  refine ⟨d1, fun h => hf (f1 h), hp ▸ p1.imp id (fun ⟨h1, h2⟩ => ⟨h1, ?_⟩)⟩
  rcases Bool.or_eq_true_iff.mp h2 with h2 | h2
  · rw [h2]; rfl
  · rw [hf h2, Bool.or_true]

open ServerOps in
theorem s_finishCore_quiet (sid : Sid) (s : SStream α) (err : Option SErr) :
    SQuiet s (s.finishCore sid err).1 (s.finishCore sid err).2 := by
  refine .of_eq (by rw [finishCore_fst]) (by rw [finishCore_fst]) ?_
  rw [finishCore_snd]
  split
  · rfl
  · cases s.sentHeaders <;> rfl

open ServerOps in
theorem ccSend_quiet (sid : Sid) (s : SStream α) (e : CtxErr) :
    SQuiet s (ccSend sid s e).1 (ccSend sid s e).2 := by
  unfold ccSend
  cases hps : s.psend with
  | none => exact .refl s
  | some snd =>
    dsimp only
    by_cases hf : s.finishAfterSend = true
    · rw [if_pos hf]
      have h := s_finishCore_quiet sid
        ({ s with psend := none, finishAfterSend := false, hstatus := .returned } : SStream α) (some (.ctx e))
      exact ⟨h.1, fun _ => hf, Or.inr ⟨h.2.2.elim id (·.1), by rw [hf, Bool.or_true]⟩⟩
    · rw [if_neg hf]
      exact ⟨rfl, id, Or.inr ⟨rfl, rfl⟩⟩

open ServerOps in
theorem ccRead_quiet (sid : Sid) (s : SStream α) (e : CtxErr) :
    SQuiet s (ccRead sid s e).1 (ccRead sid s e).2 := by
  unfold ccRead
  split
  · split
    · exact (SQuiet.of_eq (s' := { s with pread := none, readErr := some (.ctx e), hstatus := .returned })
        (o := { dones := [(sid, "decode", .ctx e)] }) rfl rfl rfl).trans (s_finishCore_quiet sid _ _)
    · exact .of_eq rfl rfl rfl
  · exact .refl s

open ServerOps in
theorem s_cancelCtx_quiet (sid : Sid) (s : SStream α) (e : CtxErr) :
    SQuiet s (s.cancelCtx sid e).1 (s.cancelCtx sid e).2 := by
  cases h : s.ctxDone with
  | some c => rw [cancelCtx_of_done sid e (by rw [h]; rfl)]; exact .refl s
  | none =>
    rw [cancelCtx_of_open sid e h]
    exact ((SQuiet.of_eq (s' := ctxMark s e) (o := ctxEvent sid e) rfl rfl rfl).trans
      (ccSend_quiet sid _ e)).trans (ccRead_quiet sid _ e)

theorem s_finish_quiet (sid : Sid) (s : SStream α) (err : Option SErr) (b : Bool) :
    SQuiet s (s.finish sid err b).1 (s.finish sid err b).2 := by
  rw [ServerOps.finish_eq]
  exact (s_finishCore_quiet sid s _).trans_swap (s_cancelCtx_quiet sid _ _)

open ServerOps in
theorem SQuiet.of_step {cfg : SCfg} {sid : Sid} {a b : SStream α} {o : Out α} (h : Step false cfg sid a b o) :
    SQuiet a b o := by
  induction h with
  | refl s => exact .refl s
  | seq _ _ ih₁ ih₂ => exact ih₁.trans ih₂
  | halfClose s e => rw [halfClose_eq]; exact .of_eq rfl rfl rfl
  | finish s err byLoop => exact s_finish_quiet sid s err byLoop
  | retFinish s keep err =>
    exact (s_finish_quiet sid _ err false).pre rfl (fun h => (Bool.and_eq_true_iff.mp h).2)
  | cancelCtx s e => exact s_cancelCtx_quiet sid s e
  | sentAll _ _ _ _ _ _ hpump => cases hpump
  | sendAborted _ _ _ _ _ _ _ _ _ hpump => cases hpump
  | sendPending _ _ _ _ _ _ _ _ hpump => cases hpump
  | counted _ _ hpump => cases hpump
  | dropSend hf hp _ ih =>
    refine ⟨ih.1, ih.2.1, ih.2.2.imp id (fun h => ⟨h.1, ?_⟩)⟩
    rw [ih.2.1 hf, Bool.or_true]
  | drained s p rwin q credits out hp hr => exact .of_eq rfl rfl (s_credit_data sid s credits [])
  | _ => exact .of_eq rfl rfl rfl

theorem s_pumpSend_burst (cfg : SCfg) (hcm : 0 < cfg.chunkMax) (sid : Sid) (s : SStream α) (snd : Snd α) :
    Burst cfg.chunkMax snd (sdata (s.pumpSend cfg sid snd).2) (s.pumpSend cfg sid snd).1.psend
      (sendFailedIn (s.pumpSend cfg sid snd).2.dones) ∧
    (s.pumpSend cfg sid snd).1.finishAfterSend = s.finishAfterSend := by
  unfold SStream.pumpSend pump
  have hb := pumpFuel_burst cfg.chunkMax (snd.rem.length + 1) s.win snd
  split
  · generalize pumpFuel cfg.chunkMax (snd.rem.length + 1) s.win snd = r at hb ⊢
    rcases r with ⟨fs, w, _ | snd'⟩
    · exact ⟨(hb none _ rfl).tagged sid dataOfS2C_wire, rfl⟩
    · dsimp only
      split
      · exact ⟨(hb none _ (Or.inr ⟨rfl, rfl⟩)).tagged sid dataOfS2C_wire, rfl⟩
      · exact ⟨(hb (some snd') _ (Or.inl rfl)).tagged sid dataOfS2C_wire, rfl⟩
  · exact ⟨(sendAll_burst cfg.chunkMax hcm snd _).tagged sid dataOfS2C_wire, rfl⟩

theorem s_pumpSend_spec (cfg : SCfg) (hcm : 0 < cfg.chunkMax) (sid : Sid) (s : SStream α) (snd : Snd α) :
    Progress snd (sdata (s.pumpSend cfg sid snd).2) (s.pumpSend cfg sid snd).1.psend
      (sendFailedIn (s.pumpSend cfg sid snd).2.dones) ∧
    (∀ f ∈ sdata (s.pumpSend cfg sid snd).2, f.size ≤ cfg.chunkMax) ∧
    (snd.first = true → StartsWithEnv snd.total (sdata (s.pumpSend cfg sid snd).2)) ∧
    (s.pumpSend cfg sid snd).1.finishAfterSend = s.finishAfterSend :=
  have ⟨h, hf⟩ := s_pumpSend_burst cfg hcm sid s snd
  ⟨h.prog, fun f hf => (h.good f hf).2, h.start, hf⟩

/-- `afterSend` keeps the pending send and the data frames; it hides the
    reply's own completion only when `finishAfterSend` is set -/
theorem s_afterSend_spec (sid : Sid) (s : SStream α) (o : Out α) :
    (s.afterSend sid o).1.psend = s.psend ∧ sdata (s.afterSend sid o).2 = sdata o ∧
    ((s.afterSend sid o).1.finishAfterSend = true → s.finishAfterSend = true) ∧
    (s.finishAfterSend = false → (s.afterSend sid o).2.dones = o.dones) := by
  rw [ServerOps.afterSend_eq]
  split
  · rename_i hc
    rw [Bool.and_eq_true, Option.isNone_iff_eq_none] at hc
    have hq := s_finish_quiet sid ({ s with finishAfterSend := false, hstatus := .returned } : SStream α)
      (ServerOps.sendErr o) false
    refine ⟨hq.2.2.elim id (fun h => h.1.trans hc.2.symm), ?_, fun _ => hc.1, fun h => ?_⟩
    · rw [sdata_add, hq.1, List.append_nil]; rfl
    · rw [hc.1] at h; cases h
  · exact ⟨rfl, rfl, id, fun _ => rfl⟩

theorem Burst.s_afterSend {cm : Nat} {snd : Snd α} {f : Bool} (sid : Sid) (s : SStream α) (o : Out α)
    (h : Burst cm snd (sdata o) s.psend f) :
    Burst cm snd (sdata (s.afterSend sid o).2) (s.afterSend sid o).1.psend f := by
  rw [(s_afterSend_spec sid s o).1, (s_afterSend_spec sid s o).2.1]
  exact h

/-- the contract of a server step other than `SendMsg` / the unary reply; a reply in progress that is
    dropped counts as failed -/
def SResume (cm : Nat) (s : SStream α) (r : SStream α × Out α) : Prop :=
  ResumeSpec cm s.psend r.1.psend (sdata r.2) (sendFailedIn r.2.dones || s.finishAfterSend) ∧
  (r.1.finishAfterSend = true → s.finishAfterSend = true)

theorem SResume.of_quiet {cm : Nat} {s : SStream α} {r : SStream α × Out α} (h : SQuiet s r.1 r.2) :
    SResume cm s r := ⟨.of_quiet h.1 h.2.2, h.2.1⟩

theorem s_resume_step (cfg : SCfg) (hcm : 0 < cfg.chunkMax) (sid : Sid) (s : SStream α) (n : Nat) :
    SResume cfg.chunkMax s (s.onFrame cfg sid (.windowUpdate n)) := by
  rw [ServerOps.onFrame_windowUpdate]
  split
  · exact .of_quiet (.refl s)
  · split
    · exact .of_quiet (.of_eq rfl rfl rfl)
    · next snd hps =>
      obtain ⟨hb, hf⟩ := s_pumpSend_burst cfg hcm sid ({ s with win := wrap32 (s.win + n) } : SStream α) snd
      obtain ⟨_, _, a3, a4⟩ := s_afterSend_spec sid
        (({ s with win := wrap32 (s.win + n) } : SStream α).pumpSend cfg sid snd).1
        (({ s with win := wrap32 (s.win + n) } : SStream α).pumpSend cfg sid snd).2
      refine ⟨.of_burst hps ((hb.s_afterSend sid _ _).mono (fun hfl => ?_)), fun h => hf ▸ a3 h⟩
      -- a failed send stays visible unless `afterSend` hides it, which it does only for a reply
      rcases Bool.eq_false_or_eq_true s.finishAfterSend with hfa | hfa
      · rw [hfa, Bool.or_true]
      · rw [a4 (hf.trans hfa), hfl]; rfl

theorem s_onCall_quiet (cfg : SCfg) (sid : Sid) (s : SStream α) (c : HCall α)
    (hc : ∀ m, c ≠ .send m) (hr : ∀ m, c ≠ .reply m) :
    SQuiet s (s.onCall cfg sid c).1 (s.onCall cfg sid c).2 := by
  refine .of_step (ServerOps.Step.onCall s c (fun h => ?_))
  cases c with
  | send m => exact absurd rfl (hc m)
  | reply m => exact absurd rfl (hr m)
  | _ => cases h

theorem hdrStage_fields (sid : Sid) (s : SStream α) :
    (ServerOps.hdrStage sid s).1.psend = s.psend ∧
    (ServerOps.hdrStage sid s).1.finishAfterSend = s.finishAfterSend ∧
    ∀ (ds : List (Sid × String × Res α)),
      sdata ({ frames := (ServerOps.hdrStage sid s).2, dones := ds } : Out α) = [] := by
  unfold ServerOps.hdrStage
  split
  · exact ⟨rfl, rfl, fun _ => rfl⟩
  · exact ⟨rfl, rfl, fun _ => rfl⟩

theorem hdr_add (sid : Sid) (s : SStream α) (o : Out α) :
    sdata (({ frames := (ServerOps.hdrStage sid s).2 } : Out α).add o) = sdata o ∧
    sendFailedIn (({ frames := (ServerOps.hdrStage sid s).2 } : Out α).add o).dones = sendFailedIn o.dones := by
  rw [sdata_add, (hdrStage_fields sid s).2.2 [], s_failed_add]
  exact ⟨rfl, rfl⟩

theorem s_send_spec (cfg : SCfg) (hcm : 0 < cfg.chunkMax) (sid : Sid) (s : SStream α) (m : List α) :
    SendSpec cfg.chunkMax m s.psend (s.onCall cfg sid (.send m)).1.psend (sdata (s.onCall cfg sid (.send m)).2)
      (sendFailedIn (s.onCall cfg sid (.send m)).2.dones) ∧
    (s.onCall cfg sid (.send m)).1.finishAfterSend = s.finishAfterSend := by
  rw [ServerOps.onCall_send]
  obtain ⟨hp, hf, hd⟩ := hdrStage_fields sid s
  dsimp only
  split
  · rw [hd, hp]
    exact ⟨.refused _ m s.psend, hf⟩
  · obtain ⟨hb, hfa⟩ := s_pumpSend_burst cfg hcm sid
      ({ (ServerOps.hdrStage sid s).1 with numSent := (ServerOps.hdrStage sid s).1.numSent + 1 } : SStream α)
      (Snd.start m)
    rw [(hdr_add sid s _).1, (hdr_add sid s _).2]
    exact ⟨.of_burst hb, hfa.trans hf⟩

/-- the unary reply: whatever happens to it, no failure is reported, so the
    failure flag of the contract is simply `true` -/
theorem s_reply_spec (cfg : SCfg) (hcm : 0 < cfg.chunkMax) (sid : Sid) (s : SStream α) (m : List α) :
    SendSpec cfg.chunkMax m s.psend (s.onCall cfg sid (.reply m)).1.psend
      (sdata (s.onCall cfg sid (.reply m)).2) true := by
  rw [ServerOps.onCall_reply]
  have hb := (s_pumpSend_burst cfg hcm sid
    ({ (ServerOps.hdrStage sid s).1 with
        numSent := (ServerOps.hdrStage sid s).1.numSent + 1, finishAfterSend := true } : SStream α)
    (Snd.start m)).1
  rw [← (hdr_add sid s _).1] at hb
  exact .of_burst ((hb.s_afterSend sid _ _).mono (fun _ => rfl))

def ssub : SEv α → List (List α)
  | .call (.send m) => [m]
  | .call (.reply m) => [m]
  | _ => []

/-- is the event a `SendMsg` or the unary reply? (as in `SStream.legalSends`) -/
def sIsSend : SEv α → Bool
  | .call (.send _) => true
  | .call (.reply _) => true
  | _ => false

def sIsReply : SEv α → Bool
  | .call (.reply _) => true
  | _ => false

/-- the unary reply is the handler's last send: nothing is sent, and no second reply is issued, after a
    `.call (.reply _)` (a unary handler returns once).  The server statements need it because the model
    hides the reply's own completion: `afterSend` filters the `"send"` entry out of `dones`, and
    `cancelCtx` on a reply in progress reports nothing, so `SStream.legalSends` never learns that a reply
    failed. -/
def sReplyIsLast : List (SEv α) → Bool
  | [] => true
  | e :: es => (!sIsReply e || es.all (fun e' => !sIsSend e')) && sReplyIsLast es

def sAnyFailed (outs : List (Out α)) : Bool := outs.any (fun o => sendFailedIn o.dones)

theorem s_submitted_cons (e : SEv α) (es : List (SEv α)) :
    SEv.submitted (e :: es) = ssub e ++ SEv.submitted es := by
  rcases e with f | (_ | m | _ | _ | _ | _ | m) | e <;> rfl

theorem s_legalSends_cons (cfg : SCfg) (sid : Sid) (s : SStream α) (failed : Bool) (e : SEv α)
    (es : List (SEv α)) :
    SStream.legalSends cfg sid s failed (e :: es) =
      ((!sIsSend e || (s.psend.isNone && !failed)) &&
        SStream.legalSends cfg sid (s.stepEv cfg sid e).1
          (failed || sendFailedIn (s.stepEv cfg sid e).2.dones) es) := by
  rcases e with f | (_ | m | _ | _ | _ | _ | m) | e <;> rfl

theorem s_stepEv_cases (cfg : SCfg) (hcm : 0 < cfg.chunkMax) (sid : Sid) (s : SStream α) (e : SEv α) :
    (∃ m, e = .call (.send m)) ∨ (∃ m, e = .call (.reply m)) ∨
    (sIsSend e = false ∧ ssub e = [] ∧ sIsReply e = false ∧ SResume cfg.chunkMax s (s.stepEv cfg sid e)) := by
  have quiet : ∀ e, ServerOps.evPumps e = false → SResume cfg.chunkMax s (s.stepEv cfg sid e) :=
    fun e he => .of_quiet (.of_step (ServerOps.Step.stepEv s e (fun h => by rw [he] at h; cases h)))
  rcases e with f | (_ | m | _ | _ | _ | _ | m) | e
  · cases f
    case windowUpdate n => exact .inr (.inr ⟨rfl, rfl, rfl, s_resume_step cfg hcm sid s n⟩)
    all_goals exact .inr (.inr ⟨rfl, rfl, rfl, quiet _ rfl⟩)
  case call.send => exact .inl ⟨m, rfl⟩
  case call.reply => exact .inr (.inl ⟨m, rfl⟩)
  all_goals exact .inr (.inr ⟨rfl, rfl, rfl, quiet _ rfl⟩)

theorem s_step_inv (cfg : SCfg) (hcm : 0 < cfg.chunkMax) (sid : Sid) (s : SStream α) (dead : Bool)
    (E : List (DFrame α)) (S : List (List α)) (e : SEv α) (h : Inv s.psend dead E S)
    (hF : s.finishAfterSend = true → dead = true)
    (hok : sIsSend e = true → s.psend = none ∧ dead = false) :
    Inv (s.stepEv cfg sid e).1.psend (dead || sendFailedIn (s.stepEv cfg sid e).2.dones || sIsReply e)
      (E ++ sdata (s.stepEv cfg sid e).2) (S ++ ssub e) ∧
    ((s.stepEv cfg sid e).1.finishAfterSend = true →
      (dead || sendFailedIn (s.stepEv cfg sid e).2.dones || sIsReply e) = true) := by
  rcases s_stepEv_cases cfg hcm sid s e with ⟨m, rfl⟩ | ⟨m, rfl⟩ | ⟨_, hsub, hrep, hs⟩
  · obtain ⟨hps, hd⟩ := hok rfl
    obtain ⟨h1, h2⟩ := s_send_spec cfg hcm sid s m
    refine ⟨Inv.send (h.idle hps hd) (h1.prog hps) (fun hh => ?_), fun hf => ?_⟩
    · show (dead || sendFailedIn (s.onCall cfg sid (.send m)).2.dones || false) = true
      rw [hh, Bool.or_true]; rfl
    · rw [hF (h2 ▸ hf)] at hd; cases hd
  · obtain ⟨hps, hd⟩ := hok rfl
    have ht : (dead || sendFailedIn ((s.stepEv cfg sid (.call (.reply m))).2.dones) ||
        sIsReply (.call (.reply m) : SEv α)) = true := Bool.or_true _
    rw [ht]
    exact ⟨Inv.send (h.idle hps hd) ((s_reply_spec cfg hcm sid s m).prog hps) (fun _ => rfl), fun _ => rfl⟩
  · rw [hsub, List.append_nil, hrep, Bool.or_false]
    refine ⟨Inv.other h hs.1.idle hs.1.prog (fun hf => by rw [hf]; rfl) (fun hf => ?_), fun hf => ?_⟩
    · rcases Bool.or_eq_true_iff.mp hf with hf | hf
      · rw [hf, Bool.or_true]
      · rw [hF hf]; rfl
    · rw [hF (hs.2 hf)]; rfl

theorem s_run_inv (cfg : SCfg) (hcm : 0 < cfg.chunkMax) (sid : Sid) : ∀ (evs : List (SEv α))
    (s : SStream α) (failed replied : Bool) (E : List (DFrame α)) (S : List (List α)),
    Inv s.psend (failed || replied) E S → (s.finishAfterSend = true → (failed || replied) = true) →
    SStream.legalSends cfg sid s failed evs = true → sReplyIsLast evs = true →
    (replied = true → evs.all (fun e => !sIsSend e) = true) →
    Inv (SStream.runEv cfg sid s evs).1.psend
      ((failed || sAnyFailed (SStream.runEv cfg sid s evs).2) || (replied || evs.any sIsReply))
      (E ++ Out.emittedData (SStream.runEv cfg sid s evs).2) (S ++ SEv.submitted evs) := by
  intro evs
  induction evs with
  | nil =>
    intro s failed replied E S h _ _ _ _
    show Inv s.psend ((failed || false) || (replied || false)) (E ++ []) (S ++ [])
    rw [Bool.or_false, Bool.or_false, List.append_nil, List.append_nil]
    exact h
  | cons e es ih =>
    intro s failed replied E S h hF hl hrl hrep
    rw [s_legalSends_cons, Bool.and_eq_true] at hl
    rw [sReplyIsLast, Bool.and_eq_true] at hrl
    rw [List.all_cons, Bool.and_eq_true] at hrep
    have hstep := s_step_inv cfg hcm sid s (failed || replied) E S e h hF (fun hs => by
      have hok := hl.1
      rw [hs, Bool.not_true, Bool.false_or, Bool.and_eq_true, Option.isNone_iff_eq_none,
        Bool.not_eq_true'] at hok
      refine ⟨hok.1, ?_⟩
      rcases Bool.eq_false_or_eq_true replied with hrp | hrp
      · have := (hrep hrp).1; rw [hs] at this; cases this
      · rw [hok.2, hrp]; rfl)
    have hb : ∀ a b c d : Bool, (a || b || c || d) = ((a || c) || (b || d)) := by decide
    rw [hb] at hstep
    have hrep' : (replied || sIsReply e) = true → es.all (fun e => !sIsSend e) = true := by
      intro hh
      rcases Bool.or_eq_true_iff.mp hh with hrp | hre
      · exact (hrep hrp).2
      · have := hrl.1; rw [hre, Bool.not_true, Bool.false_or] at this; exact this
    have := ih _ _ _ _ _ hstep.1 hstep.2 hl.2 hrl.2 hrep'
    rw [ServerOps.runEv_cons, s_submitted_cons]
    rw [List.append_assoc, List.append_assoc, Bool.or_assoc failed, Bool.or_assoc replied] at this
    exact this

/-- **C01 (emission half), server, full form.**  Reassembling everything the server stream has put on the
    wire never fails and yields a prefix `ms` of the submitted messages; what the reader still holds is
    nothing, or a proper prefix of the next submitted message with that message's exact length; and if at
    the end no send is pending, no send has failed and no reply was issued (a reply's failure is
    invisible), everything submitted has been emitted completely.
    `_partial`: `hr` and `h0f` are needed, see the file header.  `h0f` holds of every stream
    `Srv.createStream` builds; `h0` alone allows the unreachable `psend = none ∧ finishAfterSend = true`. -/
theorem server_emits_chunkings_full_partial (cfg : SCfg) (hcm : 0 < cfg.chunkMax) (sid : Sid)
    (s0 : SStream α) (h0 : s0.psend = none) (h0f : s0.finishAfterSend = false) (evs : List (SEv α))
    (hl : SStream.legalSends cfg sid s0 false evs = true) (hr : sReplyIsLast evs = true) :
    ∃ ms st, parse none (Out.emittedData (SStream.runEv cfg sid s0 evs).2) = (ms, .ok st) ∧
      Tail ms st (SEv.submitted evs) ∧
      ((SStream.runEv cfg sid s0 evs).1.psend = none →
        sAnyFailed (SStream.runEv cfg sid s0 evs).2 = false → evs.any sIsReply = false →
        ms = SEv.submitted evs ∧ st = none) := by
  obtain ⟨ms, st, h1, h2, h3⟩ := (s_run_inv cfg hcm sid evs s0 false false [] [] (h0 ▸ Inv.init)
    (fun h => by rw [h0f] at h; cases h) hl hr nofun).result
  exact ⟨ms, st, h1, h2, fun hp hf hrp => h3 hp (by rw [hf, hrp]; rfl)⟩

/-- **C01 (emission half), server.**  Besides the client's hypotheses it needs `h0f` and `hr` (file header): an
    aborted reply reports no failed send, so `legalSends` alone admits an envelope after an unfinished message. -/
theorem server_emits_chunkings_partial (cfg : SCfg) (hcm : 0 < cfg.chunkMax) (sid : Sid)
    (s0 : SStream α) (h0 : s0.psend = none) (h0f : s0.finishAfterSend = false) (evs : List (SEv α))
    (hl : SStream.legalSends cfg sid s0 false evs = true) (hr : sReplyIsLast evs = true) :
    ∃ ms st, parse none (Out.emittedData (SStream.runEv cfg sid s0 evs).2) = (ms, .ok st) ∧
      ms <+: SEv.submitted evs := by
  obtain ⟨ms, st, h1, h2, _⟩ := server_emits_chunkings_full_partial cfg hcm sid s0 h0 h0f evs hl hr
  exact ⟨ms, st, h1, h2.prefix⟩

/-- **C13 (envelope exactness), server** (`_partial`: same two hypotheses).
    The `i`-th envelope frame on the wire states exactly the length of the
    `i`-th submitted message. -/
theorem server_envelopes_exact_partial (cfg : SCfg) (hcm : 0 < cfg.chunkMax) (sid : Sid)
    (s0 : SStream α) (h0 : s0.psend = none) (h0f : s0.finishAfterSend = false) (evs : List (SEv α))
    (hl : SStream.legalSends cfg sid s0 false evs = true) (hr : sReplyIsLast evs = true) :
    envSizes (Out.emittedData (SStream.runEv cfg sid s0 evs).2) <+:
      (SEv.submitted evs).map List.length := by
  obtain ⟨ms, st, h1, h2, _⟩ := server_emits_chunkings_full_partial cfg hcm sid s0 h0 h0f evs hl hr
  exact envSizes_of_tail _ ms st _ h1 h2

theorem s_stepEv_bound (cfg : SCfg) (hcm : 0 < cfg.chunkMax) (sid : Sid) (s : SStream α) (e : SEv α) :
    ∀ f ∈ sdata (s.stepEv cfg sid e).2, f.size ≤ cfg.chunkMax := by
  rcases s_stepEv_cases cfg hcm sid s e with ⟨m, rfl⟩ | ⟨m, rfl⟩ | ⟨_, _, _, hs⟩
  · exact (s_send_spec cfg hcm sid s m).1.bound
  · exact (s_reply_spec cfg hcm sid s m).bound
  · exact hs.1.bound

/-- **C06/C13 (chunk bound), server**: any run, legal or not, from any state. -/
theorem server_chunk_bound (cfg : SCfg) (hcm : 0 < cfg.chunkMax) (sid : Sid) (evs : List (SEv α)) :
    ∀ (s0 : SStream α), ∀ f ∈ Out.emittedData (SStream.runEv cfg sid s0 evs).2, f.size ≤ cfg.chunkMax := by
  induction evs with
  | nil => intro s0 f hf; cases hf
  | cons e es ih =>
    intro s0 f hf
    rw [ServerOps.runEv_cons] at hf
    rcases List.mem_append.mp hf with hf | hf
    · exact s_stepEv_bound cfg hcm sid s0 e f hf
    · exact ih _ f hf

/-- **C13 (envelope first), server.**  In any run, the output of a `SendMsg(m)`
    or reply(m) step (`c = .send m` or `c = .reply m`) carries no data frame or
    starts with the envelope stating `m.length`, and all its data frames obey
    the chunk bound. -/
theorem server_send_first_frame (cfg : SCfg) (hcm : 0 < cfg.chunkMax) (sid : Sid) (s0 : SStream α)
    (pre post : List (SEv α)) (m : List α) (c : HCall α) (hc : c = .send m ∨ c = .reply m) :
    ∃ o, (SStream.runEv cfg sid s0 (pre ++ .call c :: post)).2[pre.length]? = some o ∧
      StartsWithEnv m.length (sdata o) ∧ ∀ f ∈ sdata o, f.size ≤ cfg.chunkMax := by
  refine ⟨_, run_getElem (ServerOps.runEv_cons cfg sid) (fun _ => rfl) _ post pre s0, ?_,
    s_stepEv_bound cfg hcm sid (SStream.runEv cfg sid s0 pre).1 (.call c)⟩
  rcases hc with rfl | rfl
  · exact (s_send_spec cfg hcm sid _ m).1.start
  · exact (s_reply_spec cfg hcm sid _ m).start

def isOk {β : Type} : Except PErr β → Bool
  | .ok _ => true
  | .error _ => false

/-- counterexample 1: a unary reply blocked on the window is aborted by the
    context (no `"send"` completion is reported: `afterSend`/`cancelCtx` hide
    the reply's own result), so `legalSends` allows a second reply -/
def cex1State : SStream Nat :=
  { cs := false, ss := false, unary := true, fc := true, rcv := RcvQ.init 10, win := 1, hstatus := .running }

def cex1Evs : List (SEv Nat) :=
  [.call (.reply [1, 2, 3]), .ctx .canceled, .frame (.windowUpdate 5), .call (.reply [4])]

/-- counterexample 2: no reply at all, but `finishAfterSend` stale in the initial state: the cancelled
    send takes the reply branch of `cancelCtx` and reports no failed send, so the second send is legal -/
def cex2State : SStream Nat :=
  { cs := false, ss := true, unary := false, fc := true, rcv := RcvQ.init 10, win := 1, hstatus := .running,
    finishAfterSend := true }

def cex2Evs : List (SEv Nat) :=
  [.call (.send [1, 2, 3]), .ctx .canceled, .frame (.windowUpdate 5), .call (.send [4])]

theorem cex1_facts :
    cex1State.psend = none ∧ cex1State.finishAfterSend = false ∧
    SStream.legalSends {} 7 cex1State false cex1Evs = true ∧ sReplyIsLast cex1Evs = false ∧
    Out.emittedData (SStream.runEv {} 7 cex1State cex1Evs).2 = [.env 3 [1], .env 1 [4]] ∧
    isOk (parse none (Out.emittedData (SStream.runEv {} 7 cex1State cex1Evs).2)).2 = false := by
  decide +kernel

theorem cex2_facts :
    cex2State.psend = none ∧ cex2State.finishAfterSend = true ∧
    SStream.legalSends {} 7 cex2State false cex2Evs = true ∧ sReplyIsLast cex2Evs = true ∧
    Out.emittedData (SStream.runEv {} 7 cex2State cex2Evs).2 = [.env 3 [1], .env 1 [4]] ∧
    isOk (parse none (Out.emittedData (SStream.runEv {} 7 cex2State cex2Evs).2)).2 = false := by
  decide +kernel

/-- The server statement with the client's hypotheses only (no send pending at the start, `legalSends`) is
    false: in counterexample 1 the unary reply blocked on the window is aborted by the end of the context,
    no failed send is reported, `legalSends` admits a second reply, and its envelope follows the unfinished
    first message on the wire, which the reader rejects. -/
theorem server_emits_chunkings_as_requested_is_false :
    ¬ (∀ (cfg : SCfg) (_ : 0 < cfg.chunkMax) (sid : Sid) (s0 : SStream Nat) (_ : s0.psend = none)
        (evs : List (SEv Nat)) (_ : SStream.legalSends cfg sid s0 false evs = true),
        ∃ ms st, parse none (Out.emittedData (SStream.runEv cfg sid s0 evs).2) = (ms, .ok st) ∧
          ms <+: SEv.submitted evs) := by
  intro h
  obtain ⟨ms, st, hp, _⟩ := h {} (by decide) 7 cex1State rfl cex1Evs cex1_facts.2.2.1
  have hb := cex1_facts.2.2.2.2.2
  rw [hp] at hb
  cases hb

/-- ... and it stays false with `hr` alone (counterexample 2) -/
theorem server_emits_chunkings_needs_h0f :
    ¬ (∀ (cfg : SCfg) (_ : 0 < cfg.chunkMax) (sid : Sid) (s0 : SStream Nat) (_ : s0.psend = none)
        (evs : List (SEv Nat)) (_ : SStream.legalSends cfg sid s0 false evs = true)
        (_ : sReplyIsLast evs = true),
        ∃ ms st, parse none (Out.emittedData (SStream.runEv cfg sid s0 evs).2) = (ms, .ok st) ∧
          ms <+: SEv.submitted evs) := by
  intro h
  obtain ⟨ms, st, hp, _⟩ := h {} (by decide) 7 cex2State rfl cex2Evs cex2_facts.2.2.1 cex2_facts.2.2.2.1
  have hb := cex2_facts.2.2.2.2.2
  rw [hp] at hb
  cases hb

-- a client run with a blocked send resumed by a window update, then a second message:
-- legal, and the wire carries the two chunkings
example :
    let s : CStream Nat := { cs := true, ss := true, fc := true, rcv := RcvQ.init 10, win := 2 }
    let evs : List (CEv Nat) := [.call (.send [1, 2, 3]), .frame (.windowUpdate 9), .call (.send [4])]
    CStream.legalSends { chunkMax := 2 } 1 s false evs = true ∧
    COut.emittedData (CStream.runEv { chunkMax := 2 } 1 s evs).2 =
      [.env 3 [1, 2], .more [3], .env 1 [4]] ∧
    (parse none (COut.emittedData (CStream.runEv { chunkMax := 2 } 1 s evs).2)).1 = [[1, 2, 3], [4]] := by
  decide +kernel

-- a server run: stream send blocked, resumed; then the handler returns
example :
    let s : SStream Nat := { cs := false, ss := true, unary := false, fc := true, rcv := RcvQ.init 10, win := 2,
                             hstatus := .running }
    let evs : List (SEv Nat) := [.call (.send [1, 2, 3]), .frame (.windowUpdate 9), .call (.send [4]),
                                 .call (.ret (mkStatus 0 ""))]
    SStream.legalSends { chunkMax := 2 } 1 s false evs = true ∧ sReplyIsLast evs = true ∧
    Out.emittedData (SStream.runEv { chunkMax := 2 } 1 s evs).2 =
      [.env 3 [1, 2], .more [3], .env 1 [4]] := by
  decide +kernel

end Proofs.Emission

#print axioms Proofs.Emission.client_emits_chunkings
#print axioms Proofs.Emission.client_emits_chunkings_full
#print axioms Proofs.Emission.client_envelopes_exact
#print axioms Proofs.Emission.client_chunk_bound
#print axioms Proofs.Emission.client_send_first_frame
#print axioms Proofs.Emission.server_emits_chunkings_partial
#print axioms Proofs.Emission.server_emits_chunkings_full_partial
#print axioms Proofs.Emission.server_envelopes_exact_partial
#print axioms Proofs.Emission.server_chunk_bound
#print axioms Proofs.Emission.server_send_first_frame
#print axioms Proofs.Emission.server_emits_chunkings_as_requested_is_false
#print axioms Proofs.Emission.server_emits_chunkings_needs_h0f
