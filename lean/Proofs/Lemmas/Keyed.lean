import TunnelModel.LFrame.Common
/-! Lists of pairs tagged with a stream id, restricted to one id (`filter (·.1 == sid)`). -/
namespace Proofs.Keyed
open TunnelModel.LFrame

theorem mem_single {A : Type} {sid : Sid} {a : A} : ∀ d ∈ [(sid, a)], d.1 = sid := by
  intro d hd; rw [List.mem_singleton.mp hd]

theorem mem_nil {A : Type} {sid : Sid} : ∀ d ∈ ([] : List (Sid × A)), d.1 = sid := by
  intro d hd; cases hd

theorem filter_eq_self_of_tag {A : Type} {sid : Sid} {l : List (Sid × A)} (h : ∀ f ∈ l, f.1 = sid) :
    l.filter (·.1 == sid) = l := by
  rw [List.filter_eq_self]
  intro f hf
  rw [h f hf]
  exact beq_self_eq_true sid

theorem filter_eq_nil_of_tag {A : Type} {sid sid' : Sid} {l : List (Sid × A)} (h : ∀ f ∈ l, f.1 = sid')
    (hne : sid' ≠ sid) : l.filter (·.1 == sid) = [] := by
  rw [List.filter_eq_nil_iff]
  intro f hf
  rw [h f hf, beq_iff_eq]
  exact hne

theorem flatMap_filter_tagged {A B : Type} {g : A → List (Sid × B)} {sid : Sid} {os : List A}
    (h : ∀ x ∈ os.flatMap g, x.1 = sid) : os.flatMap (fun o => (g o).filter (·.1 == sid)) = os.flatMap g := by
  rw [← List.filter_flatMap]
  exact filter_eq_self_of_tag h

theorem flatMap_filter_absent {A B : Type} {g : Sid × A → List (Sid × B)} (hg : ∀ e, ∀ x ∈ g e, x.1 = e.1)
    {sid : Sid} {l : List (Sid × A)} (h : sid ∉ l.map (·.1)) : (l.flatMap g).filter (·.1 == sid) = [] := by
  rw [List.filter_eq_nil_iff]
  intro x hx
  obtain ⟨e, he, hxe⟩ := List.mem_flatMap.mp hx
  rw [beq_iff_eq, hg e x hxe]
  exact fun hk => h (List.mem_map.mpr ⟨e, he, hk⟩)

theorem flatMap_filter_key {A B : Type} {g : Sid × A → List (Sid × B)} (hg : ∀ e, ∀ x ∈ g e, x.1 = e.1)
    {sid : Sid} {a : A} : ∀ (l : List (Sid × A)), (l.map (·.1)).Nodup → (sid, a) ∈ l →
      (l.flatMap g).filter (·.1 == sid) = g (sid, a) := by
  intro l
  induction l with
  | nil => intro _ h; cases h
  | cons x rest ih =>
    intro hnd hm
    obtain ⟨hk, hnd'⟩ := List.nodup_cons.mp hnd
    rw [List.flatMap_cons, List.filter_append]
    rcases List.mem_cons.mp hm with h | h
    · subst h
      rw [filter_eq_self_of_tag (hg (sid, a)), flatMap_filter_absent hg hk, List.append_nil]
    · have hne : x.1 ≠ sid := fun hks => hk (show x.1 ∈ _ from hks ▸ List.mem_map.mpr ⟨(sid, a), h, rfl⟩)
      rw [filter_eq_nil_of_tag (hg x) hne, ih hnd' h, List.nil_append]

end Proofs.Keyed
