import TunnelModel.LFrame.Trace
import Proofs.Lemmas.ClientShape
import Proofs.Lemmas.ServerShape
import Proofs.Lemmas.ServerOps
import Proofs.Lemmas.Teardown
import Proofs.Lemmas.ClientOps
/-!
  C13 (protocol conformance), the clauses other than message framing: the frames a stream endpoint emits
  follow the documented protocol whatever the peer sends, whatever the application calls and whenever the
  context ends.  All statements are about `sframes (SStream.runEv cfg sid s0 evs).2`, resp.
  `cframes (CStream.runEv ..).2`, for ANY `evs`; `S1`..`S7` are the clauses for a server stream, `C1`..`C4`
  for a client stream.  S1 headers once, S2 one close, S4 no settings, S7 no window update in revision zero,
  C1 half-close/cancel once, C2 no `new_stream`, C4 no window update in revision zero.

  Where a hypothesis is needed (the counter-examples are evaluated at the end of the file):
  * S3 (headers before data) needs `psend = none`: from an unreachable state with a send in progress and no
    headers sent a window update emits data.
  * S5 (nothing follows the close frame of a stream whose handler ended): the contract is "no handler call
    after the return"; `SStream.legalSends` is not needed.  A handler that calls again after the peer
    cancelled does put data after the close frame (`headers, msg, close, msg`; unary: `headers, close, msg`,
    hence "not closed at the reply").
  * S6 (`new_stream`) is about a fresh id: an id in the table or not above `lastSeen` is not a rejection but
    a protocol error that ends the tunnel.
  * C3 (no data after the half-close) needs `legalCloseSend`: no `SendMsg` after `CloseSend`, and `CloseSend`
    only when no send is in progress.  `CStream.legalSends` does not imply the latter: with a send blocked on
    the window, `send, closeSend, windowUpdate` emits `msg, halfclose, more`.

  Proofs: a contract per building block (`SStep`; `CBlock`, `CStep`, `CEvFacts`) with exact accounting of
  headers / close / half-close frames against the state flags.  On the server it holds of every elementary
  change of `ServerOps.Step`, hence of every operation; on the client it is composed along the equations of
  `ClientOps`.  `run_rel` lifts a contract from events to runs.
-/
namespace Proofs.Conformance
open TunnelModel TunnelModel.LFrame TunnelModel.Framing

variable {α : Type}

namespace S
def isHeaders : S2C α → Bool | .headers _ => true | _ => false
def isClose : S2C α → Bool | .close _ _ => true | _ => false
def isData : S2C α → Bool | .msg _ _ => true | .more _ => true | _ => false
def isSettings : S2C α → Bool | .settings _ _ => true | _ => false
def isWindowUpdate : S2C α → Bool | .windowUpdate _ => true | _ => false
end S

namespace C
def isNewStream : C2S α → Bool | .newStream .. => true | _ => false
def isData : C2S α → Bool | .msg _ _ => true | .more _ => true | _ => false
def isHalfClose : C2S α → Bool | .halfClose => true | _ => false
def isCancel : C2S α → Bool | .cancel => true | _ => false
def isWindowUpdate : C2S α → Bool | .windowUpdate _ => true | _ => false
end C

def sframes (outs : List (Out α)) : List (S2C α) := outs.flatMap (fun o => o.frames.map (·.2))

def cframes (outs : List (COut α)) : List (C2S α) := outs.flatMap (fun o => o.frames.map (·.2))

def cnt {β : Type} (p : β → Bool) (l : List β) : Nat := (l.filter p).length

theorem cnt_def {β : Type} (p : β → Bool) (l : List β) : cnt p l = (l.filter p).length := rfl

@[simp] theorem cnt_nil {β : Type} (p : β → Bool) : cnt p [] = 0 := rfl

theorem cnt_append {β : Type} (p : β → Bool) (l1 l2 : List β) : cnt p (l1 ++ l2) = cnt p l1 + cnt p l2 := by
  simp [cnt, List.filter_append]

theorem cnt_cons {β : Type} (p : β → Bool) (a : β) (l : List β) :
    cnt p (a :: l) = (if p a then 1 else 0) + cnt p l := by
  simp only [cnt, List.filter_cons]
  split <;> simp <;> omega

theorem cnt_eq_zero {β : Type} (p : β → Bool) (l : List β) (h : ∀ f ∈ l, p f = false) : cnt p l = 0 := by
  induction l with
  | nil => rfl
  | cons a l ih =>
    rw [cnt_cons, ih (fun f hf => h f (List.mem_cons_of_mem _ hf)), h a (List.mem_cons_self ..)]
    rfl

theorem cnt_pos_of_any {β : Type} (p : β → Bool) (l : List β) (h : l.any p = true) : 0 < cnt p l := by
  obtain ⟨f, hf, hp⟩ := List.any_eq_true.mp h
  exact List.length_pos_of_mem (List.mem_filter.mpr ⟨hf, hp⟩)

theorem none_of_any {β : Type} {p : β → Bool} {l : List β} (h : l.any p = false) : ∀ f ∈ l, p f = false :=
  fun f hf => Bool.eq_false_iff.mpr (List.any_eq_false.mp h f hf)

theorem toNat_le_one (b : Bool) : b.toNat ≤ 1 := by cases b <;> decide

theorem flag_after {β : Type} {p : β → Bool} {b b' : Bool} {ks : List β} (h : cnt p ks + b.toNat = b'.toNat) :
    b' = (b || ks.any p) := by
  cases ha : ks.any p with
  | true =>
    have := cnt_pos_of_any p ks ha
    have := toNat_le_one b'
    rw [Bool.or_true]
    cases b' with
    | true => rfl
    | false => rw [Bool.toNat_false] at h; omega
  | false =>
    rw [cnt_eq_zero p ks (none_of_any ha), Nat.zero_add] at h
    rw [Bool.or_false]
    cases b <;> cases b' <;> first | rfl | cases h

theorem cnt_seq {β : Type} {p : β → Bool} {k1 k2 : List β} {x y z : Nat} (h1 : cnt p k1 + x = y) (h2 : cnt p k2 + y = z) :
    cnt p (k1 ++ k2) + x = z := by
  rw [cnt_append]; omega

theorem cnt_seq_le {β : Type} {p : β → Bool} {k1 k2 : List β} {x y z : Nat} (h1 : cnt p k1 + x ≤ y) (h2 : cnt p k2 + y ≤ z) :
    cnt p (k1 ++ k2) + x ≤ z := by
  rw [cnt_append]; omega

theorem cnt_le_one {β : Type} {p : β → Bool} {b b' : Bool} {ks : List β} (h : cnt p ks + b.toNat ≤ b'.toNat) :
    (ks.filter p).length ≤ 1 := by
  have := toNat_le_one b'
  rw [cnt_def] at h
  omega

theorem cnt_eq_flag {β : Type} {p : β → Bool} {b b' : Bool} {ks : List β} (h : cnt p ks + b.toNat = b'.toNat)
    (hb : b = false) : (ks.filter p).length = b'.toNat := by
  rw [hb] at h
  exact h

/-- `set f` raises the flag; `bad c f` says that `f` must not occur while the flag is `c`.  Both ordering
    clauses are instances: "headers before data" (`hdrFirst`: data is bad while the flag is down) and "no
    data after the half-close" (`noDataAfterHC`: data is bad once the flag is up). -/
def flagScan {β : Type} (bad : Bool → β → Bool) (set : β → Bool) : Bool → List β → Bool
  | _, [] => true
  | b, f :: fs => !bad b f && flagScan bad set (b || set f) fs

section
variable {β : Type} {bad : Bool → β → Bool} {set : β → Bool}

theorem flagScan_append : ∀ (b : Bool) (l1 l2 : List β),
    flagScan bad set b (l1 ++ l2) = (flagScan bad set b l1 && flagScan bad set (b || l1.any set) l2)
  | b, [], l2 => by rw [List.nil_append, List.any_nil, Bool.or_false]; rfl
  | b, f :: fs, l2 => by
    rw [List.cons_append, flagScan, flagScan, flagScan_append _ fs l2, List.any_cons, Bool.and_assoc, Bool.or_assoc]

theorem flagScan_of_ok : ∀ (b : Bool) (l : List β), (∀ f ∈ l, ∀ c, bad c f = false) → flagScan bad set b l = true
  | _, [], _ => rfl
  | b, f :: fs, h => by
    rw [flagScan, h f (List.mem_cons_self ..), flagScan_of_ok _ fs (fun g hg => h g (List.mem_cons_of_mem _ hg))]
    rfl

theorem flagScan_const : ∀ (b : Bool) (l : List β), (∀ f ∈ l, bad b f = false ∧ (b || set f) = b) →
    flagScan bad set b l = true
  | _, [], _ => rfl
  | b, f :: fs, h => by
    rw [flagScan, (h f (List.mem_cons_self ..)).1, (h f (List.mem_cons_self ..)).2,
      flagScan_const b fs (fun g hg => h g (List.mem_cons_of_mem _ hg))]
    rfl

theorem flagScan_true : ∀ (l : List β), flagScan bad set true l = true → ∀ g ∈ l, bad true g = false
  | f :: fs, h, g, hg => by
    rw [flagScan, Bool.true_or, Bool.and_eq_true, Bool.not_eq_true'] at h
    rcases List.mem_cons.mp hg with rfl | hg
    · exact h.1
    · exact flagScan_true fs h.2 g hg

theorem flagScan_mid {b : Bool} {pre post : List β} {f : β} (h : flagScan bad set b (pre ++ f :: post) = true) :
    bad (b || pre.any set) f = false ∧ flagScan bad set (b || pre.any set || set f) post = true := by
  rw [flagScan_append, flagScan, Bool.and_eq_true, Bool.and_eq_true, Bool.not_eq_true'] at h
  exact h.2

end

/-- A step contract composes along a run.  `run` folds `step` over the events and collects the outputs
    (`SStream.runEv`, `CStream.runEv`, `Srv.run`); `fr` is what one output contributes to the flattened
    list; `R` relates the state before, the state after and that list. -/
theorem run_rel {σ ε ω β : Type} {step : σ → ε → σ × ω} {run : σ → List ε → σ × List ω} {fr : ω → List β}
    (run_nil : ∀ s, run s [] = (s, []))
    (run_cons : ∀ s e es, run s (e :: es) = ((run (step s e).1 es).1, (step s e).2 :: (run (step s e).1 es).2))
    {R : σ → σ → List β → Prop} {ok : ε → Prop}
    (refl : ∀ s, R s s []) (seq : ∀ {s a b k1 k2}, R s a k1 → R a b k2 → R s b (k1 ++ k2))
    (hstep : ∀ s e, ok e → R s (step s e).1 (fr (step s e).2)) :
    ∀ (evs : List ε) (s : σ), (∀ e ∈ evs, ok e) → R s (run s evs).1 ((run s evs).2.flatMap fr)
  | [], s, _ => by rw [run_nil]; exact refl s
  | e :: es, s, h => by
    rw [run_cons, List.flatMap_cons]
    exact seq (hstep s e (h e (List.mem_cons_self ..)))
      (run_rel run_nil run_cons refl seq hstep es _ (fun x hx => h x (List.mem_cons_of_mem _ hx)))

def kinds (o : Out α) : List (S2C α) := o.frames.map (·.2)

theorem kinds_add (a b : Out α) : kinds (a.add b) = kinds a ++ kinds b := by
  simp [kinds, Out.add]

@[simp] theorem kinds_empty : kinds ({} : Out α) = [] := rfl

theorem kinds_of_frames_nil (o : Out α) (h : o.frames = []) : kinds o = [] := by
  simp [kinds, h]

/-- a send is in progress only after the headers went out -/
def Inv (s : SStream α) : Prop := s.psend.isSome = true → s.sentHeaders = true

/-- "headers precede data": `b` = the headers have been sent before this list starts -/
def hdrFirst : Bool → List (S2C α) → Bool
  | _, [] => true
  | b, f :: fs => (!S.isData f || b) && hdrFirst (b || S.isHeaders f) fs

theorem hdrFirst_eq : ∀ (b : Bool) (l : List (S2C α)),
    hdrFirst b l = flagScan (fun c f => S.isData f && !c) S.isHeaders b l
  | _, [] => rfl
  | b, f :: fs => by
    rw [hdrFirst, flagScan, hdrFirst_eq _ fs, Bool.not_and, Bool.not_not]

/-- The contract of a building block of the write side that takes the stream from `s` to `s'` and emits
    `ks`: headers and close frames are accounted exactly against the flags `sentHeaders` / `closed` (which
    therefore never go back to `false`), and under `Inv` no data frame comes before the headers. -/
structure SStep (s s' : SStream α) (ks : List (S2C α)) : Prop where
  fc : s'.fc = s.fc
  hdr : cnt S.isHeaders ks + s.sentHeaders.toNat = s'.sentHeaders.toNat
  cls : cnt S.isClose ks + s.closed.toNat = s'.closed.toNat
  inv : Inv s → Inv s'
  first : Inv s → hdrFirst s.sentHeaders ks = true
  noSet : ∀ f ∈ ks, S.isSettings f = false
  noWU : s.fc = false → ∀ f ∈ ks, S.isWindowUpdate f = false

theorem SStep.seq {s a b : SStream α} {k1 k2 : List (S2C α)} (h1 : SStep s a k1) (h2 : SStep a b k2) :
    SStep s b (k1 ++ k2) := by
  refine ⟨h2.fc.trans h1.fc, cnt_seq h1.hdr h2.hdr, cnt_seq h1.cls h2.cls, fun hi => h2.inv (h1.inv hi), fun hi => ?_,
    List.forall_mem_append.mpr ⟨h1.noSet, h2.noSet⟩,
    fun hfc => List.forall_mem_append.mpr ⟨h1.noWU hfc, h2.noWU (h1.fc.trans hfc)⟩⟩
  · have a := h1.first hi
    have b := h2.first (h1.inv hi)
    rw [hdrFirst_eq] at a b ⊢
    rw [flagScan_append, a, ← flag_after h1.hdr, b]; rfl

theorem SStep.leaf {s s' : SStream α} {ks : List (S2C α)}
    (hfc : s'.fc = s.fc) (hsh : s'.sentHeaders = s.sentHeaders) (hcl : s'.closed = s.closed)
    (hk : ∀ f ∈ ks, S.isHeaders f = false ∧ S.isClose f = false ∧ S.isSettings f = false ∧
      (s.fc = false → S.isWindowUpdate f = false))
    (hd : Inv s → s.sentHeaders = true ∨
      ((∀ f ∈ ks, S.isData f = false) ∧ (s'.psend.isSome = true → s.psend.isSome = true))) :
    SStep s s' ks := by
  refine ⟨hfc, ?_, ?_, fun hi hp => ?_, fun hi => ?_, fun f hf => (hk f hf).2.2.1, fun h f hf => (hk f hf).2.2.2 h⟩
  · rw [cnt_eq_zero _ _ (fun f hf => (hk f hf).1), hsh]; omega
  · rw [cnt_eq_zero _ _ (fun f hf => (hk f hf).2.1), hcl]; omega
  · rw [hsh]
    rcases hd hi with h | ⟨_, h⟩
    · exact h
    · exact hi (h hp)
  · rw [hdrFirst_eq]
    rcases hd hi with h | ⟨h, _⟩
    · rw [h]; exact flagScan_const _ _ (fun f _ => ⟨Bool.and_false _, rfl⟩)
    · exact flagScan_of_ok _ _ (fun f hf c => by rw [h f hf]; rfl)

theorem SStep.silent {s s' : SStream α}
    (hfc : s'.fc = s.fc) (hsh : s'.sentHeaders = s.sentHeaders) (hcl : s'.closed = s.closed)
    (hps : s'.psend.isSome = true → s.psend.isSome = true) : SStep s s' [] :=
  SStep.leaf hfc hsh hcl (fun f hf => by cases hf) (fun _ => Or.inr ⟨fun f hf => (by cases hf), hps⟩)

theorem SStep.refl (s : SStream α) : SStep s s [] := SStep.silent rfl rfl rfl (fun h => h)

theorem SStep.quiet {s s' : SStream α}
    (hfc : s'.fc = s.fc) (hsh : s'.sentHeaders = s.sentHeaders) (hcl : s'.closed = s.closed)
    (hps : s'.psend = s.psend) : SStep s s' [] :=
  SStep.silent hfc hsh hcl (by rw [hps]; exact fun h => h)

theorem SStep.nil_right {s s' : SStream α} {ks : List (S2C α)} (h : SStep s s' (ks ++ [])) : SStep s s' ks := by
  rwa [List.append_nil] at h

theorem SStep.headers {s s' : SStream α} (md : MD) (h : s.sentHeaders = false) (hfc : s'.fc = s.fc)
    (hsh : s'.sentHeaders = true) (hcl : s'.closed = s.closed) : SStep s s' [S2C.headers md] :=
  ⟨hfc, by rw [h, hsh]; rfl, by rw [hcl]; exact Nat.zero_add _, fun _ _ => hsh, fun _ => by rw [h]; rfl,
    none_of_any rfl, fun _ => none_of_any rfl⟩

theorem credit_step {s s' : SStream α} (sid : Sid) (credits : List Nat)
    (hfc : s'.fc = s.fc) (hsh : s'.sentHeaders = s.sentHeaders) (hcl : s'.closed = s.closed)
    (hps : s'.psend.isSome = true → s.psend.isSome = true) :
    SStep s s' ((s.creditFrames sid credits).map (·.2)) := by
  have hwu : ∀ f ∈ (s.creditFrames sid credits).map (·.2), ∃ n, f = S2C.windowUpdate n ∧ s.fc = true := by
    intro f hf
    unfold SStream.creditFrames at hf
    split at hf
    · rename_i h
      obtain ⟨x, hx, rfl⟩ := List.mem_map.mp hf
      obtain ⟨n, -, rfl⟩ := List.mem_map.mp hx
      exact ⟨n, rfl, (Bool.and_eq_true _ _ ▸ h).1⟩
    · cases hf
  refine SStep.leaf hfc hsh hcl (fun f hf => ?_) (fun _ => Or.inr ⟨fun f hf => ?_, hps⟩)
  · obtain ⟨n, rfl, h⟩ := hwu f hf
    exact ⟨rfl, rfl, rfl, fun h0 => by rw [h0] at h; cases h⟩
  · obtain ⟨n, rfl, -⟩ := hwu f hf
    rfl

theorem finishCore_keeps (sid : Sid) (s : SStream α) (err : Option SErr) :
    (s.finishCore sid err).1.psend = s.psend ∧ (s.finishCore sid err).1.pread = s.pread ∧
    (s.finishCore sid err).1.ctxDone = s.ctxDone ∧ (s.finishCore sid err).1.fc = s.fc ∧
    (s.finishCore sid err).1.finishAfterSend = s.finishAfterSend ∧
    (s.finishCore sid err).1.hstatus = s.hstatus := by
  rw [ServerOps.finishCore_fst]
  exact ⟨rfl, rfl, rfl, rfl, rfl, rfl⟩

theorem finishCore_flags (sid : Sid) (s : SStream α) (err : Option SErr) :
    (s.finishCore sid err).1.closed = true ∧ (s.finishCore sid err).1.sentHeaders = (!s.closed || s.sentHeaders) := by
  rw [ServerOps.finishCore_fst]
  exact ⟨rfl, rfl⟩

theorem finishCore_kinds (sid : Sid) (s : SStream α) (err : Option SErr) (hc : s.closed = false) :
    kinds (s.finishCore sid err).2 =
      (if s.sentHeaders then [] else [S2C.headers s.headers]) ++ [S2C.close (SErr.wireStatus err) s.trailers] := by
  rw [ServerOps.finishCore_snd, if_neg (by rw [hc]; exact Bool.false_ne_true)]
  cases s.sentHeaders <;> rfl

theorem finishCore_step (sid : Sid) (s : SStream α) (err : Option SErr) :
    SStep s (s.finishCore sid err).1 (kinds (s.finishCore sid err).2) := by
  have hk := finishCore_keeps sid s err
  obtain ⟨hcl, hsh⟩ := finishCore_flags sid s err
  cases hc : s.closed with
  | true =>
    rw [kinds_of_frames_nil _ (ServerShape.finishCore_frames_of_closed sid s err hc)]
    exact SStep.quiet hk.2.2.2.1 (by rw [hsh, hc]; rfl) (by rw [hcl, hc]) hk.1
  | false =>
    rw [hc] at hsh
    rw [finishCore_kinds sid s err hc]
    refine ⟨hk.2.2.2.1, ?_, ?_, fun _ _ => hsh, fun _ => ?_, none_of_any ?_, fun _ => none_of_any ?_⟩
    · rw [hsh]; cases s.sentHeaders <;> rfl
    · rw [hcl, hc]; cases s.sentHeaders <;> rfl
    all_goals cases s.sentHeaders <;> rfl

theorem SStep.pre {s s0 s' : SStream α} {ks : List (S2C α)} (h : SStep s0 s' ks) (hfc : s0.fc = s.fc)
    (hsh : s0.sentHeaders = s.sentHeaders) (hcl : s0.closed = s.closed)
    (hps : s0.psend.isSome = true → s.psend.isSome = true) : SStep s s' ks :=
  (SStep.silent (s := s) (s' := s0) hfc hsh hcl hps).seq h

theorem cancelCtx_step (sid : Sid) (s : SStream α) (e : CtxErr) :
    SStep s (s.cancelCtx sid e).1 (kinds (s.cancelCtx sid e).2) := by
  have send : ∀ x : SStream α, SStep x (ServerOps.ccSend sid x e).1 (kinds (ServerOps.ccSend sid x e).2) := fun x =>
    ServerOps.ccSend_elim (motive := fun r => SStep x r.1 (kinds r.2)) sid x e (fun _ => SStep.refl x)
      (fun _ _ _ => (finishCore_step sid _ _).pre rfl rfl rfl (fun h => (by cases h)))
      (fun _ _ _ => SStep.silent rfl rfl rfl (fun h => (by cases h)))
  have read : ∀ x : SStream α, SStep x (ServerOps.ccRead sid x e).1 (kinds (ServerOps.ccRead sid x e).2) := fun x =>
    ServerOps.ccRead_elim (motive := fun r => SStep x r.1 (kinds r.2)) sid x e (fun _ => SStep.refl x)
      (fun _ _ _ => (finishCore_step sid ({ x with pread := none, readErr := some (.ctx e), hstatus := .returned })
        (some (.ctx e))).pre (s := x) rfl rfl rfl (fun h => h))
      (fun _ _ _ => SStep.quiet rfl rfl rfl rfl)
  cases h : s.ctxDone with
  | some c => rw [ServerOps.cancelCtx_of_done sid e (by rw [h]; rfl)]; exact SStep.refl s
  | none =>
    rw [ServerOps.cancelCtx_of_open sid e h]
    dsimp only
    rw [kinds_add, kinds_add]
    exact ((SStep.quiet (s := s) (s' := ServerOps.ctxMark s e) rfl rfl rfl rfl).seq (send _)).seq (read _)

/-- what `finishStream` emits is what its `finishCore` emits: the end of the context that follows finds the
    stream closed -/
theorem finish_kinds (sid : Sid) (s : SStream α) (err : Option SErr) (b : Bool) :
    kinds (s.finish sid err b).2 = kinds (s.finishCore sid (ServerOps.finishErr s err b)).2 :=
  congrArg (List.map (fun f : Sid × S2C α => f.2)) (Teardown.finish_frames_eq sid s err b)

theorem finish_step (sid : Sid) (s : SStream α) (err : Option SErr) (b : Bool) :
    SStep s (s.finish sid err b).1 (kinds (s.finish sid err b).2) := by
  have h := (finishCore_step sid s (ServerOps.finishErr s err b)).seq (cancelCtx_step sid _ .canceled)
  rw [kinds_of_frames_nil _ (Teardown.cancelCtx_frames_of_closed sid _ .canceled (finishCore_flags sid s _).1),
    List.append_nil] at h
  rw [finish_kinds, ServerOps.finish_eq]
  exact h

theorem data_step {s : SStream α} (sid : Sid) (snd : Snd α) (fs : List (DFrame α)) (w : Nat) (ps : Option (Snd α))
    (ds : List (Sid × String × Res α)) (hg : s.psend = some snd ∨ s.sentHeaders = true) :
    SStep s { s with win := w, psend := ps }
      (kinds { frames := fs.map (fun f => (sid, dframeToS2C f)), dones := ds }) := by
  refine SStep.leaf rfl rfl rfl (fun f hf => ?_) (fun hi => Or.inl ?_)
  · obtain ⟨x, hx, rfl⟩ := List.mem_map.mp hf
    obtain ⟨d, -, rfl⟩ := List.mem_map.mp hx
    cases d <;> exact ⟨rfl, rfl, rfl, fun _ => rfl⟩
  · rcases hg with h | h
    · exact hi (by rw [h]; rfl)
    · exact h

theorem SStep.of_step {pumps : Bool} {cfg : SCfg} {sid : Sid} {s s' : SStream α} {o : Out α}
    (h : ServerOps.Step pumps cfg sid s s' o) : SStep s s' (kinds o) := by
  induction h with
  | refl s => exact SStep.refl s
  | seq _ _ ih₁ ih₂ => rw [kinds_add]; exact ih₁.seq ih₂
  | halfClose s e => rw [ServerOps.halfClose_eq]; exact SStep.quiet rfl rfl rfl rfl
  | finish s err b => exact finish_step sid s err b
  | retFinish s keep err =>
    exact (finish_step sid ({ s with finishAfterSend := keep && s.finishAfterSend, hstatus := .returned }) err
      false).pre (s := s) rfl rfl rfl (fun h => h)
  | cancelCtx s e => exact cancelCtx_step sid s e
  | sentAll s snd fs w _ hg _ => exact data_step sid snd fs w none _ hg
  | sendAborted s snd _ fs w _ _ _ hg _ => exact data_step sid snd fs w none _ hg
  | sendPending s snd snd' fs w _ _ hg _ => exact data_step sid snd fs w (some snd') [] hg
  | dropSend _ _ _ ih => exact ih
  | drained s p rwin q credits _ _ _ => exact credit_step sid credits rfl rfl rfl (fun h => h)
  | hdr s h => exact SStep.headers _ h rfl rfl rfl
  | sendHeader s md h => exact SStep.headers _ h rfl rfl rfl
  | _ => exact SStep.quiet rfl rfl rfl rfl

theorem stepEv_step (cfg : SCfg) (sid : Sid) (s : SStream α) (ev : SEv α) :
    SStep s (s.stepEv cfg sid ev).1 (kinds (s.stepEv cfg sid ev).2) :=
  SStep.of_step (ServerOps.Step.stepEv (pumps := true) s ev (fun _ => rfl))

theorem sframes_cons (o : Out α) (os : List (Out α)) : sframes (o :: os) = kinds o ++ sframes os := by
  simp [sframes, kinds]

theorem sframes_append (a b : List (Out α)) : sframes (a ++ b) = sframes a ++ sframes b := by
  simp [sframes]

theorem runEv_step (cfg : SCfg) (sid : Sid) (evs : List (SEv α)) (s : SStream α) :
    SStep s (SStream.runEv cfg sid s evs).1 (sframes (SStream.runEv cfg sid s evs).2) :=
  run_rel (step := fun s e => s.stepEv cfg sid e) (run := SStream.runEv cfg sid) (fr := kinds) (fun _ => rfl)
    (fun _ _ _ => rfl) SStep.refl SStep.seq (fun s e _ => stepEv_step cfg sid s e) evs s (fun _ _ => trivial)

/-- a freshly created server stream (the object `Srv.createStream` builds, `S6_accepted`) -/
def SFresh (s : SStream α) : Prop := s.sentHeaders = false ∧ s.closed = false ∧ s.psend = none

theorem SFresh.inv {s : SStream α} (h : SFresh s) : Inv s := fun hp => by
  rw [h.2.2] at hp; cases hp

theorem S1_at_most_one_headers (cfg : SCfg) (sid : Sid) (s0 : SStream α) (evs : List (SEv α)) :
    ((sframes (SStream.runEv cfg sid s0 evs).2).filter S.isHeaders).length ≤ 1 :=
  cnt_le_one (Nat.le_of_eq (runEv_step cfg sid evs s0).hdr)

theorem S1_headers_iff_flag (cfg : SCfg) (sid : Sid) (s0 : SStream α) (h0 : s0.sentHeaders = false)
    (evs : List (SEv α)) :
    ((sframes (SStream.runEv cfg sid s0 evs).2).filter S.isHeaders).length =
      (SStream.runEv cfg sid s0 evs).1.sentHeaders.toNat :=
  cnt_eq_flag (runEv_step cfg sid evs s0).hdr h0

theorem S2_at_most_one_close (cfg : SCfg) (sid : Sid) (s0 : SStream α) (evs : List (SEv α)) :
    ((sframes (SStream.runEv cfg sid s0 evs).2).filter S.isClose).length ≤ 1 :=
  cnt_le_one (Nat.le_of_eq (runEv_step cfg sid evs s0).cls)

theorem S2_close_iff_flag (cfg : SCfg) (sid : Sid) (s0 : SStream α) (h0 : s0.closed = false)
    (evs : List (SEv α)) :
    ((sframes (SStream.runEv cfg sid s0 evs).2).filter S.isClose).length =
      (SStream.runEv cfg sid s0 evs).1.closed.toNat :=
  cnt_eq_flag (runEv_step cfg sid evs s0).cls h0

theorem S2_exactly_one_close (cfg : SCfg) (sid : Sid) (s0 : SStream α) (h0 : s0.closed = false)
    (evs : List (SEv α)) (hc : (SStream.runEv cfg sid s0 evs).1.closed = true) :
    ((sframes (SStream.runEv cfg sid s0 evs).2).filter S.isClose).length = 1 := by
  rw [S2_close_iff_flag cfg sid s0 h0, hc]; rfl

theorem S3_headers_before_data (cfg : SCfg) (sid : Sid) (s0 : SStream α) (h0 : SFresh s0)
    (evs : List (SEv α)) :
    ∀ pre f post, sframes (SStream.runEv cfg sid s0 evs).2 = pre ++ f :: post → S.isData f = true →
      ∃ h ∈ pre, S.isHeaders h = true := by
  intro pre f post hfs hd
  have h := (runEv_step cfg sid evs s0).first h0.inv
  rw [hdrFirst_eq, hfs, h0.1] at h
  have h1 := (flagScan_mid h).1
  rw [hd, Bool.true_and, Bool.not_eq_false', Bool.false_or] at h1
  exact List.any_eq_true.mp h1

theorem S4_no_settings (cfg : SCfg) (sid : Sid) (s0 : SStream α) (evs : List (SEv α)) :
    (sframes (SStream.runEv cfg sid s0 evs).2).all (fun f => !S.isSettings f) = true := by
  rw [List.all_eq_true]
  intro f hf
  rw [(runEv_step cfg sid evs s0).noSet f hf]; rfl

theorem S7_no_window_update (cfg : SCfg) (sid : Sid) (s0 : SStream α) (h0 : s0.fc = false)
    (evs : List (SEv α)) :
    (sframes (SStream.runEv cfg sid s0 evs).2).all (fun f => !S.isWindowUpdate f) = true := by
  rw [List.all_eq_true]
  intro f hf
  rw [(runEv_step cfg sid evs s0).noWU h0 f hf]; rfl

/-- what `finishStream` leaves when nothing is pending (a server stream; `ClientShape.Settled` is the
    client's notion) -/
def Settled (s : SStream α) : Prop :=
  s.closed = true ∧ s.psend = none ∧ s.ctxDone.isSome = true ∧ s.pread = none

/-- once the stream context has ended, no handler call is blocked (`finishStream` cancels the
    context; the context watcher releases a blocked send and a blocked read).
    `Teardown.NB` with the two conjuncts the other way round. -/
def J (s : SStream α) : Prop := s.ctxDone.isSome = true → s.psend = none ∧ s.pread = none

theorem J.nb {s : SStream α} (h : J s) : Teardown.NB s := fun hc => (h hc).symm

theorem J.of_nb {s : SStream α} (h : Teardown.NB s) : J s := fun hc => (h hc).symm

theorem J.of_open {s : SStream α} (h : s.ctxDone = none) : J s := fun hc => by
  rw [h] at hc; cases hc

theorem J.of_fields {s s' : SStream α} (h : J s) (h1 : s'.ctxDone = s.ctxDone) (h2 : s'.psend = s.psend)
    (h3 : s'.pread = s.pread) : J s' := fun hc => by
  rw [h1] at hc
  exact ⟨h2.trans (h hc).1, h3.trans (h hc).2⟩

theorem J.of_clear {s : SStream α} (h1 : s.psend = none) (h2 : s.pread = none) : J s := fun _ => ⟨h1, h2⟩

theorem finish_settles_J (sid : Sid) (s : SStream α) (err : Option SErr) (b : Bool) (h : J s) :
    Settled (s.finish sid err b).1 := by
  have hn := Teardown.finish_nb sid s err b h.nb
  have hc : (s.finish sid err b).1.ctxDone.isSome = true := by
    rw [ServerOps.finish_eq]
    exact (ServerShape.cancelCtx_released sid _ _).1
  exact ⟨(ServerShape.finish_closed sid s err b).1, (hn hc).2, hc, (hn hc).1⟩

theorem pumpSend_shape' (cfg : SCfg) (sid : Sid) (s : SStream α) (snd : Snd α) :
    ∃ (w : Nat) (ps : Option (Snd α)), (s.pumpSend cfg sid snd).1 = { s with win := w, psend := ps } ∧
      (ps.isSome = true → s.ctxDone = none) := by
  refine ⟨_, _, ServerOps.pumpSend_fst cfg sid s snd, fun h => ?_⟩
  cases hc : s.ctxDone with
  | none => rfl
  | some c => rw [hc] at h; cases h

theorem pumpSend_J (cfg : SCfg) (sid : Sid) (s : SStream α) (snd : Snd α) (h : J s) :
    J (s.pumpSend cfg sid snd).1 := by
  rw [ServerOps.pumpSend_fst]
  exact fun hc => ⟨if_pos hc, (h hc).2⟩

theorem J.of_step {pumps : Bool} {cfg : SCfg} {sid : Sid} {s s' : SStream α} {o : Out α}
    (hs : ServerOps.Step pumps cfg sid s s' o) (h : J s) : J s' :=
  .of_nb (Teardown.NB.of_step hs h.nb)

theorem stepEv_J (cfg : SCfg) (sid : Sid) (s : SStream α) (ev : SEv α) (h : J s) : J (s.stepEv cfg sid ev).1 :=
  J.of_step (ServerOps.Step.stepEv (pumps := true) s ev (fun _ => rfl)) h

theorem runEv_J (cfg : SCfg) (sid : Sid) (evs : List (SEv α)) (s : SStream α) :
    J s → J (SStream.runEv cfg sid s evs).1 :=
  ServerOps.runEv_keeps (fun s ev => stepEv_J cfg sid s ev) evs s

theorem ret_settles_J (cfg : SCfg) (sid : Sid) (s : SStream α) (st : Status) (h : J s) :
    Settled (s.onCall cfg sid (.ret st)).1 :=
  finish_settles_J sid _ _ false (h.of_fields rfl rfl rfl)

theorem finish_settled (sid : Sid) (s : SStream α) (err : Option SErr) (b : Bool) (h : Settled s) :
    (s.finish sid err b).2.frames = [] ∧ Settled (s.finish sid err b).1 :=
  ⟨Teardown.finish_frames_of_closed sid s err b h.1, finish_settles_J sid s err b (J.of_clear h.2.1 h.2.2.2)⟩

theorem readAndSettle_none (sid : Sid) (s : SStream α) (h : s.pread = none) :
    s.readAndSettle sid = (s, {}) := by
  rw [ServerOps.readAndSettle_eq, ServerOps.resumeRead_none sid "" 3 h, ServerOps.afterDecode_eq]
  split <;> rfl

/-- the fields the handler's calls and the wire depend on are the same -/
structure Idle (s s' : SStream α) : Prop where
  closed : s'.closed = s.closed
  psend : s'.psend = s.psend
  fas : s'.finishAfterSend = s.finishAfterSend
  pread : s'.pread = s.pread
  ctx : s'.ctxDone = s.ctxDone

theorem Settled.idle {s s' : SStream α} (h : Settled s) (hi : Idle s s') : Settled s' :=
  ⟨hi.closed.trans h.1, hi.psend.trans h.2.1, by rw [hi.ctx]; exact h.2.2.1, hi.pread.trans h.2.2.2⟩

theorem Idle.refl (s : SStream α) : Idle s s := ⟨rfl, rfl, rfl, rfl, rfl⟩

theorem dataFrame_cases (sid : Sid) (s : SStream α) (df : DFrame α) (hpr : s.pread = none) :
    (∃ s', ServerOps.dataFrame sid s df = (s', {}) ∧ Idle s s') ∨
    (∃ err, ServerOps.dataFrame sid s df = s.finish sid err true) := by
  have rs : ∀ x : SStream α, x.pread = s.pread → Idle s x → (∃ s', x.readAndSettle sid = (s', {}) ∧ Idle s s') :=
    fun x hx hi => ⟨x, readAndSettle_none sid x (hx.trans hpr), hi⟩
  unfold ServerOps.dataFrame
  cases hfc : s.fc with
  | true =>
    rw [if_pos rfl]
    rcases hacc : s.rcv.accept df with ⟨r, a⟩
    cases a with
    | dropped => exact Or.inl ⟨s, rfl, Idle.refl s⟩
    | windowExceeded => exact Or.inr ⟨_, rfl⟩
    | ok => exact Or.inl (rs _ rfl ⟨rfl, rfl, rfl, rfl, rfl⟩)
  | false =>
    rw [if_neg Bool.false_ne_true]
    cases s.rcv.closed with
    | true => exact Or.inl ⟨s, rfl, Idle.refl s⟩
    | false =>
      rw [if_neg Bool.false_ne_true]
      cases (!s.rcv.queue.isEmpty) with
      | true => exact Or.inl ⟨_, rfl, ⟨rfl, rfl, rfl, rfl, rfl⟩⟩
      | false => exact Or.inl (rs _ rfl ⟨rfl, rfl, rfl, rfl, rfl⟩)

theorem onFrame_cases (cfg : SCfg) (sid : Sid) (s : SStream α) (f : C2S α) (hpr : s.pread = none) :
    (∃ s', s.onFrame cfg sid f = (s', {}) ∧ Idle s s') ∨
    (∃ err, s.onFrame cfg sid f = s.finish sid err true) ∨
    (∃ n snd, s.psend = some snd ∧
      s.onFrame cfg sid f =
        (({ s with win := wrap32 (s.win + n) } : SStream α).pumpSend cfg sid snd).1.afterSend sid
          (({ s with win := wrap32 (s.win + n) } : SStream α).pumpSend cfg sid snd).2) := by
  cases f with
  | newStream m md rev win => rw [ServerOps.onFrame_newStream]; exact Or.inl ⟨s, rfl, Idle.refl s⟩
  | msg size d =>
    rw [ServerOps.onFrame_msg]
    exact (dataFrame_cases sid s _ hpr).elim Or.inl (fun h => Or.inr (Or.inl h))
  | more d =>
    rw [ServerOps.onFrame_more]
    exact (dataFrame_cases sid s _ hpr).elim Or.inl (fun h => Or.inr (Or.inl h))
  | halfClose =>
    rw [ServerOps.onFrame_halfClose]
    split
    · exact Or.inl ⟨s, rfl, Idle.refl s⟩
    · rw [ServerOps.halfClose_eq, readAndSettle_none sid _ (by exact hpr)]
      exact Or.inl ⟨_, rfl, ⟨rfl, rfl, rfl, rfl, rfl⟩⟩
  | cancel => rw [ServerOps.onFrame_cancel]; exact Or.inr (Or.inl ⟨_, rfl⟩)
  | unset => rw [ServerOps.onFrame_unset]; exact Or.inr (Or.inl ⟨_, rfl⟩)
  | windowUpdate n =>
    rw [ServerOps.onFrame_windowUpdate]
    split
    · exact Or.inl ⟨s, rfl, Idle.refl s⟩
    · split
      · exact Or.inl ⟨_, rfl, ⟨rfl, rfl, rfl, rfl, rfl⟩⟩
      · rename_i snd hs
        exact Or.inr (Or.inr ⟨n, snd, hs, rfl⟩)

def SEv.isCall : SEv α → Bool
  | .call _ => true
  | _ => false

theorem S5_settled_step (cfg : SCfg) (sid : Sid) (s : SStream α) (ev : SEv α) (h : Settled s)
    (hev : SEv.isCall ev = false) :
    (s.stepEv cfg sid ev).2.frames = [] ∧ Settled (s.stepEv cfg sid ev).1 := by
  cases ev with
  | frame f =>
    show (s.onFrame cfg sid f).2.frames = [] ∧ Settled (s.onFrame cfg sid f).1
    rcases onFrame_cases cfg sid s f h.2.2.2 with ⟨s', he, hi⟩ | ⟨err, he⟩ | ⟨n, snd, hs, -⟩
    · rw [he]; exact ⟨rfl, h.idle hi⟩
    · rw [he]; exact finish_settled sid s _ _ h
    · rw [h.2.1] at hs; cases hs
  | call c => cases hev
  | ctx e =>
    show (s.cancelCtx sid e).2.frames = [] ∧ Settled (s.cancelCtx sid e).1
    rw [ServerOps.cancelCtx_of_done sid e h.2.2.1]
    exact ⟨rfl, h⟩

theorem S5_settled_run (cfg : SCfg) (sid : Sid) (evs : List (SEv α)) : ∀ (s : SStream α), Settled s →
    (∀ ev ∈ evs, SEv.isCall ev = false) →
    sframes (SStream.runEv cfg sid s evs).2 = [] ∧ Settled (SStream.runEv cfg sid s evs).1 :=
  fun s h hev =>
  run_rel (step := fun s e => s.stepEv cfg sid e) (run := SStream.runEv cfg sid) (fr := kinds)
    (R := fun s s' ks => Settled s → ks = [] ∧ Settled s') (fun _ => rfl) (fun _ _ _ => rfl)
    (fun _ h => ⟨rfl, h⟩)
    (fun h1 h2 h => by obtain ⟨rfl, ha⟩ := h1 h; exact h2 ha)
    (fun s e he h => ⟨kinds_of_frames_nil _ (S5_settled_step cfg sid s e h he).1, (S5_settled_step cfg sid s e h he).2⟩)
    evs s hev h

theorem ret_settles (cfg : SCfg) (sid : Sid) (s : SStream α) (st : Status)
    (hps : s.psend = none) (hpr : s.pread = none) : Settled (s.onCall cfg sid (.ret st)).1 :=
  ret_settles_J cfg sid s st (J.of_clear hps hpr)

theorem ret_frames (cfg : SCfg) (sid : Sid) (s : SStream α) (st : Status) (hc : s.closed = false) :
    kinds (s.onCall cfg sid (.ret st)).2 =
      (if s.sentHeaders then [] else [S2C.headers s.headers]) ++
        [S2C.close (SErr.wireStatus (if st.code = 0 then none else some (.status st))) s.trailers] := by
  rw [kinds, Teardown.ret_frames cfg sid s st hc]
  cases s.sentHeaders <;> rfl

def EndsWithClose (ks : List (S2C α)) : Prop := ∃ hd c, ks = hd ++ [c] ∧ S.isClose c = true

theorem EndsWithClose.prepend {l2 : List (S2C α)} (l1 : List (S2C α)) (h : EndsWithClose l2) :
    EndsWithClose (l1 ++ l2) := by
  obtain ⟨hd, c, rfl, hc⟩ := h
  exact ⟨l1 ++ hd, c, by rw [List.append_assoc], hc⟩

theorem cnt_cons_true {β : Type} (p : β → Bool) (a : β) (l : List β) (h : p a = true) :
    cnt p (a :: l) = 1 + cnt p l := by
  rw [cnt_cons, h]; rfl

theorem EndsWithClose.nothing_after {fs : List (S2C α)} (h : EndsWithClose fs) (h1 : cnt S.isClose fs ≤ 1) :
    ∀ a f b, fs = a ++ f :: b → S.isClose f = true → b = [] := by
  intro a f b hfs hf
  obtain ⟨hd, c, rfl, hc⟩ := h
  rcases List.eq_nil_or_concat b with hb | ⟨b', z, hb⟩
  · exact hb
  · exfalso
    rw [List.concat_eq_append] at hb
    subst hb
    have h2 : hd ++ [c] = (a ++ f :: b') ++ [z] := by rw [hfs]; simp
    obtain ⟨h3, h4⟩ := List.append_inj' h2 rfl
    rw [h3, cnt_append, cnt_append, cnt_cons_true _ _ _ hf, cnt_cons_true _ _ _ hc] at h1
    omega

theorem ret_run (cfg : SCfg) (sid : Sid) (s0 : SStream α) (pre post : List (SEv α)) (st : Status)
    (hset : Settled ((SStream.runEv cfg sid s0 pre).1.onCall cfg sid (.ret st)).1)
    (hpost : ∀ ev ∈ post, SEv.isCall ev = false) :
    Settled (SStream.runEv cfg sid s0 (pre ++ .call (.ret st) :: post)).1 ∧
    sframes (SStream.runEv cfg sid s0 (pre ++ .call (.ret st) :: post)).2 =
      sframes (SStream.runEv cfg sid s0 pre).2 ++
        kinds ((SStream.runEv cfg sid s0 pre).1.onCall cfg sid (.ret st)).2 := by
  have hrun := S5_settled_run cfg sid post _ hset hpost
  rw [ServerOps.runEv_append, ServerOps.runEv_cons]
  refine ⟨hrun.2, ?_⟩
  dsimp only
  rw [sframes_append, sframes_cons]
  show _ ++ (_ ++ sframes (SStream.runEv cfg sid ((SStream.runEv cfg sid s0 pre).1.onCall cfg sid (.ret st)).1 post).2) = _
  rw [hrun.1, List.append_nil]
  rfl

theorem ret_run_ends (cfg : SCfg) (sid : Sid) (s0 : SStream α) (pre post : List (SEv α)) (st : Status)
    (hset : Settled ((SStream.runEv cfg sid s0 pre).1.onCall cfg sid (.ret st)).1)
    (hpost : ∀ ev ∈ post, SEv.isCall ev = false) (hc : (SStream.runEv cfg sid s0 pre).1.closed = false) :
    EndsWithClose (sframes (SStream.runEv cfg sid s0 (pre ++ .call (.ret st) :: post)).2) := by
  rw [(ret_run cfg sid s0 pre post st hset hpost).2, ret_frames cfg sid _ st hc, ← List.append_assoc]
  exact ⟨_, _, rfl, rfl⟩

/-- `h0`: the stream was created with a live context, as `Srv.createStream` does.  The only hypothesis on
    the handler is "no call after it returned" (`hpost`): once the context has ended nothing stays blocked
    (`runEv_J`), so the return always settles the stream. -/
theorem S5_close_is_last_reachable (cfg : SCfg) (sid : Sid) (s0 : SStream α) (h0 : s0.ctxDone = none)
    (pre post : List (SEv α)) (st : Status) (hpost : ∀ ev ∈ post, SEv.isCall ev = false) :
    let s := (SStream.runEv cfg sid s0 pre).1
    let r := SStream.runEv cfg sid s0 (pre ++ .call (.ret st) :: post)
    Settled r.1 ∧
    sframes r.2 = sframes (SStream.runEv cfg sid s0 pre).2 ++ kinds (s.onCall cfg sid (.ret st)).2 ∧
    (s.closed = true → sframes r.2 = sframes (SStream.runEv cfg sid s0 pre).2) ∧
    (s.closed = false →
      sframes r.2 = (sframes (SStream.runEv cfg sid s0 pre).2 ++ (if s.sentHeaders then [] else [S2C.headers s.headers])) ++
        [S2C.close (SErr.wireStatus (if st.code = 0 then none else some (.status st))) s.trailers] ∧
      ∀ a f b, sframes r.2 = a ++ f :: b → S.isClose f = true → b = []) :=
  have hset := ret_settles_J cfg sid _ st (runEv_J cfg sid pre s0 (J.of_open h0))
  have h := ret_run cfg sid s0 pre post st hset hpost
  ⟨h.1, h.2,
    fun hc => h.2.trans (by
      rw [kinds_of_frames_nil _ (Teardown.ret_frames_of_closed cfg sid (SStream.runEv cfg sid s0 pre).1 st hc),
        List.append_nil]),
    fun hc => ⟨h.2.trans (by rw [ret_frames cfg sid (SStream.runEv cfg sid s0 pre).1 st hc, List.append_assoc]),
      (ret_run_ends cfg sid s0 pre post st hset hpost hc).nothing_after
        (S2_at_most_one_close cfg sid s0 (pre ++ .call (.ret st) :: post))⟩⟩

/-- from any initial state, for a handler none of whose calls is blocked when it returns -/
theorem S5_ret_nothing_after_close (cfg : SCfg) (sid : Sid) (s0 : SStream α) (pre post : List (SEv α)) (st : Status)
    (hc : (SStream.runEv cfg sid s0 pre).1.closed = false)
    (hps : (SStream.runEv cfg sid s0 pre).1.psend = none) (hpr : (SStream.runEv cfg sid s0 pre).1.pread = none)
    (hpost : ∀ ev ∈ post, SEv.isCall ev = false) :
    ∀ a f b, sframes (SStream.runEv cfg sid s0 (pre ++ .call (.ret st) :: post)).2 = a ++ f :: b →
      S.isClose f = true → b = [] :=
  (ret_run_ends cfg sid s0 pre post st (ret_settles cfg sid _ st hps hpr) hpost hc).nothing_after
    (S2_at_most_one_close cfg sid s0 (pre ++ .call (.ret st) :: post))

theorem S5_ret_after_close_silent (cfg : SCfg) (sid : Sid) (s0 : SStream α) (pre post : List (SEv α)) (st : Status)
    (hc : (SStream.runEv cfg sid s0 pre).1.closed = true)
    (hps : (SStream.runEv cfg sid s0 pre).1.psend = none) (hpr : (SStream.runEv cfg sid s0 pre).1.pread = none)
    (hpost : ∀ ev ∈ post, SEv.isCall ev = false) :
    sframes (SStream.runEv cfg sid s0 (pre ++ .call (.ret st) :: post)).2 = sframes (SStream.runEv cfg sid s0 pre).2 := by
  rw [(ret_run cfg sid s0 pre post st (ret_settles cfg sid _ st hps hpr) hpost).2,
    kinds_of_frames_nil _ (Teardown.ret_frames_of_closed cfg sid _ st hc), List.append_nil]

theorem finishCore_ends (sid : Sid) (s : SStream α) (err : Option SErr) (hc : s.closed = false) :
    EndsWithClose (kinds (s.finishCore sid err).2) :=
  ⟨_, _, finishCore_kinds sid s err hc, rfl⟩

theorem finish_ends (sid : Sid) (s : SStream α) (err : Option SErr) (b : Bool) (hc : s.closed = false) :
    EndsWithClose (kinds (s.finish sid err b).2) := by
  rw [finish_kinds]
  exact finishCore_ends sid s _ hc

/-- a unary reply is blocked on the flow-control window: `finishStream` will follow the send -/
def ReplyPending (s : SStream α) : Prop :=
  s.psend.isSome = true ∧ s.finishAfterSend = true ∧ s.pread = none ∧ s.ctxDone = none ∧ s.closed = false

theorem ReplyPending.idle {s s' : SStream α} (h : ReplyPending s) (hi : Idle s s') : ReplyPending s' :=
  ⟨by rw [hi.psend]; exact h.1, hi.fas.trans h.2.1, hi.pread.trans h.2.2.1, hi.ctx.trans h.2.2.2.1,
    hi.closed.trans h.2.2.2.2⟩

theorem ccSend_reply {s : SStream α} {snd : Snd α} (sid : Sid) (e : CtxErr) (hs : s.psend = some snd)
    (hf : s.finishAfterSend = true) :
    ServerOps.ccSend sid s e =
      ({ s with psend := none, finishAfterSend := false, hstatus := .returned } : SStream α).finishCore sid
        (some (.ctx e)) := by
  unfold ServerOps.ccSend
  rw [hs]
  dsimp only
  rw [if_pos hf]

theorem ccRead_none {s : SStream α} (sid : Sid) (e : CtxErr) (h : s.pread = none) : ServerOps.ccRead sid s e = (s, {}) := by
  unfold ServerOps.ccRead
  rw [h]

theorem cancelCtx_reply (sid : Sid) (s : SStream α) (e : CtxErr) (hps : s.psend.isSome = true)
    (hf : s.finishAfterSend = true) (hpr : s.pread = none) (hctx : s.ctxDone = none) :
    Settled (s.cancelCtx sid e).1 ∧ (s.closed = false → EndsWithClose (kinds (s.cancelCtx sid e).2)) := by
  obtain ⟨snd, hsnd⟩ := Option.isSome_iff_exists.mp hps
  let x : SStream α := { ServerOps.ctxMark s e with psend := none, finishAfterSend := false, hstatus := .returned }
  have hk := finishCore_keeps sid x (some (.ctx e))
  have h1 : ServerOps.ccSend sid (ServerOps.ctxMark s e) e = x.finishCore sid (some (.ctx e)) :=
    ccSend_reply sid e hsnd hf
  rw [ServerOps.cancelCtx_of_open sid e hctx, h1, ccRead_none sid e (hk.2.1.trans hpr)]
  refine ⟨⟨(finishCore_flags sid x _).1, hk.1, by rw [hk.2.2.1]; rfl, hk.2.1.trans hpr⟩, fun hc => ?_⟩
  dsimp only
  rw [ServerOps.Out.add_empty, kinds_add]
  exact (finishCore_ends sid x _ hc).prepend _

theorem finish_reply (sid : Sid) (s : SStream α) (err : Option SErr) (b : Bool) (h : ReplyPending s) :
    Settled (s.finish sid err b).1 ∧ EndsWithClose (kinds (s.finish sid err b).2) := by
  refine ⟨?_, finish_ends sid s err b h.2.2.2.2⟩
  have hk := finishCore_keeps sid s (ServerOps.finishErr s err b)
  rw [ServerOps.finish_eq]
  dsimp only
  exact (cancelCtx_reply sid (s.finishCore sid (ServerOps.finishErr s err b)).1 .canceled (by rw [hk.1]; exact h.1) (hk.2.2.2.2.1.trans h.2.1)
    (hk.2.1.trans h.2.2.1) (hk.2.2.1.trans h.2.2.2.1)).1

theorem reply_advance (cfg : SCfg) (sid : Sid) (s : SStream α) (snd : Snd α) (o : Out α)
    (hf : s.finishAfterSend = true) (hpr : s.pread = none) (hc : s.closed = false) :
    ReplyPending ((s.pumpSend cfg sid snd).1.afterSend sid o).1 ∨
    (Settled ((s.pumpSend cfg sid snd).1.afterSend sid o).1 ∧
      EndsWithClose (kinds ((s.pumpSend cfg sid snd).1.afterSend sid o).2)) := by
  obtain ⟨w, ps, hs, hctx⟩ := pumpSend_shape' cfg sid s snd
  rw [hs, ServerOps.afterSend_eq]
  cases hps : ps with
  | some x =>
    rw [if_neg (by rw [Bool.and_eq_true]; exact fun h => absurd h.2 Bool.false_ne_true)]
    exact Or.inl ⟨rfl, hf, hpr, hctx (by rw [hps]; rfl), hc⟩
  | none =>
    let x : SStream α := { s with win := w, psend := none, finishAfterSend := false, hstatus := .returned }
    have h1 : Settled (x.finish sid (ServerOps.sendErr o)).1 := finish_settles_J sid x _ false (J.of_clear rfl hpr)
    have h2 : EndsWithClose (kinds (x.finish sid (ServerOps.sendErr o)).2) := finish_ends sid x _ false hc
    rw [if_pos (by rw [Bool.and_eq_true]; exact ⟨hf, rfl⟩)]
    dsimp only
    rw [kinds_add]
    exact Or.inr ⟨h1, h2.prepend _⟩

theorem reply_pending_step (cfg : SCfg) (sid : Sid) (s : SStream α) (ev : SEv α) (h : ReplyPending s)
    (hev : SEv.isCall ev = false) :
    ReplyPending (s.stepEv cfg sid ev).1 ∨
    (Settled (s.stepEv cfg sid ev).1 ∧ EndsWithClose (kinds (s.stepEv cfg sid ev).2)) := by
  cases ev with
  | call c => cases hev
  | ctx e =>
    have := cancelCtx_reply sid s e h.1 h.2.1 h.2.2.1 h.2.2.2.1
    exact Or.inr ⟨this.1, this.2 h.2.2.2.2⟩
  | frame f =>
    show ReplyPending (s.onFrame cfg sid f).1 ∨
      (Settled (s.onFrame cfg sid f).1 ∧ EndsWithClose (kinds (s.onFrame cfg sid f).2))
    rcases onFrame_cases cfg sid s f h.2.2.1 with ⟨s', he, hi⟩ | ⟨err, he⟩ | ⟨n, snd, -, he⟩ <;> rw [he]
    · exact Or.inl (h.idle hi)
    · exact Or.inr (finish_reply sid s _ _ h)
    · exact reply_advance cfg sid _ snd _ h.2.1 h.2.2.1 h.2.2.2.2

/-- a frame list with no close frame in it, or whose last frame is a close frame -/
def TailOK (ks : List (S2C α)) : Prop := (∀ f ∈ ks, S.isClose f = false) ∨ EndsWithClose ks

theorem TailOK.prepend {l1 l2 : List (S2C α)} (h1 : ∀ f ∈ l1, S.isClose f = false) (h2 : TailOK l2) :
    TailOK (l1 ++ l2) :=
  h2.elim (fun h => Or.inl (List.forall_mem_append.mpr ⟨h1, h⟩)) (fun h => Or.inr (h.prepend l1))

theorem no_close_of_open {s s' : SStream α} {ks : List (S2C α)} (h : SStep s s' ks) (hc : s'.closed = false) :
    ∀ f ∈ ks, S.isClose f = false := by
  have h1 := flag_after h.cls
  rw [hc] at h1
  exact none_of_any (Bool.or_eq_false_iff.mp h1.symm).2

theorem tail_ok (cfg : SCfg) (sid : Sid) {s s' : SStream α} {ks : List (S2C α)} (post : List (SEv α))
    (hstep : SStep s s' ks) (hpost : ∀ ev ∈ post, SEv.isCall ev = false)
    (h : ReplyPending s' ∨ (Settled s' ∧ EndsWithClose ks))
    (ih : ReplyPending s' → TailOK (sframes (SStream.runEv cfg sid s' post).2)) :
    TailOK (ks ++ sframes (SStream.runEv cfg sid s' post).2) :=
  h.elim (fun h1 => TailOK.prepend (no_close_of_open hstep h1.2.2.2.2) (ih h1))
    (fun h1 => by rw [(S5_settled_run cfg sid post _ h1.1 hpost).1, List.append_nil]; exact Or.inr h1.2)

theorem reply_pending_run (cfg : SCfg) (sid : Sid) (evs : List (SEv α)) : ∀ (s : SStream α), ReplyPending s →
    (∀ ev ∈ evs, SEv.isCall ev = false) → TailOK (sframes (SStream.runEv cfg sid s evs).2) := by
  induction evs with
  | nil => intro s _ _; exact Or.inl (fun f hf => by cases hf)
  | cons e es ih =>
    intro s h hev
    have hes : ∀ ev ∈ es, SEv.isCall ev = false := fun ev hm => hev ev (List.mem_cons_of_mem _ hm)
    rw [ServerOps.runEv_cons, sframes_cons]
    exact tail_ok cfg sid es (stepEv_step cfg sid s e) hes
      (reply_pending_step cfg sid s e h (hev e (List.mem_cons_self ..))) (fun h1 => ih _ h1 hes)

theorem reply_step (cfg : SCfg) (sid : Sid) (s : SStream α) (m : List α)
    (hc : s.closed = false) (hpr : s.pread = none) :
    ReplyPending (s.onCall cfg sid (.reply m)).1 ∨
    (Settled (s.onCall cfg sid (.reply m)).1 ∧ EndsWithClose (kinds (s.onCall cfg sid (.reply m)).2)) := by
  have hs1 : (ServerOps.hdrStage sid s).1.closed = s.closed ∧ (ServerOps.hdrStage sid s).1.pread = s.pread := by
    unfold ServerOps.hdrStage
    split <;> exact ⟨rfl, rfl⟩
  rw [ServerOps.onCall_reply]
  exact reply_advance cfg sid _ _ _ rfl (hs1.2.trans hpr) (hs1.1.trans hc)

/-- S5 for the unary reply (`SendMsg(resp)` then `finishStream`), which may go out at once, block on the
    window and be completed by later window updates, or be aborted by a cancel / protocol error / context
    end.  `hc` is necessary (counter-example at the end of the file). -/
theorem S5_reply_nothing_after_close (cfg : SCfg) (sid : Sid) (s0 : SStream α) (pre post : List (SEv α)) (m : List α)
    (hc : (SStream.runEv cfg sid s0 pre).1.closed = false) (hpr : (SStream.runEv cfg sid s0 pre).1.pread = none)
    (hpost : ∀ ev ∈ post, SEv.isCall ev = false) :
    ∀ a f b, sframes (SStream.runEv cfg sid s0 (pre ++ .call (.reply m) :: post)).2 = a ++ f :: b →
      S.isClose f = true → b = [] := by
  have h1 := S2_at_most_one_close cfg sid s0 (pre ++ .call (.reply m) :: post)
  rw [ServerOps.runEv_append, sframes_append, ServerOps.runEv_cons, sframes_cons] at h1 ⊢
  -- no close frame before the reply; from the reply on, none at all or the close frame is last
  rcases TailOK.prepend (no_close_of_open (runEv_step cfg sid pre s0) hc)
    (tail_ok cfg sid post (stepEv_step cfg sid _ (.call (.reply m))) hpost (reply_step cfg sid _ m hc hpr)
      (fun h => reply_pending_run cfg sid post _ h hpost)) with h | h
  · intro a f b hab hf
    rw [h f (by rw [hab]; simp)] at hf
    cases hf
  · exact h.nothing_after h1

theorem startRecv_fresh_frames (sid : Sid) (s : SStream α) (h1 : s.readErr = none) (h2 : s.ctxDone = none)
    (h3 : s.rcv.queue = []) (h4 : s.rcv.closed = false) (h5 : s.rcv.cancelled = false) :
    (s.startRecv sid).2.frames = [] := by
  simp only [SStream.startRecv, h1, h2, SStream.readAndSettle, SStream.resumeRead, h3, readLoop, h4, h5,
    SStream.creditFrames, SStream.afterDecode]
  simp

theorem not_rejected {cfg : SCfg} {s : Srv α} {method : List Nat} {rev : Int} {svc : Method.Name} {f : Method.Found}
    (hrej : s.closing = true ∨ (rev ≠ 0 ∧ rev ≠ 1) ∨ Method.resolve cfg.services method = .malformed ∨
            Method.resolve cfg.services method = .unimplemented)
    (hcl : s.closing = false) (hrev : rev = 0 ∨ rev = 1) (hres : Method.resolve cfg.services method = .found svc f) :
    False := by
  rcases hrej with h | h | h | h
  · rw [hcl] at h; cases h
  · exact hrev.elim h.1 h.2
  · rw [hres] at h; cases h
  · rw [hres] at h; cases h

theorem not_violation {s : Srv α} {sid : Sid} {tag : String} (h1 : s.table.contains sid = false) (h2 : ¬ sid ≤ s.lastSeen)
    (h : (tag = "already_exists" ∧ s.table.contains sid = true) ∨
      (tag = "already_used" ∧ s.table.contains sid = false ∧ sid ≤ s.lastSeen)) : False := by
  rcases h with ⟨_, h⟩ | ⟨_, _, h⟩
  · rw [h1] at h; cases h
  · exact h2 h

theorem S6_rejected (cfg : SCfg) (s : Srv α) (sid : Sid) (method : List Nat) (md : MD) (rev : Int) (win : Nat)
    (h1 : s.table.contains sid = false) (h2 : ¬ sid ≤ s.lastSeen)
    (hrej : s.closing = true ∨ (rev ≠ 0 ∧ rev ≠ 1) ∨ Method.resolve cfg.services method = .malformed ∨
            Method.resolve cfg.services method = .unimplemented) :
    ∃ code msg, (s.createStream cfg sid method md rev win).2.frames = [(sid, .close (mkStatus code msg) [])] ∧
      (s.createStream cfg sid method md rev win).1.streams = s.streams :=
  ServerOps.createStream_elim
    (motive := fun r => ∃ code msg, r.2.frames = [(sid, .close (mkStatus code msg) [])] ∧ r.1.streams = s.streams)
    cfg s sid method md rev win
    (fun _ h => (not_violation h1 h2 h).elim)
    (fun code msg _ _ _ => ⟨code, msg, rfl, rfl⟩)
    (fun _ _ _ _ _ hcl hrev hres _ => (not_rejected hrej hcl hrev hres).elim)

/-- second disjunct: for a unary method the decode callback's `RecvMsg` has been started on the fresh object -/
theorem S6_accepted (cfg : SCfg) (s : Srv α) (sid : Sid) (method : List Nat) (md : MD) (rev : Int) (win : Nat)
    (svc : Method.Name) (f : Method.Found)
    (h1 : s.table.contains sid = false) (h2 : ¬ sid ≤ s.lastSeen)
    (hcl : s.closing = false) (hrev : rev = 0 ∨ rev = 1)
    (hres : Method.resolve cfg.services method = .found svc f) :
    (s.createStream cfg sid method md rev win).2.frames = [] ∧
    ∃ st0 : SStream α, SFresh st0 ∧ st0.fc = (rev == 1) ∧
      ((s.createStream cfg sid method md rev win).1.streams = s.streams ++ [(sid, st0)] ∨
       (s.createStream cfg sid method md rev win).1.streams = s.streams ++ [(sid, (st0.onCall cfg sid .recv).1)]) := by
  refine ServerOps.createStream_elim
    (motive := fun r => r.2.frames = [] ∧ ∃ st0 : SStream α, SFresh st0 ∧ st0.fc = (rev == 1) ∧
      (r.1.streams = s.streams ++ [(sid, st0)] ∨ r.1.streams = s.streams ++ [(sid, (st0.onCall cfg sid .recv).1)]))
    cfg s sid method md rev win
    (fun _ h => (not_violation h1 h2 h).elim)
    (fun _ _ _ _ hrej => (not_rejected hrej hcl hrev hres).elim)
    (fun st _ _ _ _ _ _ _ hf => ?_)
  cases hf with
  | mk unary cs ss _ =>
    cases unary with
    | true => exact ⟨startRecv_fresh_frames sid _ rfl rfl rfl rfl rfl, _, ⟨rfl, rfl, rfl⟩, rfl, Or.inr rfl⟩
    | false => exact ⟨rfl, _, ⟨rfl, rfl, rfl⟩, rfl, Or.inl rfl⟩

theorem S6_newStream_frame (cfg : SCfg) (s : Srv α) (sid : Sid) (method : List Nat) (md : MD) (rev : Int) (win : Nat)
    (hret : s.returned = none) :
    s.step cfg (.frame sid (.newStream method md rev win)) = s.createStream cfg sid method md rev win := by
  rw [ServerOps.step_frame, ServerOps.Srv.onFrame_newStream, hret]
  rfl

theorem S4_start (cfg : SCfg) :
    (Srv.start cfg : Srv α × Out α).2.frames =
      if cfg.sendSettings then [(-1, .settings cfg.W cfg.revs)] else [] := by
  unfold Srv.start
  split <;> rfl

def NoSettings (o : Out α) : Prop := ∀ f ∈ kinds o, S.isSettings f = false

theorem NoSettings.of_frames_nil {o : Out α} (h : o.frames = []) : NoSettings o := fun f hf => by
  rw [kinds_of_frames_nil o h] at hf; cases hf

theorem NoSettings.add {a b : Out α} (ha : NoSettings a) (hb : NoSettings b) : NoSettings (a.add b) := by
  unfold NoSettings
  rw [kinds_add]
  exact List.forall_mem_append.mpr ⟨ha, hb⟩

/-- the loops of `serveReturns` and `tick` -/
theorem NoSettings.goGen {g : Sid → SStream α → SStream α × Out α} (h : ∀ sid st, NoSettings (g sid st).2) :
    ∀ l : List (Sid × SStream α), NoSettings (ServerOps.goGen g l).2
  | [] => NoSettings.of_frames_nil rfl
  | e :: rest => (h e.1 e.2).add (NoSettings.goGen h rest)

theorem serveReturns_noSettings (s : Srv α) (err : Option String) : NoSettings (s.serveReturns err).2 := by
  rw [ServerOps.serveReturns_eq]
  exact (NoSettings.goGen (fun sid st => (cancelCtx_step sid st .canceled).noSet) _).add
    (NoSettings.of_frames_nil rfl)

theorem S4_step_no_settings (cfg : SCfg) (s : Srv α) (x : SStim α) : NoSettings (s.step cfg x).2 := by
  cases x with
  | frame sid f =>
    rw [ServerOps.step_frame]
    refine ServerOps.Srv.onFrame_elim (motive := fun r => NoSettings r.2) cfg s sid f (NoSettings.of_frames_nil rfl)
      (fun _ _ => serveReturns_noSettings s _) (fun _ _ _ f hf => by rw [List.mem_singleton.mp hf]; rfl)
      (fun st _ _ _ _ _ _ _ => ?_)
      (fun st _ => (SStep.of_step (ServerOps.Step.onFrame (pumps := true) st f (fun _ => rfl))).noSet)
    split
    · exact (SStep.of_step (ServerOps.Step.startRecv (pumps := true) (cfg := cfg) st)).noSet
    · exact NoSettings.of_frames_nil rfl
  | call sid c =>
    rw [ServerOps.step_call, ServerOps.Srv.onCall_eq]
    split
    · exact NoSettings.of_frames_nil rfl
    · exact (SStep.of_step (ServerOps.Step.onCall (pumps := true) _ _ (fun _ => rfl))).noSet
  | tick d =>
    rw [ServerOps.step_tick, ServerOps.tick_eq]
    refine NoSettings.goGen (fun sid st => ?_) _
    rcases ServerOps.tickOne_cases (s.now + d) sid st with h | h <;> rw [h]
    · exact NoSettings.of_frames_nil rfl
    · exact (cancelCtx_step sid st .deadline).noSet
  | closing b => exact NoSettings.of_frames_nil rfl
  | carrierEnds err =>
    rw [ServerOps.step_carrierEnds]
    split
    · exact NoSettings.of_frames_nil rfl
    · exact serveReturns_noSettings _ _

theorem S4_run_no_settings (cfg : SCfg) (xs : List (SStim α)) : ∀ (s : Srv α),
    (sframes (Srv.run cfg s xs).2).all (fun f => !S.isSettings f) = true := fun s =>
  run_rel (step := Srv.step cfg) (run := Srv.run cfg) (fr := kinds) (ok := fun _ => True)
    (R := fun _ _ ks => ks.all (fun f => !S.isSettings f) = true)
    (fun _ => rfl) (fun _ _ _ => rfl) (fun _ => rfl) (fun h1 h2 => by rw [List.all_append, h1, h2]; rfl)
    (fun s x _ => List.all_eq_true.mpr (fun f hf => by rw [S4_step_no_settings cfg s x f hf]; rfl))
    xs s (fun _ _ => trivial)

def ckinds (o : COut α) : List (C2S α) := o.frames.map (·.2)

theorem ckinds_add (a b : COut α) : ckinds (a.add b) = ckinds a ++ ckinds b := by
  simp [ckinds, COut.add]

@[simp] theorem ckinds_empty : ckinds ({} : COut α) = [] := rfl

theorem ckinds_of_frames_nil (o : COut α) (h : o.frames = []) : ckinds o = [] := by
  simp [ckinds, h]

/-- The contract of every building block of a client stream other than `SendMsg` and `CloseSend`
    themselves.  `cancel`: a cancel frame is emitted only when the terminal result goes from unset to set. -/
structure CBlock (s s' : CStream α) (ks : List (C2S α)) : Prop where
  fc : s'.fc = s.fc
  hc : s'.halfClosed = s.halfClosed
  cancel : cnt C.isCancel ks + s.done.isSome.toNat ≤ s'.done.isSome.toNat
  clean : ∀ f ∈ ks, C.isHalfClose f = false ∧ C.isNewStream f = false ∧
    (s.fc = false → C.isWindowUpdate f = false)
  nodata : s.psend = none → (∀ f ∈ ks, C.isData f = false) ∧ s'.psend = none

theorem CBlock.seq {s a b : CStream α} {k1 k2 : List (C2S α)} (h1 : CBlock s a k1) (h2 : CBlock a b k2) :
    CBlock s b (k1 ++ k2) := by
  refine ⟨h2.fc.trans h1.fc, h2.hc.trans h1.hc, cnt_seq_le h1.cancel h2.cancel,
    List.forall_mem_append.mpr ⟨h1.clean, fun f hf => ?_⟩, fun hp => ?_⟩
  · have := h2.clean f hf
    exact ⟨this.1, this.2.1, fun h0 => this.2.2 (h1.fc.trans h0)⟩
  · have ha := h1.nodata hp
    have hb := h2.nodata ha.2
    exact ⟨List.forall_mem_append.mpr ⟨ha.1, hb.1⟩, hb.2⟩

theorem toNat_mono {a b : Bool} (h : a = true → b = true) : a.toNat ≤ b.toNat := by
  cases a <;> cases b <;> simp at h ⊢

theorem CBlock.leaf {s s' : CStream α} {ks : List (C2S α)}
    (hfc : s'.fc = s.fc) (hhc : s'.halfClosed = s.halfClosed)
    (hd : s.done.isSome = true → s'.done.isSome = true)
    (hk : ∀ f ∈ ks, C.isHalfClose f = false ∧ C.isCancel f = false ∧ C.isNewStream f = false ∧
      C.isData f = false ∧ (s.fc = false → C.isWindowUpdate f = false))
    (hps : s.psend = none → s'.psend = none) : CBlock s s' ks := by
  refine ⟨hfc, hhc, ?_, fun f hf => ⟨(hk f hf).1, (hk f hf).2.2.1, (hk f hf).2.2.2.2⟩,
    fun hp => ⟨fun f hf => (hk f hf).2.2.2.1, hps hp⟩⟩
  rw [cnt_eq_zero _ _ (fun f hf => (hk f hf).2.1)]
  have := toNat_mono hd
  omega

theorem CBlock.silent {s s' : CStream α} (hfc : s'.fc = s.fc) (hhc : s'.halfClosed = s.halfClosed)
    (hd : s.done.isSome = true → s'.done.isSome = true) (hps : s.psend = none → s'.psend = none) :
    CBlock s s' [] :=
  CBlock.leaf hfc hhc hd (fun f hf => by cases hf) hps

theorem CBlock.quiet {s s' : CStream α} (hfc : s'.fc = s.fc) (hhc : s'.halfClosed = s.halfClosed)
    (hd : s'.done = s.done) (hps : s'.psend = s.psend) : CBlock s s' [] :=
  CBlock.silent hfc hhc (by rw [hd]; exact fun h => h) (by rw [hps]; exact fun h => h)

theorem CBlock.refl (s : CStream α) : CBlock s s [] := CBlock.quiet rfl rfl rfl rfl

theorem CBlock.pre {s s0 s' : CStream α} {ks : List (C2S α)} (h : CBlock s0 s' ks)
    (hfc : s0.fc = s.fc) (hhc : s0.halfClosed = s.halfClosed) (hd : s0.done = s.done)
    (hps : s0.psend = s.psend) : CBlock s s' ks := by
  have := (CBlock.quiet (s := s) (s' := s0) hfc hhc hd hps).seq h
  rwa [List.nil_append] at this

theorem ctxEnds_block (sid : Sid) (s : CStream α) (e : CtxErr) (b : Bool) :
    CBlock s (s.ctxEnds sid e b).1 (ckinds (s.ctxEnds sid e b).2) := by
  cases h : s.ctxDone with
  | some c => rw [ClientOps.ctxEnds_done sid s e b (by simp [h])]; exact CBlock.refl s
  | none =>
    rw [ClientOps.ctxEnds_eq sid s e b h]
    exact CBlock.silent rfl rfl (fun h => h) (fun _ => rfl)

theorem resumeRead_block (sid : Sid) (fuel : Nat) (s : CStream α) :
    CBlock s (s.resumeRead sid fuel).1 (ckinds (s.resumeRead sid fuel).2.1) := by
  refine ClientOps.Chain.fold (R := fun s s' o => CBlock s s' (ckinds o)) CBlock.refl
    (fun h1 h2 => by rw [ckinds_add]; exact h1.seq h2) (fun {s s' o} h => ?_) (ClientOps.resumeRead_chain sid fuel s)
  obtain ⟨p, w, q, cr, out, p', r', -, -, rfl, hf, -⟩ := h.shape
  refine CBlock.leaf rfl rfl (fun h => h) (fun f hf' => ?_) (fun h => h)
  unfold ckinds ClientOps.readFrames at *
  rw [hf] at hf'
  split at hf'
  · rename_i hc
    obtain ⟨x, hx, rfl⟩ := List.mem_map.mp hf'
    obtain ⟨n, -, rfl⟩ := List.mem_map.mp hx
    refine ⟨rfl, rfl, rfl, rfl, fun h0 => ?_⟩
    rw [h0] at hc; cases hc
  · cases hf'

theorem finish_block (sid : Sid) (s : CStream α) (err : Option SErr) (tr : MD) :
    CBlock s (s.finish sid err tr).1 (ckinds (s.finish sid err tr).2.1) := by
  cases h : s.done with
  | some c => rw [ClientOps.finish_done sid s err tr (by simp [h])]; exact CBlock.refl s
  | none =>
    rw [ClientOps.finish_eq sid s err tr h]
    dsimp only
    rw [ckinds_add, ckinds_add]
    have h0 : CBlock s (ClientOps.finPre s err tr) [] :=
      CBlock.silent rfl rfl (fun _ => rfl) (fun h => h)
    exact (h0.seq (resumeRead_block sid 3 _)).seq (ctxEnds_block sid _ _ _)

theorem cancelStream_block (sid : Sid) (s : CStream α) (err : SErr) :
    CBlock s (s.cancelStream sid err).1 (ckinds (s.cancelStream sid err).2) := by
  cases h : s.done with
  | some c => rw [ClientOps.cancelStream_done sid s err (by simp [h])]; exact CBlock.refl s
  | none =>
    obtain ⟨w, q, r', c, ps, hs, h1, h2, -⟩ := ClientShape.cancelStream_shape sid s err h
    have hf := ClientShape.cancelStream_frames sid s err h
    have hk : ckinds (s.cancelStream sid err).2 = [C2S.cancel] := by simp [ckinds, hf]
    rw [hk, hs]
    refine ⟨rfl, rfl, ?_, fun f hf => ?_, fun hp => ⟨fun f hf => ?_, ?_⟩⟩
    · rw [show cnt C.isCancel [(C2S.cancel : C2S α)] = 1 from rfl, h]
      exact Nat.le_refl _
    · rw [List.mem_singleton.mp hf]; exact ⟨rfl, rfl, fun _ => rfl⟩
    · rw [List.mem_singleton.mp hf]; rfl
    · show ps = none
      cases hc : s.ctxDone with
      | none => exact (h1 hc).1
      | some x => rw [(h2 (by simp [hc])).1]; exact hp

theorem afterRead_block (sid : Sid) (fuel : Nat) (s : CStream α) :
    CBlock s (CStream.afterRead sid (s.resumeRead sid fuel)).1
      (ckinds (CStream.afterRead sid (s.resumeRead sid fuel)).2) := by
  rw [ClientOps.afterRead_eq]
  split
  · exact resumeRead_block sid fuel s
  · dsimp only
    rw [ckinds_add]
    exact (resumeRead_block sid fuel s).seq (cancelStream_block sid _ _)

theorem ctxCancelled_block (sid : Sid) (s : CStream α) (e : CtxErr) :
    CBlock s (s.ctxCancelled sid e).1 (ckinds (s.ctxCancelled sid e).2) := by
  cases h : s.ctxDone with
  | some c => rw [ClientOps.ctxCancelled_done sid s e (by simp [h])]; exact CBlock.refl s
  | none =>
    rw [ClientOps.ctxCancelled_eq sid s e h]
    dsimp only
    rw [ckinds_add]
    exact (ctxEnds_block sid s e _).seq (cancelStream_block sid _ _)

theorem sent_facts {sid : Sid} {s s' : CStream α} {o : COut α} (h : ClientOps.Sent sid s s' o) :
    s'.fc = s.fc ∧ s'.halfClosed = s.halfClosed ∧ s'.done = s.done ∧
    ∀ f ∈ ckinds o, C.isHalfClose f = false ∧ C.isCancel f = false ∧
      C.isNewStream f = false ∧ C.isWindowUpdate f = false := by
  have data : ∀ (fs : List (DFrame α)) (ds : List (Sid × String × Res α)),
      ∀ f ∈ ckinds ({ frames := ClientOps.tagged sid fs, dones := ds } : COut α), C.isHalfClose f = false ∧
        C.isCancel f = false ∧ C.isNewStream f = false ∧ C.isWindowUpdate f = false := by
    intro fs ds f hf
    obtain ⟨x, hx, rfl⟩ := List.mem_map.mp hf
    obtain ⟨d, -, rfl⟩ := List.mem_map.mp hx
    cases d <;> exact ⟨rfl, rfl, rfl, rfl⟩
  cases h with
  | done fs w => exact ⟨rfl, rfl, rfl, data fs _⟩
  | ctx fs w e _ => exact ⟨rfl, rfl, rfl, data fs _⟩
  | pending fs w snd' _ => exact ⟨rfl, rfl, rfl, data fs _⟩

theorem pumpSend_block (cfg : CCfg) (sid : Sid) (s : CStream α) (snd : Snd α) (h : s.psend.isSome = true) :
    CBlock s (s.pumpSend cfg sid snd).1 (ckinds (s.pumpSend cfg sid snd).2) := by
  obtain ⟨h1, h2, h3, h4⟩ := sent_facts (ClientOps.pumpSend_sent cfg sid s snd)
  refine ⟨h1, h2, ?_, fun f hf => ⟨(h4 f hf).1, (h4 f hf).2.2.1, fun _ => (h4 f hf).2.2.2⟩, fun hp => ?_⟩
  · rw [cnt_eq_zero _ _ (fun f hf => (h4 f hf).2.1), h3]; omega
  · rw [hp] at h; cases h

theorem dataFrame_block (sid : Sid) (s : CStream α) (df : DFrame α) :
    CBlock s (ClientOps.dataFrame sid s df).1 (ckinds (ClientOps.dataFrame sid s df).2) := by
  unfold ClientOps.dataFrame
  cases hfc : s.fc with
  | true =>
    rw [if_pos rfl]
    rcases s.rcv.accept df with ⟨r, a⟩
    cases a with
    | dropped => exact CBlock.refl s
    | windowExceeded => exact finish_block sid s _ _
    | ok => exact (afterRead_block sid 3 _).pre hfc.symm rfl rfl rfl
  | false =>
    rw [if_neg Bool.false_ne_true]
    cases s.rcv.closed with
    | true => exact CBlock.refl s
    | false =>
      rw [if_neg Bool.false_ne_true]
      cases (!s.rcv.queue.isEmpty) with
      | true => rw [if_pos rfl]; exact CBlock.quiet hfc.symm rfl rfl rfl
      | false => rw [if_neg Bool.false_ne_true]; exact (afterRead_block sid 3 _).pre hfc.symm rfl rfl rfl

theorem onFrame_block (cfg : CCfg) (sid : Sid) (s : CStream α) (f : S2C α) :
    CBlock s (s.onFrame cfg sid f).1 (ckinds (s.onFrame cfg sid f).2) := by
  cases f with
  | settings w rv => rw [ClientOps.onFrame_settings]; exact finish_block sid s _ _
  | headers md =>
    rw [ClientOps.onFrame_headers_eq]
    split
    · exact CBlock.refl s
    · split
      · exact CBlock.quiet rfl rfl rfl rfl
      · exact CBlock.quiet rfl rfl rfl rfl
  | msg size d => rw [ClientOps.onFrame_msg]; exact dataFrame_block sid s _
  | more d => rw [ClientOps.onFrame_more]; exact dataFrame_block sid s _
  | close st tr => rw [ClientOps.onFrame_close]; exact finish_block sid s _ _
  | windowUpdate n =>
    rw [ClientOps.onFrame_windowUpdate_eq]
    split
    · exact CBlock.refl s
    · split
      · exact CBlock.quiet rfl rfl rfl rfl
      · rename_i snd hsnd
        exact (pumpSend_block cfg sid _ snd (by rw [hsnd]; rfl)).pre rfl rfl rfl rfl
  | unset => rw [ClientOps.onFrame_unset]; exact finish_block sid s _ _

/-- the contract of a whole event: as `SStep`, with half-close frames accounted against `halfClosed` -/
structure CStep (s s' : CStream α) (ks : List (C2S α)) : Prop where
  fc : s'.fc = s.fc
  hc : cnt C.isHalfClose ks + s.halfClosed.toNat = s'.halfClosed.toNat
  cancel : cnt C.isCancel ks + s.done.isSome.toNat ≤ s'.done.isSome.toNat
  noNew : ∀ f ∈ ks, C.isNewStream f = false
  noWU : s.fc = false → ∀ f ∈ ks, C.isWindowUpdate f = false

theorem CStep.refl (s : CStream α) : CStep s s [] :=
  ⟨rfl, by simp, by simp, fun f hf => (by cases hf), fun _ f hf => (by cases hf)⟩

theorem CStep.seq {s a b : CStream α} {k1 k2 : List (C2S α)} (h1 : CStep s a k1) (h2 : CStep a b k2) :
    CStep s b (k1 ++ k2) := by
  exact ⟨h2.fc.trans h1.fc, cnt_seq h1.hc h2.hc, cnt_seq_le h1.cancel h2.cancel,
    List.forall_mem_append.mpr ⟨h1.noNew, h2.noNew⟩,
    fun h0 => List.forall_mem_append.mpr ⟨h1.noWU h0, h2.noWU (h1.fc.trans h0)⟩⟩

theorem CBlock.toStep {s s' : CStream α} {ks : List (C2S α)} (h : CBlock s s' ks) : CStep s s' ks :=
  ⟨h.fc, by rw [cnt_eq_zero _ _ (fun f hf => (h.clean f hf).1), h.hc]; omega, h.cancel,
   fun f hf => (h.clean f hf).2.1, fun h0 f hf => (h.clean f hf).2.2 h0⟩

def CEv.isSend : CEv α → Bool
  | .call (.send _) => true
  | _ => false

def CEv.isCloseSend : CEv α → Bool
  | .call .closeSend => true
  | _ => false

/-- contract of one client event: `CStep`, and only `CloseSend` emits a half-close, only `SendMsg` or a
    send already in progress (`psend`) emits data -/
structure CEvFacts (s s' : CStream α) (ks : List (C2S α)) (e : CEv α) : Prop where
  step : CStep s s' ks
  noHC : CEv.isCloseSend e = false → (∀ f ∈ ks, C.isHalfClose f = false) ∧ s'.halfClosed = s.halfClosed
  nodata : CEv.isSend e = false → s.psend = none → (∀ f ∈ ks, C.isData f = false) ∧ s'.psend = none

theorem CBlock.facts {s s' : CStream α} {ks : List (C2S α)} (h : CBlock s s' ks) (e : CEv α) :
    CEvFacts s s' ks e :=
  ⟨h.toStep, fun _ => ⟨fun f hf => (h.clean f hf).1, h.hc⟩, fun _ hp => h.nodata hp⟩

theorem onCall_facts (cfg : CCfg) (sid : Sid) (s : CStream α) (c : CCall α) :
    CEvFacts s (s.onCall cfg sid c).1 (ckinds (s.onCall cfg sid c).2) (.call c) := by
  cases c with
  | send m =>
    rw [ClientOps.onCall_send]
    split
    · exact (CBlock.refl s).facts _
    · obtain ⟨h1, h2, h3, h4⟩ := sent_facts (ClientOps.pumpSend_sent cfg sid ({ s with numSent := s.numSent + 1 }) (Snd.start m))
      refine ⟨⟨h1, ?_, ?_, fun f hf => (h4 f hf).2.2.1, fun _ f hf => (h4 f hf).2.2.2⟩,
        fun _ => ⟨fun f hf => (h4 f hf).1, h2⟩, fun h => (by cases h)⟩
      · rw [cnt_eq_zero _ _ (fun f hf => (h4 f hf).1), h2]; simp
      · rw [cnt_eq_zero _ _ (fun f hf => (h4 f hf).2.1), h3]; simp
  | closeSend =>
    rw [ClientOps.onCall_closeSend]
    split
    · exact (CBlock.refl s).facts _
    · split
      · exact (CBlock.refl s).facts _
      · rename_i _ hh
        have hh' : s.halfClosed = false := by simpa using hh
        show CEvFacts s _ [C2S.halfClose] _
        refine ⟨⟨rfl, ?_, ?_, fun f hf => ?_, fun _ f hf => ?_⟩, fun h => (by cases h),
          fun _ hp => ⟨fun f hf => ?_, hp⟩⟩
        · rw [hh']; rfl
        · rw [show cnt C.isCancel [(C2S.halfClose : C2S α)] = 0 from rfl]
          exact Nat.le_of_eq (Nat.zero_add _)
        · rw [List.mem_singleton.mp hf]; rfl
        · rw [List.mem_singleton.mp hf]; rfl
        · rw [List.mem_singleton.mp hf]; rfl
  | recv =>
    rw [ClientOps.onCall_recv]
    split
    · exact (CBlock.refl s).facts _
    · refine CBlock.facts ?_ _
      exact (afterRead_block sid 3 _).pre rfl rfl rfl rfl
  | header =>
    rw [ClientOps.onCall_header]
    split
    · exact (CBlock.refl s).facts _
    · split
      · exact (CBlock.refl s).facts _
      · refine CBlock.facts ?_ _
        exact CBlock.quiet rfl rfl rfl rfl
  | trailer => exact (CBlock.refl s).facts _
  | cancel => exact (ctxCancelled_block sid s _).facts _

theorem stepEv_facts (cfg : CCfg) (sid : Sid) (s : CStream α) (e : CEv α) :
    CEvFacts s (s.stepEv cfg sid e).1 (ckinds (s.stepEv cfg sid e).2) e := by
  cases e with
  | frame f => exact (onFrame_block cfg sid s f).facts _
  | call c => exact onCall_facts cfg sid s c
  | ctx c => exact (ctxCancelled_block sid s c).facts _

theorem cframes_cons (o : COut α) (os : List (COut α)) : cframes (o :: os) = ckinds o ++ cframes os := by
  simp [cframes, ckinds]

theorem crunEv_step (cfg : CCfg) (sid : Sid) (evs : List (CEv α)) (s : CStream α) :
    CStep s (CStream.runEv cfg sid s evs).1 (cframes (CStream.runEv cfg sid s evs).2) :=
  run_rel (step := fun s e => s.stepEv cfg sid e) (run := CStream.runEv cfg sid) (fr := ckinds) (ok := fun _ => True)
    (fun _ => rfl) (fun _ _ _ => rfl) CStep.refl CStep.seq (fun s e _ => (stepEv_facts cfg sid s e).step)
    evs s (fun _ _ => trivial)

theorem C1_at_most_one_halfClose (cfg : CCfg) (sid : Sid) (s0 : CStream α) (evs : List (CEv α)) :
    ((cframes (CStream.runEv cfg sid s0 evs).2).filter C.isHalfClose).length ≤ 1 :=
  cnt_le_one (Nat.le_of_eq (crunEv_step cfg sid evs s0).hc)

theorem C1_halfClose_iff_flag (cfg : CCfg) (sid : Sid) (s0 : CStream α) (h0 : s0.halfClosed = false)
    (evs : List (CEv α)) :
    ((cframes (CStream.runEv cfg sid s0 evs).2).filter C.isHalfClose).length =
      (CStream.runEv cfg sid s0 evs).1.halfClosed.toNat :=
  cnt_eq_flag (crunEv_step cfg sid evs s0).hc h0

theorem C1_at_most_one_cancel (cfg : CCfg) (sid : Sid) (s0 : CStream α) (evs : List (CEv α)) :
    ((cframes (CStream.runEv cfg sid s0 evs).2).filter C.isCancel).length ≤ 1 ∧
    (s0.done.isSome = true → ((cframes (CStream.runEv cfg sid s0 evs).2).filter C.isCancel).length = 0) := by
  have h := (crunEv_step cfg sid evs s0).cancel
  refine ⟨cnt_le_one h, fun hd => ?_⟩
  have := toNat_le_one (CStream.runEv cfg sid s0 evs).1.done.isSome
  rw [hd, cnt_def, Bool.toNat_true] at h
  omega

theorem C2_no_newStream (cfg : CCfg) (sid : Sid) (s0 : CStream α) (evs : List (CEv α)) :
    (cframes (CStream.runEv cfg sid s0 evs).2).all (fun f => !C.isNewStream f) = true := by
  rw [List.all_eq_true]
  intro f hf
  rw [(crunEv_step cfg sid evs s0).noNew f hf]; rfl

theorem C4_no_window_update (cfg : CCfg) (sid : Sid) (s0 : CStream α) (h0 : s0.fc = false)
    (evs : List (CEv α)) :
    (cframes (CStream.runEv cfg sid s0 evs).2).all (fun f => !C.isWindowUpdate f) = true := by
  rw [List.all_eq_true]
  intro f hf
  rw [(crunEv_step cfg sid evs s0).noWU h0 f hf]; rfl

/-- "no data frame after a half-close frame": `b` = a half-close frame came before this list -/
def noDataAfterHC : Bool → List (C2S α) → Bool := flagScan (fun c f => c && C.isData f) C.isHalfClose

/-- The caller's contract for the end of the request stream (grpc-go `ClientStream`: "it is not safe to
    call `SendMsg` after `CloseSend`", and one sender goroutine: `CloseSend` is not called while a `SendMsg`
    is still blocked).  The state is threaded like in `legalSends`; `closing` = a `CloseSend` call was made. -/
def legalCloseSend (cfg : CCfg) (sid : Sid) : CStream α → Bool → List (CEv α) → Bool
  | _, _, [] => true
  | s, closing, e :: es =>
    let ok := match e with
      | .call (.send _) => !closing
      | .call .closeSend => s.psend.isNone
      | _ => true
    ok && legalCloseSend cfg sid (s.stepEv cfg sid e).1 (closing || CEv.isCloseSend e) es

theorem legalCloseSend_cons (cfg : CCfg) (sid : Sid) (s : CStream α) (closing : Bool) (e : CEv α) (es : List (CEv α)) :
    legalCloseSend cfg sid s closing (e :: es) =
      ((match e with
        | .call (.send _) => !closing
        | .call .closeSend => s.psend.isNone
        | _ => true) &&
       legalCloseSend cfg sid (s.stepEv cfg sid e).1 (closing || CEv.isCloseSend e) es) := rfl

theorem legalCloseSend_ok {s : CStream α} {closing : Bool} {e : CEv α}
    (h : (match e with
      | .call (.send _) => !closing
      | .call .closeSend => s.psend.isNone
      | _ => true) = true) :
    (CEv.isSend e = true → closing = false) ∧
    (CEv.isCloseSend e = true → s.psend = none ∧ CEv.isSend e = false) := by
  cases e with
  | call c =>
    cases c with
    | send m => exact ⟨fun _ => (Bool.not_eq_true' closing).mp h, fun h' => (by cases h')⟩
    | closeSend => exact ⟨fun h' => (by cases h'), fun _ => ⟨Option.isNone_iff_eq_none.mp h, rfl⟩⟩
    | _ => exact ⟨fun h' => (by cases h'), fun h' => (by cases h')⟩
  | _ => exact ⟨fun h' => (by cases h'), fun h' => (by cases h')⟩

/-- The invariant behind C3, with `closing` = a `CloseSend` call was made: from then on no send is in
    progress (and none will start), and the half-close frame is only emitted by that call. -/
def Closing (s : CStream α) (closing : Bool) : Prop :=
  (closing = true → s.psend = none) ∧ (s.halfClosed = true → closing = true)

theorem Closing.step {s s' : CStream α} {ks : List (C2S α)} {e : CEv α} {closing : Bool}
    (hI : Closing s closing) (hf : CEvFacts s s' ks e)
    (hok : (CEv.isSend e = true → closing = false) ∧
      (CEv.isCloseSend e = true → s.psend = none ∧ CEv.isSend e = false)) :
    Closing s' (closing || CEv.isCloseSend e) ∧ noDataAfterHC s.halfClosed ks = true := by
  -- after `CloseSend` (now or before) the event emits no data; before it, no half-close frame
  have after : s.psend = none → CEv.isSend e = false →
      Closing s' true ∧ noDataAfterHC s.halfClosed ks = true := fun hp hs =>
    ⟨⟨fun _ => (hf.nodata hs hp).2, fun _ => rfl⟩,
     flagScan_of_ok _ _ (fun f hm c => by rw [(hf.nodata hs hp).1 f hm]; exact Bool.and_false c)⟩
  cases hcl : closing with
  | true =>
    refine after (hI.1 hcl) ?_
    cases hs : CEv.isSend e with
    | false => rfl
    | true => rw [hok.1 hs] at hcl; cases hcl
  | false =>
    cases hc : CEv.isCloseSend e with
    | true => exact after (hok.2 hc).1 (hok.2 hc).2
    | false =>
      have hh : s.halfClosed = false := by
        cases h : s.halfClosed with
        | false => rfl
        | true => rw [hI.2 h] at hcl; cases hcl
      have hn := hf.noHC hc
      refine ⟨⟨fun h => (by cases h), fun h => (by rw [hn.2, hh] at h; cases h)⟩, ?_⟩
      rw [hh]
      exact flagScan_const _ _ (fun f hm => ⟨rfl, by rw [hn.1 f hm]; rfl⟩)

theorem C3_aux (cfg : CCfg) (sid : Sid) (evs : List (CEv α)) : ∀ (s : CStream α) (closing : Bool),
    Closing s closing → legalCloseSend cfg sid s closing evs = true →
    noDataAfterHC s.halfClosed (cframes (CStream.runEv cfg sid s evs).2) = true ∧
    ((CStream.runEv cfg sid s evs).1.halfClosed = true → (CStream.runEv cfg sid s evs).1.psend = none) := by
  induction evs with
  | nil => intro s closing hI _; exact ⟨rfl, fun h => hI.1 (hI.2 h)⟩
  | cons e es ih =>
    intro s closing hI hl
    rw [legalCloseSend_cons, Bool.and_eq_true] at hl
    have hf := stepEv_facts cfg sid s e
    obtain ⟨hI', hks⟩ := hI.step hf (legalCloseSend_ok hl.1)
    have h := ih _ _ hI' hl.2
    unfold noDataAfterHC at hks h ⊢
    rw [ClientOps.runEv_cons, cframes_cons, flagScan_append, ← flag_after hf.step.hc, hks, Bool.true_and]
    exact h

/-- a fresh client stream, as `Cli.newStream` builds it (see `newStream_fresh`) -/
def CFresh (s : CStream α) : Prop :=
  s.halfClosed = false ∧ s.done = none ∧ s.psend = none ∧ s.numSent = 0

/-- Only `halfClosed = false` is needed of the initial state; `CStream.legalSends` is not needed (and does
    not imply `legalCloseSend`: counter-example at the end of the file). -/
theorem C3_no_data_after_halfClose (cfg : CCfg) (sid : Sid) (s0 : CStream α) (h0 : s0.halfClosed = false)
    (evs : List (CEv α)) (hl : legalCloseSend cfg sid s0 false evs = true) :
    ∀ pre f post, cframes (CStream.runEv cfg sid s0 evs).2 = pre ++ f :: post → C.isHalfClose f = true →
      ∀ g ∈ post, C.isData g = false := by
  intro pre f post hfs hf
  have h := (C3_aux cfg sid evs s0 false ⟨fun h => (by cases h), fun h => (by rw [h0] at h; cases h)⟩ hl).1
  unfold noDataAfterHC at h
  rw [hfs] at h
  have h1 := (flagScan_mid h).2
  rw [hf, Bool.or_true] at h1
  exact fun g hg => (flagScan_true _ h1 g hg)

/-- the hypothesis `CStream.legalSends` is not used -/
theorem C3_no_data_after_halfClose_legal (cfg : CCfg) (sid : Sid) (s0 : CStream α) (h0 : CFresh s0)
    (evs : List (CEv α)) (_hs : CStream.legalSends cfg sid s0 false evs = true)
    (hl : legalCloseSend cfg sid s0 false evs = true) :
    ∀ pre f post, cframes (CStream.runEv cfg sid s0 evs).2 = pre ++ f :: post → C.isHalfClose f = true →
      ∀ g ∈ post, C.isData g = false :=
  C3_no_data_after_halfClose cfg sid s0 h0.1 evs hl

/-- the stream object `Cli.newStream` appends is fresh (before the immediate cancellation, if the
    caller's context is already done) -/
theorem newStream_fresh (cs ss fc : Bool) (W win : Nat) (dl : Option Nat) :
    CFresh ({ cs := cs, ss := ss, fc := fc, rcv := RcvQ.init W, win := win, deadline := dl } : CStream α) :=
  ⟨rfl, rfl, rfl, rfl⟩

/-- frame kind as a string, to compare emitted frame lists by `decide` (`S2C`/`C2S` have no `DecidableEq`) -/
def S.tag : S2C α → String
  | .settings .. => "settings" | .headers _ => "headers" | .msg .. => "msg" | .more _ => "more"
  | .close .. => "close" | .windowUpdate _ => "wu" | .unset => "unset"

def C.tag : C2S α → String
  | .newStream .. => "new" | .msg .. => "msg" | .more _ => "more" | .halfClose => "halfclose"
  | .cancel => "cancel" | .windowUpdate _ => "wu" | .unset => "unset"

-- a server-streaming handler: headers, then data, then close; nothing after the close frame
-- although the peer goes on sending and the context ends
example :
    let s : SStream Nat := { cs := true, ss := true, unary := false, fc := true, rcv := RcvQ.init 10, win := 10,
                             hstatus := .running }
    (sframes (SStream.runEv {} 1 s [.call .recv, .frame (.msg 1 [7]), .call (.send [1, 2]), .call (.send [3]),
        .call (.ret (mkStatus 0 "")), .frame (.msg 1 [8]), .frame .cancel, .ctx .deadline]).2).map S.tag =
      ["wu", "headers", "msg", "msg", "close"] := by
  decide +kernel

-- a unary reply blocked on the window, completed by a window update: the close frame is last
example :
    let s : SStream Nat := { cs := false, ss := false, unary := true, fc := true, rcv := RcvQ.init 10, win := 2,
                             hstatus := .running }
    (sframes (SStream.runEv {} 1 s [.call (.reply [1, 2, 3]), .frame (.msg 1 [8]), .frame (.windowUpdate 5),
        .frame (.windowUpdate 5), .frame .cancel]).2).map S.tag = ["headers", "msg", "more", "close"] := by
  decide +kernel

-- why S5 has its hypotheses: a handler that keeps sending after the client cancelled
-- puts message frames on the wire *after* the close frame ...
example :
    let s : SStream Nat := { cs := true, ss := true, unary := false, fc := true, rcv := RcvQ.init 10, win := 10,
                             hstatus := .running }
    (sframes (SStream.runEv {} 1 s [.call (.send [1]), .frame .cancel, .call (.send [2])]).2).map S.tag =
      ["headers", "msg", "close", "msg"] := by
  decide +kernel

-- ... and so does a unary handler that replies after the client cancelled: the hypothesis
-- "not closed when the handler returns its response" of `S5_reply_nothing_after_close` is necessary
example :
    let s : SStream Nat := { cs := false, ss := false, unary := true, fc := true, rcv := RcvQ.init 10, win := 10,
                             hstatus := .running }
    (sframes (SStream.runEv {} 1 s [.frame .cancel, .call (.reply [2])]).2).map S.tag =
      ["headers", "close", "msg"] := by
  decide +kernel

-- S3 needs a fresh stream (`psend = none`): from an (unreachable) state with a send in progress
-- but no headers sent, a window update emits data without headers
example :
    let s : SStream Nat := { cs := true, ss := true, unary := false, fc := true, rcv := RcvQ.init 10, win := 0,
                             hstatus := .running, psend := some (Snd.start [1]) }
    (sframes (SStream.runEv {} 1 s [.frame (.windowUpdate 5)]).2).map S.tag = ["msg"] := by
  decide +kernel

-- S6 on a concrete endpoint: unknown method → exactly one close frame, no stream object
example :
    let r := ({} : Srv Nat).step {} (.frame 0 (.newStream [47, 97, 47, 98] [] 1 65536))
    r.2.frames.map (fun f => (f.1, S.tag f.2)) = [(0, "close")] ∧ r.1.streams.length = 0 := by
  decide +kernel

-- C3: the contract is satisfiable on a non-trivial run (a send that blocks on the window and is
-- completed by a window update, then `CloseSend`, more window updates, a read, the close frame)
example :
    let s : CStream Nat := { cs := true, ss := true, fc := true, rcv := RcvQ.init 10, win := 2 }
    let evs : List (CEv Nat) := [.call (.send [1, 2, 3]), .frame (.windowUpdate 5), .call .closeSend,
      .frame (.windowUpdate 5), .call .recv, .frame (.msg 1 [9]), .frame (.close (mkStatus 0 "") [])]
    legalCloseSend {} 1 s false evs = true ∧ CStream.legalSends {} 1 s false evs = true ∧
    (cframes (CStream.runEv {} 1 s evs).2).map C.tag = ["msg", "more", "halfclose", "wu"] := by
  decide +kernel

-- C3 is false without "`CloseSend` only when no send is in progress": a send blocked on the
-- window when `CloseSend` is called continues after the half-close frame
example :
    let s : CStream Nat := { cs := true, ss := true, fc := true, rcv := RcvQ.init 10, win := 2 }
    let evs : List (CEv Nat) := [.call (.send [1, 2, 3]), .call .closeSend, .frame (.windowUpdate 5)]
    legalCloseSend {} 1 s false evs = false ∧ CStream.legalSends {} 1 s false evs = true ∧
    (cframes (CStream.runEv {} 1 s evs).2).map C.tag = ["msg", "halfclose", "more"] := by
  decide +kernel

-- C1: the bounds are attained
example :
    let s : CStream Nat := { cs := true, ss := true, fc := true, rcv := RcvQ.init 10, win := 2 }
    (cframes (CStream.runEv {} 1 s [.call .closeSend, .call .closeSend, .call .cancel, .call .cancel,
        .ctx .deadline]).2).map C.tag = ["halfclose", "cancel"] := by
  decide +kernel

end Proofs.Conformance

#print axioms Proofs.Conformance.S1_at_most_one_headers
#print axioms Proofs.Conformance.S1_headers_iff_flag
#print axioms Proofs.Conformance.S2_at_most_one_close
#print axioms Proofs.Conformance.S2_close_iff_flag
#print axioms Proofs.Conformance.S2_exactly_one_close
#print axioms Proofs.Conformance.S3_headers_before_data
#print axioms Proofs.Conformance.S4_no_settings
#print axioms Proofs.Conformance.S4_start
#print axioms Proofs.Conformance.S4_step_no_settings
#print axioms Proofs.Conformance.S4_run_no_settings
#print axioms Proofs.Conformance.S5_settled_step
#print axioms Proofs.Conformance.S5_settled_run
#print axioms Proofs.Conformance.ret_settles
#print axioms Proofs.Conformance.S5_ret_nothing_after_close
#print axioms Proofs.Conformance.S5_ret_after_close_silent
#print axioms Proofs.Conformance.S5_close_is_last_reachable
#print axioms Proofs.Conformance.S5_reply_nothing_after_close
#print axioms Proofs.Conformance.S6_rejected
#print axioms Proofs.Conformance.S6_accepted
#print axioms Proofs.Conformance.S6_newStream_frame
#print axioms Proofs.Conformance.S7_no_window_update
#print axioms Proofs.Conformance.C1_at_most_one_halfClose
#print axioms Proofs.Conformance.C1_halfClose_iff_flag
#print axioms Proofs.Conformance.C1_at_most_one_cancel
#print axioms Proofs.Conformance.C2_no_newStream
#print axioms Proofs.Conformance.C3_no_data_after_halfClose
#print axioms Proofs.Conformance.C3_no_data_after_halfClose_legal
#print axioms Proofs.Conformance.C4_no_window_update
