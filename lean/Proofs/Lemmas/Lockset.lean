import TunnelModel.Lockset
/-!
  # The lockset argument, publication by `close`, publication by `go`

  Theorems about the event model `TunnelModel.Lockset`: two events of different
  goroutines that each hold the same mutex are ordered by happens-before
  (`hb_of_common_lock`), hence a variable that is only accessed under one mutex has no
  data race (`race_free_of_discipline`); a write before `close(c)` happens before a read
  after a receive on `c` (`hb_of_publication`); what a goroutine did before a `go`
  statement happens before everything the started goroutine does (`hb_of_go`).

  How the model is to be read:

  * `holds tr i t l` is `holder (tr.take i) l = some t`: the lock is held BEFORE event
    `i` takes effect.  `hb_of_common_lock` is true with that reading also when event `i`
    is itself the `rel t l` (then the release index is `i` and the first program-order
    step is dropped).
  * `HB.lock` relates ANY earlier `rel _ l` to ANY later `acq _ l` (the Go rule "the n-th
    Unlock is synchronized before the m-th Lock for n < m"), so no chain through
    intermediate holders is needed: the release by `t` and the later acquire by `u` are
    related by one edge.
  * `WF` for `go t u` also requires `t ≠ u` (a goroutine does not start itself).
  * `Protected tr x` is `∃ l, ProtectedBy tr x l` so that the inner part is decidable.
  * The hypothesis `i ≠ j` of `race_free_of_discipline` is not needed (`race_free_of_discipline'`).

  Happens-before is contained in the trace order (`hb_lt`), hence irreflexive and
  acyclic; `holds_unique` is mutual exclusion.
-/

namespace Proofs.Lockset
open TunnelModel.Lockset

theorem lockStep_cases (l : Lck) (h : Option Tid) (e : Ev) :
    lockStep l h e = h ∨ (∃ t, e = .acq t l ∧ lockStep l h e = some t) ∨
      (∃ t, e = .rel t l ∧ lockStep l h e = none) := by
  cases e with
  | acq t l' =>
    by_cases hl : l' = l
    · exact Or.inr (Or.inl ⟨t, hl ▸ rfl, if_pos hl⟩)
    · exact Or.inl (if_neg hl)
  | rel t l' =>
    by_cases hl : l' = l
    · exact Or.inr (Or.inr ⟨t, hl ▸ rfl, if_pos hl⟩)
    · exact Or.inl (if_neg hl)
  | _ => exact Or.inl rfl

theorem holder_take_succ (tr : Trace) (l : Lck) (i : Nat) (h : i < tr.length) :
    holder (tr.take (i + 1)) l = lockStep l (holder (tr.take i) l) tr[i] := by
  unfold holder
  rw [List.take_succ_eq_append_getElem h, List.foldl_append]
  rfl

theorem holder_change {tr : Trace} {l : Lck} {k : Nat}
    (h : holder (tr.take (k + 1)) l ≠ holder (tr.take k) l) :
    ∃ hk : k < tr.length,
      (∃ t, tr[k] = .acq t l ∧ holder (tr.take (k + 1)) l = some t) ∨
      (∃ t, tr[k] = .rel t l ∧ holder (tr.take (k + 1)) l = none) := by
  have hk : k < tr.length := Nat.lt_of_not_le fun hle => h (by
    rw [List.take_of_length_le hle, List.take_of_length_le (Nat.le_succ_of_le hle)])
  rw [holder_take_succ tr l k hk] at h ⊢
  exact ⟨hk, (lockStep_cases l _ tr[k]).resolve_left h⟩

theorem exists_flip (P : Nat → Prop) {a b : Nat} (hab : a ≤ b) (ha : P a) (hb : ¬ P b) :
    ∃ k, a ≤ k ∧ k < b ∧ P k ∧ ¬ P (k + 1) := by
  induction b with
  | zero => exact absurd (Nat.le_zero.mp hab ▸ ha) hb
  | succ b ih =>
    have hab' : a ≤ b := Nat.lt_succ_iff.mp (Nat.lt_of_le_of_ne hab fun (e : a = b + 1) => hb (e ▸ ha))
    by_cases hb' : P b
    · exact ⟨b, hab', Nat.lt_succ_self b, hb', hb⟩
    · obtain ⟨k, hak, hkb, hk⟩ := ih hab' hb'
      exact ⟨k, hak, Nat.lt_succ_of_lt hkb, hk⟩

theorem map_tid_of_getElem? {tr : Trace} {i : Nat} {e : Ev}
    (h : tr[i]? = some e) : (tr[i]?).map Ev.tid = some e.tid := by
  rw [h]; rfl

theorem holds_unique {tr : Trace} {i : Nat} {t u : Tid} {l : Lck}
    (ht : holds tr i t l) (hu : holds tr i u l) : t = u :=
  Option.some.inj (ht.symm.trans hu)

/-- uses `WF`: nobody else can release or steal the mutex -/
theorem exists_rel (tr : Trace) (hwf : WF tr) (l : Lck) (t : Tid) (a : Nat)
    (ha : holder (tr.take a) l = some t) (b : Nat) (hab : a ≤ b)
    (hb : holder (tr.take b) l ≠ some t) :
    ∃ k, a ≤ k ∧ k < b ∧ tr[k]? = some (.rel t l) := by
  obtain ⟨k, hak, hkb, hk, hk'⟩ := exists_flip (fun k => holder (tr.take k) l = some t) hab ha hb
  obtain ⟨hlen, ⟨t', he, _⟩ | ⟨t', he, _⟩⟩ := holder_change (hk ▸ hk')
  · have hok : holder (tr.take k) l = none := by have := hwf k hlen; rw [he] at this; exact this
    exact absurd (hk.symm.trans hok) nofun
  · have hok : holder (tr.take k) l = some t' := by have := hwf k hlen; rw [he] at this; exact this
    obtain rfl : t = t' := Option.some.inj (hk.symm.trans hok)
    exact ⟨k, hak, hkb, List.getElem?_eq_some_iff.mpr ⟨hlen, he⟩⟩

theorem exists_acq (tr : Trace) (l : Lck) (u : Tid) (a : Nat)
    (ha : holder (tr.take a) l ≠ some u) (b : Nat) (hab : a ≤ b)
    (hb : holder (tr.take b) l = some u) :
    ∃ m, a ≤ m ∧ m < b ∧ tr[m]? = some (.acq u l) := by
  obtain ⟨m, ham, hmb, hm, hm'⟩ :=
    exists_flip (fun k => holder (tr.take k) l ≠ some u) hab ha (fun h => h hb)
  have hm' : holder (tr.take (m + 1)) l = some u := Decidable.not_not.mp hm'
  obtain ⟨hlen, ⟨t', he, h'⟩ | ⟨t', _, h'⟩⟩ := holder_change (l := l) (k := m) (hm' ▸ hm.symm)
  · obtain rfl : t' = u := Option.some.inj (h'.symm.trans hm')
    exact ⟨m, ham, hmb, List.getElem?_eq_some_iff.mpr ⟨hlen, he⟩⟩
  · exact absurd (h'.symm.trans hm') nofun

theorem handover (tr : Trace) (hwf : WF tr) (l : Lck) (t u : Tid) (htu : t ≠ u)
    (a b : Nat) (hab : a ≤ b)
    (ha : holder (tr.take a) l = some t) (hb : holder (tr.take b) l = some u) :
    ∃ k m, a ≤ k ∧ k < m ∧ m < b ∧ tr[k]? = some (.rel t l) ∧
      tr[m]? = some (.acq u l) ∧ HB tr k m := by
  obtain ⟨k, hak, hkb, hk⟩ := exists_rel tr hwf l t a ha b hab
    (fun h => htu (Option.some.inj (h.symm.trans hb)))
  obtain ⟨hklen, hkev⟩ := List.getElem?_eq_some_iff.mp hk
  have hnone : holder (tr.take (k + 1)) l ≠ some u := by
    rw [holder_take_succ tr l k hklen, hkev, lockStep, if_pos rfl]; nofun
  obtain ⟨m, hkm, hmb, hm⟩ := exists_acq tr l u (k + 1) hnone b hkb hb
  exact ⟨k, m, hak, hkm, hmb, hk, hm, HB.lock hkm hk hm⟩

/-- an edge `k → m` extends to every earlier event of `k`'s goroutine and every later
    event of `m`'s goroutine; the three theorems below are instances -/
theorem hb_po_ends {tr : Trace} {i k m j : Nat} {t u : Tid} (h : HB tr k m)
    (hik : i ≤ k) (hi : (tr[i]?).map Ev.tid = some t) (hk : (tr[k]?).map Ev.tid = some t)
    (hmj : m ≤ j) (hm : (tr[m]?).map Ev.tid = some u) (hj : (tr[j]?).map Ev.tid = some u) :
    HB tr i j := by
  have him : HB tr i m := by
    rcases Nat.eq_or_lt_of_le hik with rfl | hlt
    · exact h
    · exact (HB.po hlt hi hk).trans h
  rcases Nat.eq_or_lt_of_le hmj with rfl | hlt
  · exact him
  · exact him.trans (HB.po hlt hm hj)

/-- Two events executed by different goroutines while each holds the same mutex
are ordered by happens-before. -/
theorem hb_of_common_lock (tr : Trace) (hwf : WF tr) (i j : Nat) (hij : i < j) (t u : Tid) (l : Lck)
    (hi : (tr[i]?).map Ev.tid = some t) (hju : (tr[j]?).map Ev.tid = some u)
    (htu : t ≠ u) (hhi : holds tr i t l) (hhj : holds tr j u l) : HB tr i j := by
  obtain ⟨k, m, hik, _, hmj, hk, hm, hbkm⟩ :=
    handover tr hwf l t u htu i j (Nat.le_of_lt hij) hhi hhj
  exact hb_po_ends hbkm hik hi (map_tid_of_getElem? hk) (Nat.le_of_lt hmj)
    (map_tid_of_getElem? hm) hju

/-- An event (e.g. a write) sequenced before `close(c)` happens before an event
(e.g. a read) sequenced after a receive that observed the close. -/
theorem hb_of_publication (tr : Trace) (i k m j : Nat) (t u : Tid) (c : Chn)
    (hik : i < k) (hkm : k < m) (hmj : m < j)
    (hi : (tr[i]?).map Ev.tid = some t) (hk : tr[k]? = some (.close t c))
    (hm : tr[m]? = some (.recv u c)) (hju : (tr[j]?).map Ev.tid = some u) :
    HB tr i j :=
  hb_po_ends (HB.chan hkm hk hm) (Nat.le_of_lt hik) hi (map_tid_of_getElem? hk)
    (Nat.le_of_lt hmj) (map_tid_of_getElem? hm) hju

/-- An event of `t` sequenced before `go u` (at index `k`) happens before every
event of `u` after `k`. -/
theorem hb_of_go (tr : Trace) (i k j : Nat) (t u : Tid)
    (hik : i < k) (hkj : k < j)
    (hi : (tr[i]?).map Ev.tid = some t) (hk : tr[k]? = some (.go t u))
    (hju : (tr[j]?).map Ev.tid = some u) : HB tr i j :=
  hb_po_ends (HB.go hkj hk hju) (Nat.le_of_lt hik) hi (map_tid_of_getElem? hk)
    (Nat.le_refl j) hju hju

/-- In a well-formed trace EVERY event of a started goroutine is after the `go`
that starts it, so `hkj` of `hb_of_go` is automatic. -/
theorem go_lt_of_wf (tr : Trace) (hwf : WF tr) (k j : Nat) (t u : Tid)
    (hk : tr[k]? = some (.go t u)) (hju : (tr[j]?).map Ev.tid = some u) : k < j := by
  obtain ⟨hklen, hkev⟩ := List.getElem?_eq_some_iff.mp hk
  have hok : t ≠ u ∧ ∀ e ∈ tr.take k, e.tid ≠ u := by
    have := hwf k hklen; rw [hkev] at this; exact this
  obtain ⟨e, hje, hjt⟩ := Option.map_eq_some_iff.mp hju
  rcases Nat.lt_trichotomy j k with hlt | rfl | hgt
  · have : e ∈ tr.take k :=
      List.mem_of_getElem? (by rw [List.getElem?_take, if_pos hlt]; exact hje)
    exact absurd hjt (hok.2 e this)
  · obtain rfl : Ev.go t u = e := Option.some.inj (hk.symm.trans hje)
    exact absurd hjt hok.1
  · exact hgt

theorem hb_of_go_wf (tr : Trace) (hwf : WF tr) (i k j : Nat) (t u : Tid) (hik : i < k)
    (hi : (tr[i]?).map Ev.tid = some t) (hk : tr[k]? = some (.go t u))
    (hju : (tr[j]?).map Ev.tid = some u) : HB tr i j :=
  hb_of_go tr i k j t u hik (go_lt_of_wf tr hwf k j t u hk hju) hi hk hju

theorem hb_lt {tr : Trace} {i j : Nat} (h : HB tr i j) : i < j := by
  induction h with
  | po h _ _ => exact h
  | lock h _ _ => exact h
  | chan h _ _ => exact h
  | go h _ _ => exact h
  | trans _ _ ih1 ih2 => exact Nat.lt_trans ih1 ih2

theorem hb_irrefl {tr : Trace} {i : Nat} : ¬ HB tr i i :=
  fun h => Nat.lt_irrefl i (hb_lt h)

theorem hb_asymm {tr : Trace} {i j : Nat} (h : HB tr i j) : ¬ HB tr j i :=
  fun h' => Nat.lt_irrefl i (Nat.lt_trans (hb_lt h) (hb_lt h'))

theorem hb_lt_length {tr : Trace} {i j : Nat} (h : HB tr i j) : j < tr.length := by
  have of_tid {j : Nat} {u : Tid} (h : (tr[j]?).map Ev.tid = some u) : j < tr.length := by
    obtain ⟨_, he, _⟩ := Option.map_eq_some_iff.mp h
    exact (List.getElem?_eq_some_iff.mp he).1
  induction h with
  | po _ _ h => exact of_tid h
  | lock _ _ h => exact (List.getElem?_eq_some_iff.mp h).1
  | chan _ _ h => exact (List.getElem?_eq_some_iff.mp h).1
  | go _ _ h => exact of_tid h
  | trans _ _ _ ih2 => exact ih2

theorem conflict_symm {tr : Trace} {i j : Nat} {x : Var} (h : conflict tr i j x) :
    conflict tr j i x := by
  obtain ⟨a, b, ha, hb, hax, hbx, hw, hne⟩ := h
  exact ⟨b, a, hb, ha, hbx, hax, hw.symm, hne.symm⟩

theorem conflict_ne {tr : Trace} {i j : Nat} {x : Var} (h : conflict tr i j x) : i ≠ j := by
  obtain ⟨a, b, ha, hb, _, _, _, hne⟩ := h
  rintro rfl
  exact hne (congrArg Ev.tid (Option.some.inj (ha.symm.trans hb)))

theorem hb_of_conflict_lt (tr : Trace) (hwf : WF tr) (x : Var) (l : Lck)
    (hp : ProtectedBy tr x l) (i j : Nat) (hij : i < j) (hc : conflict tr i j x) :
    HB tr i j := by
  obtain ⟨a, b, ha, hb, hax, hbx, _, hne⟩ := hc
  obtain ⟨hilen, rfl⟩ := List.getElem?_eq_some_iff.mp ha
  obtain ⟨hjlen, rfl⟩ := List.getElem?_eq_some_iff.mp hb
  exact hb_of_common_lock tr hwf i j hij _ _ l
    (map_tid_of_getElem? ha) (map_tid_of_getElem? hb) hne (hp i hilen hax) (hp j hjlen hbx)

theorem race_free_of_discipline' (tr : Trace) (hwf : WF tr) (x : Var)
    (hp : Protected tr x) :
    ∀ i j, conflict tr i j x → HB tr i j ∨ HB tr j i := by
  intro i j hc
  obtain ⟨l, hl⟩ := hp
  rcases Nat.lt_trichotomy i j with hij | hij | hji
  · exact Or.inl (hb_of_conflict_lt tr hwf x l hl i j hij hc)
  · exact absurd hij (conflict_ne hc)
  · exact Or.inr (hb_of_conflict_lt tr hwf x l hl j i hji (conflict_symm hc))

/-- In a well-formed trace every pair of conflicting accesses to a `Protected`
variable is ordered by happens-before, one way or the other: no data race. -/
theorem race_free_of_discipline (tr : Trace) (hwf : WF tr) (x : Var)
    (hp : Protected tr x) :
    ∀ i j, i ≠ j → conflict tr i j x → HB tr i j ∨ HB tr j i :=
  fun i j _ hc => race_free_of_discipline' tr hwf x hp i j hc

/-- Goroutine 0 starts goroutine 1; both write variable 3 under mutex 7; goroutine 0
also publishes variable 4 by closing channel 9, goroutine 1 reads it after the receive. -/
def exTrace : Trace :=
  [.wr 0 4, .go 0 1, .acq 0 7, .wr 0 3, .rel 0 7, .close 0 9,
   .acq 1 7, .wr 1 3, .rel 1 7, .recv 1 9, .rd 1 4]

theorem exTrace_wf : WF exTrace := by decide +kernel

theorem exTrace_protected : Protected exTrace 3 := ⟨7, by decide⟩

theorem exTrace_conflict : conflict exTrace 3 7 3 :=
  ⟨.wr 0 3, .wr 1 3, rfl, rfl, rfl, rfl, Or.inl rfl, by decide⟩

example : WF exTrace := exTrace_wf

example : Protected exTrace 3 := exTrace_protected

example : holds exTrace 3 0 7 ∧ holds exTrace 7 1 7 := by decide +kernel

example : conflict exTrace 3 7 3 := exTrace_conflict

/-- The two writes to variable 3 are ordered. -/
example : HB exTrace 3 7 :=
  (race_free_of_discipline exTrace exTrace_wf 3 exTrace_protected 3 7 (by decide)
    exTrace_conflict).resolve_right fun h => absurd (hb_lt h) (by decide)

/-- The write to variable 4 happens before its read, by `close`/`recv` ... -/
example : HB exTrace 0 10 :=
  hb_of_publication exTrace 0 5 9 10 0 1 9 (by decide) (by decide) (by decide) rfl rfl rfl rfl

/-- ... and also by the `go` statement. -/
example : HB exTrace 0 10 :=
  hb_of_go exTrace 0 1 10 0 1 (by decide) (by decide) rfl rfl rfl

/-- The discipline is not trivially true: variable 4 is accessed without any mutex held. -/
example : ¬ Protected exTrace 4 := by
  intro ⟨l, hl⟩
  have h := hl 0 (by decide) rfl
  exact absurd h (by simp [holds, holder])

/-- `WF` is not trivially true: releasing a mutex one does not hold is ill-formed. -/
example : ¬ WF [.acq 0 7, .rel 1 7] := by decide +kernel

/-- `WF` enforces mutual exclusion. -/
example : ¬ WF [.acq 0 7, .acq 1 7] := by decide +kernel

#print axioms hb_of_common_lock
#print axioms hb_of_publication
#print axioms hb_of_go
#print axioms race_free_of_discipline

end Proofs.Lockset
