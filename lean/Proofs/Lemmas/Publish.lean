import TunnelModel.Publish
import Proofs.Lemmas.Run
/-!
  Result publication on a client stream — `finishStream` / `Trailer` / `RecvMsg` of
  `tunnelClientStream` (tunnel_client.go) — under every interleaving of its atomic steps
  (`TunnelModel.Publish`): for every number `n` of finishers, `k` of call-option targets, `p` of observer
  peeks, every assignment `err`, `tr : Nat → _` of errors / trailers to the finishers and every schedule.
  The first argument of `step` / `run` is the order of the finisher's statements: `true` = the code as it is
  (trailers stored and `doneSignal` closed before the receiver is closed), `false` = the old order (receiver
  closed right after `removeStream`, defect D4).

  The invariant `Inv` says that `done` and every shared variable are a function of the winner of the CAS
  and its program counter (`Sync`).  Under the old order it fails at the `recvClosed` clause of `Sync`
  (receiver closed at `released`, before the store); `Step`, the stability lemmas and `remaining` are for
  both orders.

  * No ghost state: "the winner" is the finisher whose program counter satisfies `FPc.hasWon`
    (`Winner s w`); uniqueness is part of the invariant.
  * The reader records what its reads returned (`rTrailer`, `rTarget`, each read at most once); the observer
    logs every peek (`peeks`) and peeks at most `p` times — otherwise no schedule bound could hold.
  * `Trailer()` is modelled as `Option MD`: `none` = nil because `doneSignal` is open, `some t` = the stored
    trailers.  In Go both are `metadata.MD`, and a local cancel stores nil trailers: when the cancel wins,
    the reader's `Trailer()` legitimately returns nil (`some none` here, example `cancelWins`).  The theorems
    say the reader sees the WINNER's trailers, whatever they are.
  * The terminal result is recorded raw (`Option Err`, the content of `done`);
    `Inv.terminal_result_is_the_winners` shows it is never `none`.
  * Between its `cas` and its `return true` the winner is at neither
    (`literal_exactly_one_true_fails_midway`).  So `exactly_one_completion` counts WINNERS: exactly one as
    soon as a `cas` happened, never more than one `retTrue`, exactly one `retTrue` when everybody has returned.
  * Only the winner of the CAS ever reaches `lockMeta`, so among finishers `metaMu` is never contended
    (`Sync` gives `metaMu = none` at `removed`).  The lock matters against the application-side users of
    `metaMu` (`Header`, `Trailer` …), which are not finishers and not in this model.
-/
namespace Proofs.Publish
open TunnelModel.Publish Proofs.Run

variable {err : Nat → Err} {tr : Nat → MD}

/-- `step` as a relation: one constructor per outcome of an action -/
inductive Step (o : Bool) (err : Nat → Err) (tr : Nat → MD) (s : St) : Act → St → Prop
  | casWin (i : Nat) (h : s.fpcs[i]? = some .start) (hd : s.done = none) :
      Step o err tr s (.cas i) { s with done := some (err i), fpcs := s.fpcs.set i .won }
  | casLose (i : Nat) (e : Err) (h : s.fpcs[i]? = some .start) (hd : s.done = some e) :
      Step o err tr s (.cas i) { s with fpcs := s.fpcs.set i .retFalse }
  | remove (i : Nat) (h : s.fpcs[i]? = some .won) :
      Step o err tr s (.remove i) { s with inTable := false, fpcs := s.fpcs.set i .removed }
  | lockNew (i : Nat) (h : s.fpcs[i]? = some .removed) (ho : o = true) (hm : s.metaMu = none) :
      Step o err tr s (.lockMeta i) { s with metaMu := some i, fpcs := s.fpcs.set i .locked }
  | lockOld (i : Nat) (h : s.fpcs[i]? = some .released) (ho : o = false) (hm : s.metaMu = none) :
      Step o err tr s (.lockMeta i) { s with metaMu := some i, fpcs := s.fpcs.set i .locked }
  | store (i : Nat) (h : s.fpcs[i]? = some .locked) :
      Step o err tr s (.storeTrailers i)
        { s with trailers := tr i, targets := List.replicate s.targets.length (tr i),
                 fpcs := s.fpcs.set i .stored }
  | closeDone (i : Nat) (h : s.fpcs[i]? = some .stored) :
      Step o err tr s (.closeDone i) { s with doneSig := true, fpcs := s.fpcs.set i .signalled }
  | unlock (i : Nat) (h : s.fpcs[i]? = some .signalled) :
      Step o err tr s (.unlockMeta i) { s with metaMu := none, fpcs := s.fpcs.set i .unlocked }
  | rcloseOld (i : Nat) (h : s.fpcs[i]? = some .removed) (ho : o = false) :
      Step o err tr s (.recvClose i) { s with recvClosed := true, fpcs := s.fpcs.set i .released }
  | rcloseNew (i : Nat) (h : s.fpcs[i]? = some .unlocked) (ho : o = true) :
      Step o err tr s (.recvClose i) { s with recvClosed := true, fpcs := s.fpcs.set i .rclosed }
  | cancelNew (i : Nat) (h : s.fpcs[i]? = some .rclosed) (ho : o = true) :
      Step o err tr s (.cancelCtx i) { s with ctxDone := true, fpcs := s.fpcs.set i .retTrue }
  | cancelOld (i : Nat) (h : s.fpcs[i]? = some .unlocked) (ho : o = false) :
      Step o err tr s (.cancelCtx i) { s with ctxDone := true, fpcs := s.fpcs.set i .retTrue }
  | recvStart (h : s.rpc = .idle) :
      Step o err tr s .recvStart { s with rpc := if s.recvClosed then .got s.done else .parked }
  | recvWake (h : s.rpc = .parked) (hc : s.recvClosed = true) :
      Step o err tr s .recvWake { s with rpc := .got s.done }
  | readTrailer (r : Option Err) (h : s.rpc = .got r) (ht : s.rTrailer = none) :
      Step o err tr s .readTrailer { s with rTrailer := some s.trailerCall }
  | readTarget (t : Nat) (r : Option Err) (v : MD) (h : s.rpc = .got r) (ht : s.rTarget = none)
      (hv : s.targets[t]? = some v) :
      Step o err tr s (.readTarget t) { s with rTarget := some v }
  | peek (b : Nat) (hb : s.budget = b + 1) :
      Step o err tr s .peekTrailer { s with budget := b, peeks := s.peeks ++ [s.trailerCall] }

theorem of_ite_some {α : Type} {c : Prop} [Decidable c] {x y : α} (h : (if c then some x else none) = some y) :
    c ∧ x = y := by
  split at h
  next hc => cases h; exact ⟨hc, rfl⟩
  · cases h

theorem step_spec {o : Bool} {s s' : St} {a : Act} (hs : step o err tr s a = some s') :
    Step o err tr s a s' := by
  cases a <;> dsimp only [step] at hs
  case cas i =>
    split at hs
    next h =>
      split at hs
      next hd => cases hs; exact .casWin i h hd
      next e hd => cases hs; exact .casLose i e h hd
    · cases hs
  case remove i =>
    split at hs
    next h => cases hs; exact .remove i h
    · cases hs
  case lockMeta i =>
    split at hs
    next h => obtain ⟨hc, rfl⟩ := of_ite_some hs; exact .lockNew i h hc.1 hc.2
    next h => obtain ⟨hc, rfl⟩ := of_ite_some hs; exact .lockOld i h hc.1 hc.2
    · cases hs
  case storeTrailers i =>
    split at hs
    next h => cases hs; exact .store i h
    · cases hs
  case closeDone i =>
    split at hs
    next h => cases hs; exact .closeDone i h
    · cases hs
  case unlockMeta i =>
    split at hs
    next h => cases hs; exact .unlock i h
    · cases hs
  case recvClose i =>
    split at hs
    next h => obtain ⟨hc, rfl⟩ := of_ite_some hs; exact .rcloseOld i h hc
    next h => obtain ⟨hc, rfl⟩ := of_ite_some hs; exact .rcloseNew i h hc
    · cases hs
  case cancelCtx i =>
    split at hs
    next h => obtain ⟨hc, rfl⟩ := of_ite_some hs; exact .cancelNew i h hc
    next h => obtain ⟨hc, rfl⟩ := of_ite_some hs; exact .cancelOld i h hc
    · cases hs
  case recvStart =>
    split at hs
    next h => cases hs; exact .recvStart h
    · cases hs
  case recvWake =>
    split at hs
    next h => obtain ⟨hc, rfl⟩ := of_ite_some hs; exact .recvWake h hc
    · cases hs
  case readTrailer =>
    split at hs
    next r h ht => cases hs; exact .readTrailer r h ht
    · cases hs
  case readTarget t =>
    split at hs
    next r v h ht hv => cases hs; exact .readTarget t r v h ht hv
    · cases hs
  case peekTrailer =>
    split at hs
    next b hb => cases hs; exact .peek b hb
    · cases hs

theorem step_of_Step {o : Bool} {s s' : St} {a : Act} (h : Step o err tr s a s') :
    step o err tr s a = some s' := by
  cases h with
  | casWin i h hd => simp only [step, h, hd]
  | casLose i e h hd => simp only [step, h, hd]
  | remove i h => simp only [step, h]
  | lockNew i h ho hm => simp only [step, h, ho, hm, and_self, if_true]
  | lockOld i h ho hm => simp only [step, h, ho, hm, and_self, if_true]
  | store i h => simp only [step, h]
  | closeDone i h => simp only [step, h]
  | unlock i h => simp only [step, h]
  | rcloseOld i h ho => simp only [step, h, ho, if_true]
  | rcloseNew i h ho => simp only [step, h, ho, if_true]
  | cancelNew i h ho => simp only [step, h, ho, if_true]
  | cancelOld i h ho => simp only [step, h, ho, if_true]
  | recvStart h => simp only [step, h]
  | recvWake h hc => simp only [step, h, hc, if_true]
  | readTrailer r h ht => simp only [step, h, ht]
  | readTarget t r v h ht hv => simp only [step, h, ht, hv]
  | peek b hb => simp only [step, hb]

theorem isRun {o : Bool} : IsRun (step o err tr) (run o err tr) :=
  ⟨fun _ => rfl, fun s a as => by
    show (match step o err tr s a with | some s' => run o err tr s' as | none => none) = _
    cases step o err tr s a <;> rfl⟩

theorem trailerCall_open {s : St} (h : s.doneSig = false) : s.trailerCall = none := by
  unfold St.trailerCall; rw [h]; rfl

theorem trailerCall_closed {s : St} (h : s.doneSig = true) : s.trailerCall = some s.trailers := by
  unfold St.trailerCall; rw [h]; rfl

theorem pastSignal_of_pastRClose {p : FPc} (h : p.pastRClose = true) : p.pastSignal = true := by
  cases p <;> cases h <;> rfl

theorem pastStore_of_pastSignal {p : FPc} (h : p.pastSignal = true) : p.pastStore = true := by
  cases p <;> cases h <;> rfl

theorem hasWon_of_holds {p : FPc} (h : p.holds = true) : p.hasWon = true := by
  cases p <;> cases h <;> rfl

theorem not_returned_of_holds {p : FPc} (h : p.holds = true) : p.returned = false := by
  cases p <;> cases h <;> rfl

theorem retTrue_of_won_returned {p : FPc} (hw : p.hasWon = true) (hr : p.returned = true) : p = .retTrue := by
  cases p <;> cases hw <;> cases hr <;> rfl

def Winner (s : St) (w : Nat) : Prop := ∃ p, s.fpcs[w]? = some p ∧ p.hasWon = true

/-- the shared variables, as determined by the winner `w` and its program counter `p` -/
def Sync (err : Nat → Err) (tr : Nat → MD) (s : St) (w : Nat) (p : FPc) : Prop :=
  s.done = some (err w) ∧ s.inTable = !p.pastRemove ∧ s.metaMu = (if p.holds then some w else none) ∧
  s.doneSig = p.pastSignal ∧ s.recvClosed = p.pastRClose ∧ s.ctxDone = p.pastCancel ∧
  (p.pastStore = true → s.trailers = tr w ∧ ∀ (t : Nat) (v : MD), s.targets[t]? = some v → v = tr w) ∧
  p ≠ .released

structure Inv (err : Nat → Err) (tr : Nat → MD) (s : St) : Prop where
  one_winner : ∀ (i j : Nat) (p q : FPc), s.fpcs[i]? = some p → s.fpcs[j]? = some q →
    p.hasWon = true → q.hasWon = true → i = j
  /-- `done` unset: no CAS has happened, nothing has been touched -/
  idle : s.done = none → (∀ (i : Nat) (p : FPc), s.fpcs[i]? = some p → p = .start) ∧ s.inTable = true ∧
    s.metaMu = none ∧ s.doneSig = false ∧ s.recvClosed = false ∧ s.ctxDone = false
  /-- THE KEY: `done` and every shared variable are those of the winner at its program point -/
  sync : ∀ (w : Nat) (p : FPc), s.fpcs[w]? = some p → p.hasWon = true → Sync err tr s w p
  has_winner : ∀ e, s.done = some e → ∃ (w : Nat) (p : FPc), s.fpcs[w]? = some p ∧ p.hasWon = true
  reader_got : ∀ r, s.rpc = .got r → s.recvClosed = true ∧ r = s.done
  /-- the reader reads only after the terminal result -/
  reader_pre : (∀ r, s.rpc ≠ .got r) → s.rTrailer = none ∧ s.rTarget = none
  read_trailer : ∀ v, s.rTrailer = some v → s.recvClosed = true ∧ v = some s.trailers
  read_target : ∀ v, s.rTarget = some v → s.recvClosed = true ∧
    ∀ (w : Nat) (p : FPc), s.fpcs[w]? = some p → p.hasWon = true → v = tr w
  /-- the observer's log: nil … nil, then the (final) trailers … -/
  peeks_shape : ∃ a b, s.peeks = List.replicate a none ++ List.replicate b (some s.trailers) ∧
    (s.doneSig = false → b = 0)

theorem Inv.winner_unique {s : St} (I : Inv err tr s) {w w' : Nat} (h : Winner s w) (h' : Winner s w') :
    w' = w := by
  obtain ⟨p, hp, hw⟩ := h
  obtain ⟨p', hp', hw'⟩ := h'
  exact I.one_winner w' w p' p hp' hp hw' hw

theorem Inv.winner_of_done {s : St} (I : Inv err tr s) (h : s.done ≠ none) : ∃ w, Winner s w := by
  cases hd : s.done with
  | none => exact absurd hd h
  | some e => exact I.has_winner e hd

theorem Inv.done_of_winner {s : St} (I : Inv err tr s) {w : Nat} (h : Winner s w) : s.done = some (err w) := by
  obtain ⟨p, hp, hw⟩ := h
  exact (I.sync w p hp hw).1

theorem Inv.signalled_published {s : St} (I : Inv err tr s) (hsig : s.doneSig = true) :
    ∃ w, Winner s w ∧ s.trailers = tr w ∧ ∀ (t : Nat) (v : MD), s.targets[t]? = some v → v = tr w := by
  obtain ⟨w, p, hp, hw⟩ := I.winner_of_done fun hd => by
    have := (I.idle hd).2.2.2.1
    rw [hsig] at this; cases this
  obtain ⟨_, _, _, h4, _, _, h7, _⟩ := I.sync w p hp hw
  exact ⟨w, ⟨p, hp, hw⟩, h7 (pastStore_of_pastSignal (h4 ▸ hsig))⟩

theorem Inv.closed_published {s : St} (I : Inv err tr s) (hc : s.recvClosed = true) :
    ∃ w, Winner s w ∧ s.done = some (err w) ∧ s.doneSig = true ∧ s.trailers = tr w ∧
      ∀ (t : Nat) (v : MD), s.targets[t]? = some v → v = tr w := by
  obtain ⟨w, p, hp, hw⟩ := I.winner_of_done fun hd => by
    have := (I.idle hd).2.2.2.2.1
    rw [hc] at this; cases this
  obtain ⟨h1, _, _, h4, h5, _, h7, _⟩ := I.sync w p hp hw
  have hpg : p.pastSignal = true := pastSignal_of_pastRClose (h5 ▸ hc)
  exact ⟨w, ⟨p, hp, hw⟩, h1, h4.trans hpg, h7 (pastStore_of_pastSignal hpg)⟩

theorem Inv.mutex {s : St} (I : Inv err tr s) {i j : Nat} {p q : FPc} (hp : s.fpcs[i]? = some p)
    (hq : s.fpcs[j]? = some q) (hhp : p.holds = true) (hhq : q.holds = true) : i = j :=
  I.one_winner i j p q hp hq (hasWon_of_holds hhp) (hasWon_of_holds hhq)

theorem Inv.holder {s : St} (I : Inv err tr s) {h : Nat} (hm : s.metaMu = some h) :
    ∃ p, s.fpcs[h]? = some p ∧ p.holds = true := by
  obtain ⟨w, p, hp, hw⟩ := I.winner_of_done fun hd => by
    have := (I.idle hd).2.2.1
    rw [hm] at this; cases this
  have h3 := (I.sync w p hp hw).2.2.1
  rw [hm] at h3
  cases hh : p.holds with
  | false => rw [hh] at h3; cases h3
  | true =>
    rw [hh] at h3
    cases h3
    exact ⟨p, hp, hh⟩

theorem inv_init (n k p : Nat) : Inv err tr (init n k p) := by
  have hst : ∀ (i : Nat) (q : FPc), (init n k p).fpcs[i]? = some q → q = .start :=
    fun i q h => eq_of_get_replicate h
  refine ⟨?_, ?_, ?_, ?_, ?_, ?_, ?_, ?_, ?_⟩
  · intro i j p q hp _ hw _
    rw [hst i p hp] at hw; cases hw
  · intro _
    exact ⟨hst, rfl, rfl, rfl, rfl, rfl⟩
  · intro w p hp hw
    rw [hst w p hp] at hw; cases hw
  · intro e h; cases h
  · intro r h; cases h
  · intro _; exact ⟨rfl, rfl⟩
  · intro v h; cases h
  · intro v h; cases h
  · exact ⟨0, 0, rfl, fun _ => rfl⟩

theorem won_back {l : List FPc} {i j : Nat} {p p' q : FPc} (hp : l[i]? = some p) (hw : p.hasWon = true)
    (hq : (l.set i p')[j]? = some q) (hwq : q.hasWon = true) :
    ∃ q0, l[j]? = some q0 ∧ q0.hasWon = true := by
  rcases get_set hq with ⟨e, _⟩ | ⟨_, h⟩
  · subst e; exact ⟨p, hp, hw⟩
  · exact ⟨q, h, hwq⟩

/-- The winner `i` moves from `p` to `p'` and writes shared variables other than `done` so that `Sync` holds
    again; `doneSignal` and the receiver, once closed, stay closed. -/
theorem inv_winner_move {s s' : St} {i : Nat} {p p' : FPc} (I : Inv err tr s)
    (hp : s.fpcs[i]? = some p) (hw : p.hasWon = true) (hw' : p'.hasWon = true)
    {T D R C : Bool} {M : Option Nat} {TR : MD} {TG : List MD}
    (hs' : s' = { s with fpcs := s.fpcs.set i p', inTable := T, metaMu := M, trailers := TR, targets := TG,
                         doneSig := D, recvClosed := R, ctxDone := C })
    (hsync : Sync err tr s' i p')
    (hsig : p.pastSignal = true → p'.pastSignal = true)
    (hcl : p.pastRClose = true → p'.pastRClose = true) : Inv err tr s' := by
  obtain ⟨hf, hd, hrpc, hrt, hrg, hpk⟩ : s'.fpcs = s.fpcs.set i p' ∧ s'.done = s.done ∧ s'.rpc = s.rpc ∧
      s'.rTrailer = s.rTrailer ∧ s'.rTarget = s.rTarget ∧ s'.peeks = s.peeks := by
    subst hs'; exact ⟨rfl, rfl, rfl, rfl, rfl, rfl⟩
  obtain ⟨h1, _, _, h4, h5, _, h7, _⟩ := I.sync i p hp hw
  obtain ⟨_, _, _, h4', h5', _, h7', _⟩ := id hsync
  have hds : s.doneSig = true → s'.doneSig = true ∧ s'.trailers = s.trailers := fun hg =>
    have hps : p.pastSignal = true := h4.symm.trans hg
    ⟨h4'.trans (hsig hps), (h7' (pastStore_of_pastSignal (hsig hps))).1.trans
      (h7 (pastStore_of_pastSignal hps)).1.symm⟩
  have hrc : s.recvClosed = true → s'.recvClosed = true ∧ s'.trailers = s.trailers := fun hc =>
    have hpc : p.pastRClose = true := h5.symm.trans hc
    ⟨h5'.trans (hcl hpc), (hds (h4.trans (pastSignal_of_pastRClose hpc))).2⟩
  have hone : ∀ (j : Nat) (q : FPc), s'.fpcs[j]? = some q → q.hasWon = true → j = i := by
    intro j q hq hwq
    rw [hf] at hq
    obtain ⟨q0, hq0, hwq0⟩ := won_back hp hw hq hwq
    exact I.one_winner j i q0 p hq0 hp hwq0 hw
  have hi' : s'.fpcs[i]? = some p' := by rw [hf]; exact get_set_self hp
  refine ⟨?_, ?_, ?_, fun _ _ => ⟨i, p', hi', hw'⟩, ?_, ?_, ?_, ?_, ?_⟩
  · intro j1 j2 q1 q2 h1 h2 w1 w2
    rw [hone j1 q1 h1 w1, hone j2 q2 h2 w2]
  · intro h
    rw [hd, h1] at h; cases h
  · intro w q hq hwq
    have e := hone w q hq hwq
    rw [e, hi'] at hq; cases hq
    rw [e]; exact hsync
  · intro r h
    rw [hrpc] at h
    obtain ⟨h1, h2⟩ := I.reader_got r h
    exact ⟨(hrc h1).1, by rw [hd]; exact h2⟩
  · intro h
    rw [hrt, hrg]
    exact I.reader_pre (by rw [← hrpc]; exact h)
  · intro v h
    rw [hrt] at h
    obtain ⟨h1, h2⟩ := I.read_trailer v h
    exact ⟨(hrc h1).1, by rw [(hrc h1).2]; exact h2⟩
  · intro v h
    rw [hrg] at h
    obtain ⟨h1, h2⟩ := I.read_target v h
    refine ⟨(hrc h1).1, fun w q hq hwq => ?_⟩
    rw [hone w q hq hwq]
    exact h2 i p hp hw
  · obtain ⟨a, b, h, hb⟩ := I.peeks_shape
    cases hsig : s.doneSig with
    | false =>
      cases hb hsig
      exact ⟨a, 0, by rw [hpk, h]; rfl, fun _ => rfl⟩
    | true =>
      obtain ⟨h1, h2⟩ := hds hsig
      exact ⟨a, b, by rw [hpk, h, h2], fun h' => by rw [h1] at h'; cases h'⟩

theorem inv_casWin {s : St} {i : Nat} (I : Inv err tr s) (hp : s.fpcs[i]? = some .start) (hd : s.done = none) :
    Inv err tr { s with done := some (err i), fpcs := s.fpcs.set i .won } := by
  obtain ⟨hall, hT, hM, hS, hR, hC⟩ := I.idle hd
  have hone : ∀ (j : Nat) (q : FPc), (s.fpcs.set i .won)[j]? = some q → q.hasWon = true → j = i ∧ q = .won := by
    intro j q hq hwq
    rcases get_set hq with ⟨e, e'⟩ | ⟨_, h⟩
    · exact ⟨e, e'⟩
    · rw [hall j q h] at hwq; cases hwq
  have hopen : ∀ {P : Prop}, s.recvClosed = true → P := fun h => by rw [hR] at h; cases h
  refine ⟨?_, nofun, ?_, fun _ _ => ⟨i, .won, get_set_self hp, rfl⟩, fun r h => hopen (I.reader_got r h).1,
    I.reader_pre, fun v h => hopen (I.read_trailer v h).1, fun v h => hopen (I.read_target v h).1,
    I.peeks_shape⟩
  · intro j1 j2 q1 q2 h1 h2 w1 w2
    rw [(hone j1 q1 h1 w1).1, (hone j2 q2 h2 w2).1]
  · intro w q hq hwq
    obtain ⟨e, e'⟩ := hone w q hq hwq
    subst e; subst e'
    exact ⟨rfl, hT, hM, hS, hR, hC, nofun, nofun⟩

theorem inv_casLose {s : St} {i : Nat} {e : Err} (I : Inv err tr s) (hp : s.fpcs[i]? = some .start)
    (hd : s.done = some e) : Inv err tr { s with fpcs := s.fpcs.set i .retFalse } := by
  have hback : ∀ (j : Nat) (q : FPc), (s.fpcs.set i .retFalse)[j]? = some q → q.hasWon = true →
      s.fpcs[j]? = some q := by
    intro j q hq hwq
    rcases get_set hq with ⟨_, e'⟩ | ⟨_, h⟩
    · subst e'; cases hwq
    · exact h
  refine ⟨?_, ?_, ?_, ?_, I.reader_got, I.reader_pre, I.read_trailer, ?_, I.peeks_shape⟩
  · intro j1 j2 q1 q2 h1 h2 w1 w2
    exact I.one_winner j1 j2 q1 q2 (hback j1 q1 h1 w1) (hback j2 q2 h2 w2) w1 w2
  · intro h
    rw [hd] at h; cases h
  · intro w q hq hwq
    exact I.sync w q (hback w q hq hwq) hwq
  · intro e' h'
    obtain ⟨w, q, hq, hwq⟩ := I.has_winner e' h'
    have hne : w ≠ i := by
      intro e0; subst e0
      rw [hp] at hq; cases hq; cases hwq
    exact ⟨w, q, (get_set_ne hne).trans hq, hwq⟩
  · intro v h
    obtain ⟨h1, h2⟩ := I.read_target v h
    exact ⟨h1, fun w q hq hwq => h2 w q (hback w q hq hwq) hwq⟩

theorem inv_step {s s' : St} {a : Act} (I : Inv err tr s) (hs : step true err tr s a = some s') :
    Inv err tr s' := by
  cases step_spec hs with
  | casWin i h hd => exact inv_casWin I h hd
  | casLose i e h hd => exact inv_casLose I h hd
  | lockOld i h ho | rcloseOld i h ho | cancelOld i h ho => cases ho
  | remove i h =>
    obtain ⟨h1, _, h3, h4, h5, h6, _, _⟩ := I.sync i _ h rfl
    exact inv_winner_move I h rfl rfl rfl ⟨h1, rfl, h3, h4, h5, h6, nofun, nofun⟩ (by decide) (by decide)
  | lockNew i h _ hm =>
    obtain ⟨h1, h2, _, h4, h5, h6, _, _⟩ := I.sync i _ h rfl
    exact inv_winner_move I h rfl rfl rfl ⟨h1, h2, rfl, h4, h5, h6, nofun, nofun⟩ (by decide) (by decide)
  | store i h =>
    obtain ⟨h1, h2, h3, h4, h5, h6, _, _⟩ := I.sync i _ h rfl
    exact inv_winner_move I h rfl rfl rfl
      ⟨h1, h2, h3, h4, h5, h6, fun _ => ⟨rfl, fun t v hv => eq_of_get_replicate hv⟩, nofun⟩ (by decide) (by decide)
  | closeDone i h =>
    obtain ⟨h1, h2, h3, _, h5, h6, h7, _⟩ := I.sync i _ h rfl
    exact inv_winner_move I h rfl rfl rfl
      ⟨h1, h2, h3, rfl, h5, h6, fun _ => h7 rfl, nofun⟩ (by decide) (by decide)
  | unlock i h =>
    obtain ⟨h1, h2, _, h4, h5, h6, h7, _⟩ := I.sync i _ h rfl
    exact inv_winner_move I h rfl rfl rfl
      ⟨h1, h2, rfl, h4, h5, h6, fun _ => h7 rfl, nofun⟩ (by decide) (by decide)
  | rcloseNew i h =>
    obtain ⟨h1, h2, h3, h4, _, h6, h7, _⟩ := I.sync i _ h rfl
    exact inv_winner_move I h rfl rfl rfl
      ⟨h1, h2, h3, h4, rfl, h6, fun _ => h7 rfl, nofun⟩ (by decide) (by decide)
  | cancelNew i h =>
    obtain ⟨h1, h2, h3, h4, h5, _, h7, _⟩ := I.sync i _ h rfl
    exact inv_winner_move I h rfl rfl rfl
      ⟨h1, h2, h3, h4, h5, rfl, fun _ => h7 rfl, nofun⟩ (by decide) (by decide)
  | recvStart hr =>
    have hpre := I.reader_pre (by intro r h; rw [hr] at h; cases h)
    refine ⟨I.one_winner, I.idle, I.sync, I.has_winner, ?_, fun _ => hpre, I.read_trailer, I.read_target,
      I.peeks_shape⟩
    intro r h
    cases hc : s.recvClosed with
    | false => rw [hc] at h; cases h
    | true => rw [hc] at h; cases h; exact ⟨rfl, rfl⟩
  | recvWake hr hc =>
    have hpre := I.reader_pre (by intro r h; rw [hr] at h; cases h)
    refine ⟨I.one_winner, I.idle, I.sync, I.has_winner, ?_, fun _ => hpre, I.read_trailer, I.read_target,
      I.peeks_shape⟩
    intro r h
    cases h
    exact ⟨hc, rfl⟩
  | readTrailer r hr ht =>
    obtain ⟨hc, _⟩ := I.reader_got r hr
    obtain ⟨_, _, _, hsig, _⟩ := I.closed_published hc
    refine ⟨I.one_winner, I.idle, I.sync, I.has_winner, I.reader_got, fun h => absurd hr (h r), ?_,
      I.read_target, I.peeks_shape⟩
    intro v h
    cases h
    exact ⟨hc, trailerCall_closed hsig⟩
  | readTarget t r v hr ht hv =>
    obtain ⟨hc, _⟩ := I.reader_got r hr
    obtain ⟨w, hw, _, _, _, htg⟩ := I.closed_published hc
    refine ⟨I.one_winner, I.idle, I.sync, I.has_winner, I.reader_got, fun h => absurd hr (h r),
      I.read_trailer, ?_, I.peeks_shape⟩
    intro v' h
    cases h
    refine ⟨hc, fun w' p' hp' hw' => ?_⟩
    rw [I.winner_unique hw ⟨p', hp', hw'⟩]
    exact htg t v hv
  | peek b hb =>
    refine ⟨I.one_winner, I.idle, I.sync, I.has_winner, I.reader_got, I.reader_pre, I.read_trailer,
      I.read_target, ?_⟩
    obtain ⟨a, b, h, hb⟩ := I.peeks_shape
    show ∃ a b, s.peeks ++ [s.trailerCall] = _ ∧ _
    cases hsig : s.doneSig with
    | false =>
      cases hb hsig
      refine ⟨a + 1, 0, ?_, fun _ => rfl⟩
      rw [trailerCall_open hsig, h, List.replicate_succ']
      simp only [List.replicate_zero, List.append_nil]
    | true =>
      refine ⟨a, b + 1, ?_, nofun⟩
      rw [trailerCall_closed hsig, h, List.replicate_succ', List.append_assoc]

theorem inv_run {as : List Act} {s s' : St} (I : Inv err tr s) (hr : run true err tr s as = some s') :
    Inv err tr s' :=
  isRun.preserves inv_step I hr

theorem inv_reachable (n k p : Nat) (as : List Act) {s : St}
    (hr : run true err tr (init n k p) as = some s) : Inv err tr s :=
  inv_run (inv_init n k p) hr

/-- What an action does to the program counters.  The reader and the observer leave them alone.  An action
    of finisher `i` is the next action of `i` at its program counter `p` (`nextAct`); it moves `i`, and
    nobody else, to a `p'` of smaller rank, a winner stays a winner, and the reader is not touched. -/
theorem step_fpcs {o : Bool} {s s' : St} {a : Act} (hs : step o err tr s a = some s') :
    (a.fin = none ∧ s'.fpcs = s.fpcs) ∨
    ∃ i p p', a.fin = some i ∧ s.fpcs[i]? = some p ∧ nextAct o i p = some a ∧ s'.fpcs = s.fpcs.set i p' ∧
      p'.rank < p.rank ∧ p' ≠ .start ∧ (p.hasWon = true → p'.hasWon = true) ∧ s'.rpc = s.rpc := by
  cases step_spec hs with
  | recvStart | recvWake | readTrailer | readTarget | peek => exact .inl ⟨rfl, rfl⟩
  | casWin i h => exact .inr ⟨i, _, .won, rfl, h, rfl, rfl, by decide, nofun, nofun, rfl⟩
  | casLose i _ h => exact .inr ⟨i, _, .retFalse, rfl, h, rfl, rfl, by decide, nofun, nofun, rfl⟩
  | remove i h => exact .inr ⟨i, _, .removed, rfl, h, rfl, rfl, by decide, nofun, fun _ => rfl, rfl⟩
  | lockNew i h ho =>
    cases ho; exact .inr ⟨i, _, .locked, rfl, h, rfl, rfl, by decide, nofun, fun _ => rfl, rfl⟩
  | lockOld i h => exact .inr ⟨i, _, .locked, rfl, h, rfl, rfl, by decide, nofun, fun _ => rfl, rfl⟩
  | store i h => exact .inr ⟨i, _, .stored, rfl, h, rfl, rfl, by decide, nofun, fun _ => rfl, rfl⟩
  | closeDone i h => exact .inr ⟨i, _, .signalled, rfl, h, rfl, rfl, by decide, nofun, fun _ => rfl, rfl⟩
  | unlock i h => exact .inr ⟨i, _, .unlocked, rfl, h, rfl, rfl, by decide, nofun, fun _ => rfl, rfl⟩
  | rcloseOld i h ho =>
    cases ho; exact .inr ⟨i, _, .released, rfl, h, rfl, rfl, by decide, nofun, fun _ => rfl, rfl⟩
  | rcloseNew i h ho =>
    cases ho; exact .inr ⟨i, _, .rclosed, rfl, h, rfl, rfl, by decide, nofun, fun _ => rfl, rfl⟩
  | cancelNew i h => exact .inr ⟨i, _, .retTrue, rfl, h, rfl, rfl, by decide, nofun, fun _ => rfl, rfl⟩
  | cancelOld i h ho =>
    cases ho; exact .inr ⟨i, _, .retTrue, rfl, h, rfl, rfl, by decide, nofun, fun _ => rfl, rfl⟩

theorem set_keeps {l : List FPc} {P : FPc → Prop} {w i : Nat} {p q q' : FPc} (hp : l[w]? = some p) (hP : P p)
    (hq : l[i]? = some q) (hqq : P q → P q') : ∃ p', (l.set i q')[w]? = some p' ∧ P p' := by
  by_cases e : w = i
  · subst e
    rw [hp] at hq; cases hq
    exact ⟨q', get_set_self hp, hqq hP⟩
  · exact ⟨p, (get_set_ne e).trans hp, hP⟩

theorem winner_step {o : Bool} {s s' : St} {a : Act} {w : Nat} (hw : Winner s w)
    (hs : step o err tr s a = some s') : Winner s' w := by
  obtain ⟨p, hp, hwp⟩ := hw
  unfold Winner
  rcases step_fpcs hs with ⟨_, e⟩ | ⟨i, q, q', _, hq, _, e, _, _, hwon, _⟩
  · rw [e]; exact ⟨p, hp, hwp⟩
  · rw [e]; exact set_keeps (P := fun p => p.hasWon = true) hp hwp hq hwon

theorem winner_run {o : Bool} {as : List Act} {s s' : St} (hr : run o err tr s as = some s') {w : Nat}
    (hw : Winner s w) : Winner s' w :=
  isRun.preserves winner_step hw hr

theorem started_step {o : Bool} {s s' : St} {a : Act} {i : Nat}
    (hi : ∃ q, s.fpcs[i]? = some q ∧ q ≠ .start) (hs : step o err tr s a = some s') :
    ∃ q, s'.fpcs[i]? = some q ∧ q ≠ .start := by
  obtain ⟨p, hp, hne⟩ := hi
  rcases step_fpcs hs with ⟨_, e⟩ | ⟨j, q, q', _, hq, _, e, _, hq', _⟩
  · rw [e]; exact ⟨p, hp, hne⟩
  · rw [e]; exact set_keeps (P := fun p => p ≠ .start) hp hne hq (fun _ => hq')

theorem got_step {o : Bool} {s s' : St} {a : Act} {r : Option Err} (hg : s.rpc = .got r)
    (hs : step o err tr s a = some s') : s'.rpc = .got r := by
  cases step_spec hs with
  | recvStart h => rw [hg] at h; cases h
  | recvWake h => rw [hg] at h; cases h
  | _ => exact hg

theorem targets_length_step {o : Bool} {s s' : St} {a : Act} (hs : step o err tr s a = some s') :
    s'.targets.length = s.targets.length := by
  cases step_spec hs with
  | store i h => exact List.length_replicate
  | _ => rfl

theorem fpcs_length_step {o : Bool} {s s' : St} {a : Act} (hs : step o err tr s a = some s') :
    s'.fpcs.length = s.fpcs.length := by
  rcases step_fpcs hs with ⟨_, e⟩ | ⟨_, _, _, _, _, _, e, _⟩
  · rw [e]
  · rw [e, List.length_set]

theorem trailers_stable_step {s s' : St} {a : Act} (I : Inv err tr s)
    (hs : step true err tr s a = some s') (hsig : s.doneSig = true) :
    s'.doneSig = true ∧ s'.trailers = s.trailers ∧ s'.targets = s.targets := by
  cases step_spec hs with
  | store i h =>
    have h4 := (I.sync i _ h rfl).2.2.2.1
    rw [hsig] at h4; cases h4
  | closeDone i h => exact ⟨rfl, rfl, rfl⟩
  | _ => exact ⟨hsig, rfl, rfl⟩

theorem trailers_stable {as' : List Act} {s s' : St} (I : Inv err tr s) (hsig : s.doneSig = true)
    (hr : run true err tr s as' = some s') :
    s'.doneSig = true ∧ s'.trailers = s.trailers ∧ s'.targets = s.targets :=
  (isRun.preserves
    (P := fun s1 => Inv err tr s1 ∧ s1.doneSig = true ∧ s1.trailers = s.trailers ∧ s1.targets = s.targets)
    (fun ⟨I1, h1, h2, h3⟩ hs =>
      have ⟨k1, k2, k3⟩ := trailers_stable_step I1 hs h1
      ⟨inv_step I1 hs, k1, k2.trans h2, k3.trans h3⟩)
    ⟨I, hsig, rfl, rfl⟩ hr).2

theorem lengths_reachable {o : Bool} (n k p : Nat) {as : List Act} {s : St}
    (hr : run o err tr (init n k p) as = some s) : s.targets.length = k ∧ s.fpcs.length = n :=
  isRun.preserves (P := fun s => s.targets.length = k ∧ s.fpcs.length = n)
    (fun h hs => ⟨(targets_length_step hs).trans h.1, (fpcs_length_step hs).trans h.2⟩)
    ⟨List.length_replicate, List.length_replicate⟩ hr

/-- The terminal result the reader gets is `err w` of THE winner `w` — the finisher whose trailers
    are published: status and trailers belong to the same completion, the RPC completes exactly once.
    (`r` is the raw content of `done`: it is never the nil pointer.)  The result is final
    (`got_step`), the winner stays the winner (`winner_run`). -/
theorem Inv.terminal_result_is_the_winners {s : St} (I : Inv err tr s) {r : Option Err} (hg : s.rpc = .got r) :
    ∃ w, Winner s w ∧ (∀ w', Winner s w' → w' = w) ∧ r = some (err w) ∧ s.done = some (err w) ∧
      s.trailers = tr w ∧ s.trailerCall = some (tr w) ∧
      ∀ (t : Nat) (v : MD), s.targets[t]? = some v → v = tr w := by
  obtain ⟨hc, hrd⟩ := I.reader_got r hg
  obtain ⟨w, hw, hd, hsig, ht, htg⟩ := I.closed_published hc
  exact ⟨w, hw, fun w' h' => I.winner_unique hw h', hrd.trans hd, hd, ht, ht ▸ trailerCall_closed hsig, htg⟩

/-- the value of a read itself (the reads are enabled only after the terminal result) -/
theorem Inv.read_returns {s s' : St} (I : Inv err tr s) {w : Nat} (hw : Winner s w) :
    (step true err tr s .readTrailer = some s' → s.trailerCall = some (tr w) ∧ s'.rTrailer = some (some (tr w))) ∧
    (∀ t, step true err tr s (.readTarget t) = some s' → s.targets[t]? = some (tr w) ∧ s'.rTarget = some (tr w)) := by
  constructor
  · intro h
    cases step_spec h with
    | readTrailer r hg ht =>
      obtain ⟨w0, _, huniq, _, _, _, htc, _⟩ := I.terminal_result_is_the_winners hg
      cases huniq w hw
      exact ⟨htc, congrArg some htc⟩
  · intro t h
    cases step_spec h with
    | readTarget _ r v hg ht hv =>
      obtain ⟨w0, _, huniq, _, _, _, _, htg⟩ := I.terminal_result_is_the_winners hg
      cases huniq w hw
      cases htg t v hv
      exact ⟨hv, rfl⟩

/-- The reader has obtained the terminal result (`recvStart` / `recvWake` returned `done`); `w` is THE
    winner.  Read NOW: `readTrailer`, if not yet taken, is enabled and returns `some (tr w)`; `readTarget t`
    is enabled and returns `tr w`.  Read WHENEVER: after every continuation `as'`, `w` is still the one
    winner and whatever the reader has read by then (`rTrailer`, `rTarget`: what its actual reads returned,
    whenever they ran) is `some (tr w)` resp. `tr w`: never nil, never another finisher's trailers. -/
theorem Inv.reader_sees_trailers {s : St} (I : Inv err tr s) {r : Option Err} (hg : s.rpc = .got r) :
    ∃ w, Winner s w ∧ (∀ w', Winner s w' → w' = w) ∧
      (s.rTrailer = none →
        ∃ s', step true err tr s .readTrailer = some s' ∧ s'.rTrailer = some (some (tr w))) ∧
      (∀ t, t < s.targets.length → s.rTarget = none →
        ∃ s', step true err tr s (.readTarget t) = some s' ∧ s'.rTarget = some (tr w)) ∧
      ∀ (as' : List Act) (s' : St), run true err tr s as' = some s' →
        Winner s' w ∧ (∀ w', Winner s' w' → w' = w) ∧ s'.rpc = .got r ∧
        (∀ v, s'.rTrailer = some v → v = some (tr w)) ∧ (∀ v, s'.rTarget = some v → v = tr w) := by
  obtain ⟨w, hw, huniq, _, _, _, htc, htg⟩ := I.terminal_result_is_the_winners hg
  refine ⟨w, hw, huniq, ?_, ?_, ?_⟩
  · intro hnone
    exact ⟨_, step_of_Step (.readTrailer r hg hnone), congrArg some htc⟩
  · intro t ht hnone
    have hv : s.targets[t]? = some s.targets[t] := List.getElem?_eq_getElem ht
    exact ⟨_, step_of_Step (.readTarget t r _ hg hnone hv), congrArg some (htg t _ hv)⟩
  · intro as' s' hr'
    have I' := inv_run I hr'
    have hw' := winner_run hr' hw
    refine ⟨hw', fun w' h' => I'.winner_unique hw' h', isRun.preserves got_step hg hr', ?_, ?_⟩
    · intro v hv
      obtain ⟨hc, e⟩ := I'.read_trailer v hv
      obtain ⟨w1, hw1, _, _, ht1, _⟩ := I'.closed_published hc
      rw [e, ht1, I'.winner_unique hw' hw1]
    · intro v hv
      obtain ⟨q, hq, hwq⟩ := hw'
      exact (I'.read_target v hv).2 w q hq hwq

theorem reader_read_returns_winners_trailers (n k p : Nat) (as : List Act) {s : St}
    (hr : run true err tr (init n k p) as = some s) {r : Option Err} (hg : s.rpc = .got r)
    {w : Nat} (hw : Winner s w) (as' : List Act) {s1 s2 : St} (h1 : run true err tr s as' = some s1) :
    (step true err tr s1 .readTrailer = some s2 → s1.trailerCall = some (tr w) ∧ s2.rTrailer = some (some (tr w))) ∧
    (∀ t, step true err tr s1 (.readTarget t) = some s2 → s1.targets[t]? = some (tr w) ∧ s2.rTarget = some (tr w)) :=
  (inv_run (inv_reachable n k p as hr) h1).read_returns (winner_run h1 hw)

theorem peek_logs {o : Bool} {s s' : St} (hs : step o err tr s .peekTrailer = some s') :
    s'.peeks = s.peeks ++ [s.trailerCall] := by
  cases step_spec hs with
  | peek b hb => rfl

/-- The whole log: the observer's results, in the order it obtained them, are `a` times nil and then
    `b` times the same value; if there is such a value at all it is `some (tr w)` of THE winner `w`:
    `Trailer()` never returns anything else and never goes back to nil. -/
theorem Inv.peeks_log {s : St} (I : Inv err tr s) :
    ∃ a b, s.peeks = List.replicate a none ++ List.replicate b (some s.trailers) ∧
      (b ≠ 0 → s.doneSig = true ∧ ∃ w, Winner s w ∧ s.trailers = tr w) := by
  obtain ⟨a, b, h, hb⟩ := I.peeks_shape
  refine ⟨a, b, h, ?_⟩
  intro hne
  cases hsig : s.doneSig with
  | false => exact absurd (hb hsig) hne
  | true =>
    obtain ⟨w, hw, ht, _⟩ := I.signalled_published hsig
    exact ⟨rfl, w, hw, ht⟩

theorem peeks_log (n k p : Nat) (as : List Act) {s : St}
    (hr : run true err tr (init n k p) as = some s) :
    ∃ a b, s.peeks = List.replicate a none ++ List.replicate b (some s.trailers) ∧
      (b ≠ 0 → s.doneSig = true ∧ ∃ w, Winner s w ∧ s.trailers = tr w) :=
  (inv_reachable n k p as hr).peeks_log

/-- While `doneSignal` is not yet closed, `Trailer()` — the observer's `peekTrailer` — returns `none`
    (nil), and so did every peek so far; once it is closed, `Trailer()` returns `some (tr w)` for THE winner
    `w`, and keeps returning exactly that after every continuation of the schedule. -/
theorem Inv.trailer_nil_before_end {s : St} (I : Inv err tr s) :
    (s.doneSig = false → s.trailerCall = none ∧ ∀ v ∈ s.peeks, v = none) ∧
    (s.doneSig = true → ∃ w, Winner s w ∧ (∀ w', Winner s w' → w' = w) ∧ s.trailerCall = some (tr w) ∧
      ∀ (as' : List Act) (s' : St), run true err tr s as' = some s' →
        Winner s' w ∧ s'.trailerCall = some (tr w)) := by
  constructor
  · intro hsig
    refine ⟨trailerCall_open hsig, ?_⟩
    obtain ⟨a, b, h, hb⟩ := I.peeks_shape
    cases hb hsig
    intro v hv
    rw [h, List.replicate_zero, List.append_nil] at hv
    exact (List.mem_replicate.mp hv).2
  · intro hsig
    obtain ⟨w, hw, ht, _⟩ := I.signalled_published hsig
    refine ⟨w, hw, fun w' h' => I.winner_unique hw h', ht ▸ trailerCall_closed hsig, ?_⟩
    intro as' s' hr'
    obtain ⟨h1, h2, _⟩ := trailers_stable I hsig hr'
    exact ⟨winner_run hr' hw, by rw [trailerCall_closed h1, h2, ht]⟩

theorem nTrue_eq_sum (l : List FPc) : nTrue l = (l.map fun x => if x = .retTrue then 1 else 0).sum := by
  induction l with
  | nil => rfl
  | cons x r ih => rw [nTrue, ih, List.map_cons, List.sum_cons]

theorem nTrue_zero {l : List FPc} (h : ∀ i : Nat, l[i]? ≠ some FPc.retTrue) : nTrue l = 0 := by
  rw [nTrue_eq_sum, sum_map_eq_zero]
  intro x hx
  obtain ⟨i, hi⟩ := List.getElem?_of_mem hx
  exact if_neg fun (e : x = .retTrue) => h i (e ▸ hi)

theorem nTrue_one {l : List FPc} {w : Nat} (hw : l[w]? = some .retTrue)
    (huniq : ∀ j : Nat, l[j]? = some FPc.retTrue → j = w) : nTrue l = 1 := by
  have h0 : nTrue (l.set w .start) = 0 := nTrue_zero fun j hj => by
    rcases get_set hj with ⟨_, e⟩ | ⟨hne, hj'⟩
    · cases e
    · exact hne (huniq j hj')
  have := sum_map_set (fun x => if x = FPc.retTrue then 1 else 0) .start hw
  rw [← nTrue_eq_sum, ← nTrue_eq_sum, h0] at this
  simp only [if_true, reduceCtorEq, if_false] at this
  omega

theorem Inv.nTrue_le_one {s : St} (I : Inv err tr s) : nTrue s.fpcs ≤ 1 := by
  by_cases h : ∃ w : Nat, s.fpcs[w]? = some FPc.retTrue
  · obtain ⟨w, hw⟩ := h
    exact Nat.le_of_eq (nTrue_one hw fun j hj => I.one_winner j w _ _ hj hw rfl rfl)
  · rw [nTrue_zero fun i hi => h ⟨i, hi⟩]
    exact Nat.zero_le 1

theorem Inv.one_true {s : St} (I : Inv err tr s) {w : Nat} (hw : Winner s w)
    (hall : ∀ (j : Nat) (q : FPc), s.fpcs[j]? = some q → q.returned = true) :
    s.fpcs[w]? = some .retTrue ∧ nTrue s.fpcs = 1 := by
  obtain ⟨pw, hpw, hww⟩ := hw
  cases retTrue_of_won_returned hww (hall w pw hpw)
  exact ⟨hpw, nTrue_one hpw fun j hj => I.one_winner j w _ _ hj hpw rfl rfl⟩

theorem cas_in_schedule {o : Bool} {i : Nat} {as : List Act} {s s' : St}
    (hr : run o err tr s as = some s') (hm : Act.cas i ∈ as) : ∃ q, s'.fpcs[i]? = some q ∧ q ≠ .start := by
  obtain ⟨l1, l2, e⟩ := List.append_of_mem hm
  subst e
  obtain ⟨s1, _, h2⟩ := isRun.append_some hr
  obtain ⟨s2, hs, h3⟩ := isRun.cons_some h2
  refine isRun.preserves started_step ?_ h3
  cases step_spec hs with
  | casWin _ h => exact ⟨.won, get_set_self h, nofun⟩
  | casLose _ _ h => exact ⟨.retFalse, get_set_self h, nofun⟩

theorem returned_disabled {o : Bool} {s : St} {i : Nat} {q : FPc} (hq : s.fpcs[i]? = some q)
    (hret : q.returned = true) {a : Act} (ha : a.fin = some i) : step o err tr s a = none := by
  cases hs : step o err tr s a with
  | none => rfl
  | some s' =>
    rcases step_fpcs hs with ⟨e, _⟩ | ⟨j, p, _, e, hp, hn, _⟩
    · rw [ha] at e; cases e
    · rw [ha] at e; cases e
      rw [hq] at hp; cases hp
      cases q <;> cases hret <;> cases hn

/-- a CAS that finds `done` set changes nothing but the loser's own program counter; the loser never
    acts again (both orders) -/
theorem loser_changes_nothing {o : Bool} {s s' : St} {i : Nat} (hd : s.done ≠ none)
    (hs : step o err tr s (.cas i) = some s') :
    s' = { s with fpcs := s.fpcs.set i .retFalse } ∧ s'.fpcs[i]? = some .retFalse ∧
      ∀ a, a.fin = some i → step o err tr s' a = none := by
  cases step_spec hs with
  | casWin _ h hd' => exact absurd hd' hd
  | casLose _ e h hd' =>
    have hq : (s.fpcs.set i FPc.retFalse)[i]? = some .retFalse := get_set_self h
    exact ⟨rfl, hq, fun a ha => returned_disabled (s := { s with fpcs := s.fpcs.set i .retFalse }) hq rfl ha⟩

/-- what `exactly_one_completion` says of a schedule with a `cas`, in any state with `done` set -/
theorem Inv.one_completion {s : St} (I : Inv err tr s) (hd : s.done ≠ none) :
    ∃ w, Winner s w ∧ (∀ w', Winner s w' → w' = w) ∧
      (∀ (j : Nat) (q : FPc), s.fpcs[j]? = some q → j ≠ w → q = .start ∨ q = .retFalse) ∧
      ((∀ (j : Nat) (q : FPc), s.fpcs[j]? = some q → q.returned = true) →
        s.fpcs[w]? = some .retTrue ∧ nTrue s.fpcs = 1) := by
  obtain ⟨w, hw⟩ := I.winner_of_done hd
  refine ⟨w, hw, fun w' h' => I.winner_unique hw h', ?_, I.one_true hw⟩
  intro j q' hq' hjw
  cases hwq : q'.hasWon with
  | false => cases q' <;> cases hwq <;> first | exact .inl rfl | exact .inr rfl
  | true => exact absurd (I.winner_unique hw ⟨q', hq', hwq⟩) hjw

/-- In every schedule:
    * at most one finisher has returned `true`, at any moment;
    * if any `cas` happened, there is exactly one winner `w` (the finisher on its way to `return true`);
      every other finisher is still at `start` or has returned `false`;
    * once everybody has returned (and a `cas` happened), exactly one finisher has returned `true`. -/
theorem exactly_one_completion (n k p : Nat) (as : List Act) {s : St}
    (hr : run true err tr (init n k p) as = some s) :
    nTrue s.fpcs ≤ 1 ∧
    ((∃ i, Act.cas i ∈ as) →
      ∃ w, Winner s w ∧ (∀ w', Winner s w' → w' = w) ∧
        (∀ (j : Nat) (q : FPc), s.fpcs[j]? = some q → j ≠ w → q = .start ∨ q = .retFalse) ∧
        ((∀ (j : Nat) (q : FPc), s.fpcs[j]? = some q → q.returned = true) →
          s.fpcs[w]? = some .retTrue ∧ nTrue s.fpcs = 1)) := by
  have I := inv_reachable n k p as hr
  refine ⟨I.nTrue_le_one, ?_⟩
  intro ⟨i, hi⟩
  obtain ⟨q, hq, hne⟩ := cas_in_schedule hr hi
  exact I.one_completion fun hd => hne ((I.idle hd).1 i q hq)

/-- Nobody is ever blocked: every finisher that has not returned can take ITS next step right now
    (`lockMeta` included), and the step brings it closer to its `return`. -/
theorem finisher_next_enabled {s : St} (I : Inv err tr s) {i : Nat} {q : FPc}
    (hq : s.fpcs[i]? = some q) (hnr : q.returned = false) :
    ∃ (a : Act) (s' : St) (q' : FPc), nextAct true i q = some a ∧ a.fin = some i ∧
      step true err tr s a = some s' ∧ s'.fpcs[i]? = some q' ∧ q'.rank < q.rank := by
  cases q with
  | start =>
    cases hd : s.done with
    | none =>
      exact ⟨.cas i, _, .won, rfl, rfl, step_of_Step (.casWin i hq hd), get_set_self hq, by decide⟩
    | some e =>
      exact ⟨.cas i, _, .retFalse, rfl, rfl, step_of_Step (.casLose i e hq hd), get_set_self hq, by decide⟩
  | won => exact ⟨.remove i, _, .removed, rfl, rfl, step_of_Step (.remove i hq), get_set_self hq, by decide⟩
  | removed =>
    have hm : s.metaMu = none := (I.sync i _ hq rfl).2.2.1
    exact ⟨.lockMeta i, _, .locked, rfl, rfl, step_of_Step (.lockNew i hq rfl hm), get_set_self hq, by decide⟩
  | released => exact absurd rfl (I.sync i _ hq rfl).2.2.2.2.2.2.2
  | locked => exact ⟨.storeTrailers i, _, .stored, rfl, rfl, step_of_Step (.store i hq), get_set_self hq, by decide⟩
  | stored => exact ⟨.closeDone i, _, .signalled, rfl, rfl, step_of_Step (.closeDone i hq), get_set_self hq, by decide⟩
  | signalled => exact ⟨.unlockMeta i, _, .unlocked, rfl, rfl, step_of_Step (.unlock i hq), get_set_self hq, by decide⟩
  | unlocked =>
    exact ⟨.recvClose i, _, .rclosed, rfl, rfl, step_of_Step (.rcloseNew i hq rfl), get_set_self hq, by decide⟩
  | rclosed =>
    exact ⟨.cancelCtx i, _, .retTrue, rfl, rfl, step_of_Step (.cancelNew i hq rfl), get_set_self hq, by decide⟩
  | retTrue => cases hnr
  | retFalse => cases hnr

/-- every finisher can run to its `return` ON ITS OWN: a schedule of its own actions only, at most
    `rank` (≤ 9) of them -/
theorem finisher_completes {s : St} (I : Inv err tr s) {i : Nat} {q : FPc} (hq : s.fpcs[i]? = some q) :
    ∃ (as' : List Act) (s' : St) (q' : FPc), (∀ a ∈ as', a.fin = some i) ∧ as'.length ≤ q.rank ∧
      run true err tr s as' = some s' ∧ s'.fpcs[i]? = some q' ∧ q'.returned = true := by
  generalize hn : q.rank = n
  induction n using Nat.strongRecOn generalizing s q with
  | _ n ih =>
    cases hret : q.returned with
    | true => exact ⟨[], s, q, nofun, Nat.zero_le _, rfl, hq, hret⟩
    | false =>
      obtain ⟨a, s1, q1, _, hfin, hs, hq1, hlt⟩ := finisher_next_enabled I hq hret
      obtain ⟨as', s', q', hown, hlen, hr, hq', hret'⟩ := ih q1.rank (hn ▸ hlt) (inv_step I hs) hq1 rfl
      refine ⟨a :: as', s', q', ?_, hn ▸ Nat.le_trans (Nat.succ_le_succ hlen) hlt,
        (isRun.cons s a as').trans (by rw [hs]; exact hr), hq', hret'⟩
      intro b hb
      rcases List.mem_cons.mp hb with e | h
      · subst e; exact hfin
      · exact hown b h

theorem rpc_fin_step {o : Bool} {s s' : St} {a : Act} {i : Nat} (ha : a.fin = some i)
    (hs : step o err tr s a = some s') : s'.rpc = s.rpc := by
  rcases step_fpcs hs with ⟨e, _⟩ | ⟨_, _, _, _, _, _, _, _, _, _, e⟩
  · rw [ha] at e; cases e
  · exact e

theorem rpc_fin_run {o : Bool} {i : Nat} {as : List Act} : ∀ {s s' : St}, (∀ a ∈ as, a.fin = some i) →
    run o err tr s as = some s' → s'.rpc = s.rpc := by
  induction as with
  | nil => intro s s' _ hr; cases hr; rfl
  | cons a as ih =>
    intro s s' hown hr
    obtain ⟨s1, hs, hr'⟩ := isRun.cons_some hr
    exact (ih (fun b hb => hown b (List.mem_cons_of_mem _ hb)) hr').trans
      (rpc_fin_step (hown a List.mem_cons_self) hs)

theorem reader_woken_when_closed {s : St} (I : Inv err tr s) (hpk : s.rpc = .parked) {w : Nat} {q : FPc}
    (hq : s.fpcs[w]? = some q) (hw : q.hasWon = true) (hc : q.pastRClose = true) :
    ∃ s', step true err tr s .recvWake = some s' ∧ s'.rpc = .got (some (err w)) := by
  obtain ⟨h1, _, _, _, h5, _, _, _⟩ := I.sync w q hq hw
  exact ⟨_, step_of_Step (.recvWake hpk (h5.trans hc)), congrArg RPc.got h1⟩

/-- some finisher `w` has won, the reader is parked: `w` can run to its end on its own; it has then
    returned `true`, and `recvWake` is enabled and hands the reader `err w` -/
theorem parked_reader_woken {s : St} (I : Inv err tr s) (hpk : s.rpc = .parked) {w : Nat} (hw : Winner s w) :
    ∃ (as' : List Act) (s' s'' : St), (∀ a ∈ as', a.fin = some w) ∧ as'.length ≤ 8 ∧
      run true err tr s as' = some s' ∧ s'.fpcs[w]? = some .retTrue ∧
      step true err tr s' .recvWake = some s'' ∧ s''.rpc = .got (some (err w)) := by
  obtain ⟨q, hq, hwq⟩ := hw
  obtain ⟨as', s', q', hown, hlen, hr, hq', hret⟩ := finisher_completes I hq
  obtain ⟨q'', hq'', hw''⟩ := winner_run hr ⟨q, hq, hwq⟩
  rw [hq'] at hq''; cases hq''
  cases retTrue_of_won_returned hw'' hret
  obtain ⟨s'', h1, h2⟩ := reader_woken_when_closed (inv_run I hr) ((rpc_fin_run hown hr).trans hpk) hq' rfl rfl
  have hrank : q.rank ≤ 8 := by cases q <;> first | decide | cases hwq
  exact ⟨as', s', s'', hown, Nat.le_trans hlen hrank, hr, hq', h1, h2⟩

theorem totalF_eq_sum (l : List FPc) : totalF l = (l.map FPc.rank).sum := by
  induction l with
  | nil => rfl
  | cons x r ih => rw [totalF, ih, List.map_cons, List.sum_cons]

theorem remaining_step {o : Bool} {s s' : St} {a : Act} (hs : step o err tr s a = some s') :
    remaining s' < remaining s := by
  have F : ∀ {i : Nat} {x x' : FPc}, s.fpcs[i]? = some x → x'.rank < x.rank →
      totalF (s.fpcs.set i x') + s.rpc.rank + (if s.rTrailer.isNone then 1 else 0)
        + (if s.rTarget.isNone then 1 else 0) + s.budget < remaining s := by
    intro i x x' h hlt
    have := sum_map_set_lt FPc.rank h hlt
    rw [← totalF_eq_sum, ← totalF_eq_sum] at this
    unfold remaining
    omega
  cases step_spec hs with
  | casWin i h | casLose i _ h | remove i h | lockNew i h | lockOld i h | store i h | closeDone i h
  | unlock i h | rcloseOld i h | rcloseNew i h | cancelNew i h | cancelOld i h => exact F h (by decide)
  | recvStart h =>
    have : (if s.recvClosed then RPc.got s.done else RPc.parked).rank < s.rpc.rank := by
      rw [h]; cases s.recvClosed
      · exact Nat.lt_succ_self 1
      · exact Nat.succ_pos 1
    simp only [remaining]; omega
  | recvWake h hc => simp only [remaining, h, RPc.rank]; omega
  | readTrailer r h ht =>
    simp only [remaining, ht, Option.isNone_none, Option.isNone_some, ↓reduceIte, Bool.false_eq_true]; omega
  | readTarget t r v h ht hv =>
    simp only [remaining, ht, Option.isNone_none, Option.isNone_some, ↓reduceIte, Bool.false_eq_true]; omega
  | peek b hb => simp only [remaining, hb]; omega

theorem totalF_init (n : Nat) : totalF (List.replicate n FPc.start) = 9 * n := by
  rw [totalF_eq_sum, List.map_replicate, List.sum_replicate_nat, Nat.mul_comm]; rfl

theorem remaining_run {o : Bool} {as : List Act} {s s' : St} (hr : run o err tr s as = some s') :
    as.length + remaining s' ≤ remaining s :=
  isRun.length_le (P := fun _ => True) (fun _ _ => trivial) (fun _ hs => remaining_step hs) trivial hr

/-- Termination: `remaining` — the number of actions the finishers, the reader and the observer
    can still perform — decreases with every action (both orders): a schedule over `n` finishers with an
    observer that peeks at most `p` times has at most `9n + 4 + p` actions. -/
theorem schedule_bounded {o : Bool} (n k p : Nat) (as : List Act) {s : St}
    (hr : run o err tr (init n k p) as = some s) : as.length + remaining s ≤ 9 * n + 4 + p := by
  have := remaining_run hr
  have h : remaining (init n k p) = 9 * n + 4 + p := by
    simp only [remaining, init, totalF_init, RPc.rank, Option.isNone_none, if_true]
  omega

/-- In every reachable state:
    (a) every finisher that has started or not and has not returned can take its next step NOW —
        nobody is ever stuck, `lockMeta` included;
    (b) whoever holds `metaMu` can proceed (so a `lockMeta` that had to wait would not wait for ever);
    (c) every finisher can run to its `return` on its own, in at most 9 of its own actions;
    (d) a parked reader is woken once some finisher has won and run to its end — which it can do on
        its own —, and then gets that finisher's error;
    (e) the schedule so far and everything that can still follow are bounded by `9n + 4 + p`. -/
theorem progress (n k p : Nat) (as : List Act) {s : St}
    (hr : run true err tr (init n k p) as = some s) :
    (∀ (i : Nat) (q : FPc), s.fpcs[i]? = some q → q.returned = false →
      ∃ (a : Act) (s' : St), nextAct true i q = some a ∧ step true err tr s a = some s') ∧
    (∀ h, s.metaMu = some h → ∃ (q : FPc) (a : Act) (s' : St), s.fpcs[h]? = some q ∧ q.holds = true ∧
      nextAct true h q = some a ∧ step true err tr s a = some s') ∧
    (∀ (i : Nat) (q : FPc), s.fpcs[i]? = some q →
      ∃ (as' : List Act) (s' : St) (q' : FPc), (∀ a ∈ as', a.fin = some i) ∧ as'.length ≤ 9 ∧
        run true err tr s as' = some s' ∧ s'.fpcs[i]? = some q' ∧ q'.returned = true) ∧
    (s.rpc = .parked → ∀ w, Winner s w →
      ∃ (as' : List Act) (s' s'' : St), (∀ a ∈ as', a.fin = some w) ∧ as'.length ≤ 8 ∧
        run true err tr s as' = some s' ∧ s'.fpcs[w]? = some .retTrue ∧
        step true err tr s' .recvWake = some s'' ∧ s''.rpc = .got (some (err w))) ∧
    as.length + remaining s ≤ 9 * n + 4 + p := by
  have I := inv_reachable n k p as hr
  refine ⟨?_, ?_, ?_, fun hpk w hw => parked_reader_woken I hpk hw, schedule_bounded n k p as hr⟩
  · intro i q hq hnr
    obtain ⟨a, s', _, h1, _, h2, _⟩ := finisher_next_enabled I hq hnr
    exact ⟨a, s', h1, h2⟩
  · intro h hm
    obtain ⟨q, hq, hh⟩ := I.holder hm
    obtain ⟨a, s', _, h1, _, h2, _⟩ := finisher_next_enabled I hq (not_returned_of_holds hh)
    exact ⟨q, a, s', hq, hh, h1, h2⟩
  · intro i q hq
    obtain ⟨as', s', q', h1, h2, h3⟩ := finisher_completes I hq
    have : q.rank ≤ 9 := by cases q <;> decide
    exact ⟨as', s', q', h1, Nat.le_trans h2 this, h3⟩

/-- A state satisfying the invariant in which NO action is enabled, with at least one finisher: every
    finisher has returned, EXACTLY ONE of them `true`; and the reader is not parked — no lost wake-up: it
    either never called `RecvMsg` or holds the terminal result. -/
theorem Inv.quiescent_complete {s : St} (I : Inv err tr s) (hn : 0 < s.fpcs.length)
    (hq : ∀ a, step true err tr s a = none) :
    (∀ (i : Nat) (q : FPc), s.fpcs[i]? = some q → q.returned = true) ∧ nTrue s.fpcs = 1 ∧
    (∃ w : Nat, s.fpcs[w]? = some FPc.retTrue ∧ ∀ j : Nat, s.fpcs[j]? = some FPc.retTrue → j = w) ∧
    s.rpc ≠ .parked := by
  have hall : ∀ (i : Nat) (q : FPc), s.fpcs[i]? = some q → q.returned = true := by
    intro i q hi
    cases hret : q.returned with
    | true => rfl
    | false =>
      obtain ⟨a, s', _, _, _, h2, _⟩ := finisher_next_enabled I hi hret
      rw [hq a] at h2; cases h2
  have h0 : s.fpcs[0]? = some s.fpcs[0] := List.getElem?_eq_getElem hn
  obtain ⟨w, hw⟩ := I.winner_of_done fun hd => by
    have := hall 0 _ h0
    rw [(I.idle hd).1 0 _ h0] at this; cases this
  obtain ⟨hpw, h1⟩ := I.one_true hw hall
  refine ⟨hall, h1, ⟨w, hpw, fun j hj => I.one_winner j w _ _ hj hpw rfl rfl⟩, ?_⟩
  intro hpk
  obtain ⟨s', h1, _⟩ := reader_woken_when_closed I hpk hpw rfl rfl
  rw [hq .recvWake] at h1; cases h1

/-- the end of a maximal schedule, with at least one finisher -/
theorem quiescent_complete (n k p : Nat) (as : List Act) {s : St}
    (hr : run true err tr (init n k p) as = some s) (hn : 0 < n)
    (hq : ∀ a, step true err tr s a = none) :
    (∀ (i : Nat) (q : FPc), s.fpcs[i]? = some q → q.returned = true) ∧ nTrue s.fpcs = 1 ∧
    (∃ w : Nat, s.fpcs[w]? = some FPc.retTrue ∧ ∀ j : Nat, s.fpcs[j]? = some FPc.retTrue → j = w) ∧
    s.rpc ≠ .parked :=
  (inv_reachable n k p as hr).quiescent_complete ((lengths_reachable n k p hr).2 ▸ hn) hq

/-- finisher 0: the receive loop with the server's close frame — error nil (tag 0: the reader gets
    `io.EOF`) and trailers `[("k","v")]`; every other finisher: a local cancel — error tag 1, trailers nil -/
def exErr : Nat → Err := fun i => if i = 0 then 0 else 1
def exTr : Nat → MD := fun i => if i = 0 then some [("k", "v")] else none

/-- what the application sees: the terminal result, `Trailer()`, the call-option target -/
structure AppView where
  result : RPc
  trailer : Option (Option MD)
  target : Option MD
  deriving DecidableEq, Repr

def appView (s : St) : AppView := ⟨s.rpc, s.rTrailer, s.rTarget⟩

/-- … together with the finishers, the observer's log and `done` -/
structure View where
  app : AppView
  fpcs : List FPc
  peeks : List (Option MD)
  done : Option Err
  deriving DecidableEq, Repr

def view (s : St) : View := ⟨appView s, s.fpcs, s.peeks, s.done⟩

/-- the reader parks; the finisher wins, removes the stream, CLOSES THE RECEIVER; the reader wakes up
    with the terminal result and reads the trailers -/
def d4 : List Act := [.recvStart, .cas 0, .remove 0, .recvClose 0, .recvWake, .readTrailer, .readTarget 0]

/-- OLD order: the reader gets the terminal result `io.EOF` (error tag 0 of finisher 0), and then
    `Trailer()` returns nil (`some none`: `doneSignal` not closed) and the call-option target is still nil —
    although the RPC ended with trailers `[("k","v")]`.  Defect D4. -/
theorem faulty_old_order_reader_misses_trailers :
    (run false exErr exTr (init 1 1 0) d4).map appView
      = some ⟨.got (some 0), some none, some none⟩ := by decide +kernel

/-- … the finisher stores them afterwards — too late for the reader -/
theorem faulty_old_order_stores_too_late :
    (run false exErr exTr (init 1 1 1)
        (d4 ++ [.lockMeta 0, .storeTrailers 0, .closeDone 0, .unlockMeta 0, .cancelCtx 0, .peekTrailer])).map
      view
      = some ⟨⟨.got (some 0), some none, some none⟩, [.retTrue], [some (some [("k", "v")])], some 0⟩ := by decide +kernel

/-- CURRENT order, same schedule: refused — at `recvClose 0`, the receiver cannot be closed there … -/
theorem current_order_refuses_d4 :
    run true exErr exTr (init 1 1 0) d4 = none ∧
    (run true exErr exTr (init 1 1 0) [.recvStart, .cas 0, .remove 0]).isSome = true ∧
    run true exErr exTr (init 1 1 0) [.recvStart, .cas 0, .remove 0, .recvClose 0] = none := by decide +kernel

/-- … and the reader cannot be woken at that point either -/
theorem current_order_reader_stays_parked :
    run true exErr exTr (init 1 1 0) [.recvStart, .cas 0, .remove 0, .recvWake] = none ∧
    run true exErr exTr (init 1 1 0)
      [.recvStart, .cas 0, .remove 0, .lockMeta 0, .storeTrailers 0, .closeDone 0, .unlockMeta 0, .recvWake]
      = none := by decide +kernel

/-- CURRENT order, same shape (finisher up to its `recvClose`, then the reader): `some` trailers -/
theorem current_order_same_shape_sees_trailers :
    (run true exErr exTr (init 1 1 0)
        [.recvStart, .cas 0, .remove 0, .lockMeta 0, .storeTrailers 0, .closeDone 0, .unlockMeta 0,
         .recvClose 0, .recvWake, .readTrailer, .readTarget 0]).map appView
      = some ⟨.got (some 0), some (some (some [("k", "v")])), some (some [("k", "v")])⟩ := by decide +kernel

/-- right after the CAS nobody has returned `true` yet: the winner is still on its way, the loser
    has returned `false` -/
theorem literal_exactly_one_true_fails_midway :
    (run true exErr exTr (init 2 1 0) [.cas 0, .cas 1]).map (fun s => nTrue s.fpcs) = some 0 := by decide +kernel

/-! ### Non-vacuity -/

/-- the reader parks first; the server's close (finisher 0) wins the CAS, the local cancel (finisher 1)
    loses in the middle of the winner's critical section; the observer peeks before and after -/
def serverWins : List Act :=
  [.recvStart, .peekTrailer, .cas 0, .remove 0, .lockMeta 0, .cas 1, .storeTrailers 0, .peekTrailer,
   .closeDone 0, .peekTrailer, .unlockMeta 0, .recvClose 0, .recvWake, .readTrailer, .cancelCtx 0,
   .readTarget 0]

example :
    (run true exErr exTr (init 2 1 3) serverWins).map view
      = some ⟨⟨.got (some 0), some (some (some [("k", "v")])), some (some [("k", "v")])⟩,
              [.retTrue, .retFalse], [none, none, some (some [("k", "v")])], some 0⟩ := by decide +kernel

/-- the other order of the CAS: the local cancel wins, the server's close loses — the reader gets the
    cancel's error AND the cancel's (nil) trailers, stored (`some (some none)`), not the server's -/
def cancelWins : List Act :=
  [.recvStart, .cas 1, .cas 0, .remove 1, .lockMeta 1, .storeTrailers 1, .closeDone 1, .unlockMeta 1,
   .recvClose 1, .cancelCtx 1, .recvWake, .readTarget 0, .readTrailer, .peekTrailer]

example :
    (run true exErr exTr (init 2 1 3) cancelWins).map view
      = some ⟨⟨.got (some 1), some (some none), some none⟩,
              [.retFalse, .retTrue], [some none], some 1⟩ := by decide +kernel

/-- both races run to the end: every finisher has returned, exactly one `true` -/
example : (run true exErr exTr (init 2 1 3) serverWins).map (fun s => (nTrue s.fpcs, s.inTable, s.ctxDone, s.metaMu))
    = some (1, false, true, none) := by decide +kernel
example : (run true exErr exTr (init 2 1 3) cancelWins).map (fun s => (nTrue s.fpcs, s.inTable, s.ctxDone, s.metaMu))
    = some (1, false, true, none) := by decide +kernel

/-- a reader that arrives after the end does not park: `recvStart` returns the terminal result at once -/
example :
    (run true exErr exTr (init 2 1 0)
        [.cas 0, .remove 0, .lockMeta 0, .storeTrailers 0, .closeDone 0, .unlockMeta 0, .recvClose 0,
         .recvStart, .readTrailer]).map appView
      = some ⟨.got (some 0), some (some (some [("k", "v")])), none⟩ := by decide +kernel

/-- the guards bite: the loser does nothing more; nobody locks twice; no wake-up before the receiver is
    closed; no read before the terminal result; each read once; the observer's budget -/
example : run true exErr exTr (init 2 1 0) [.cas 0, .cas 1, .remove 1] = none := by decide +kernel
example : run true exErr exTr (init 2 1 0) [.cas 0, .cas 0] = none := by decide +kernel
example : run true exErr exTr (init 2 1 0) [.cas 0, .remove 0, .lockMeta 0, .lockMeta 0] = none := by decide +kernel
example : run true exErr exTr (init 2 1 0) [.cas 0, .lockMeta 0] = none := by decide +kernel
example : run true exErr exTr (init 2 1 0) [.recvStart, .recvWake] = none := by decide +kernel
example : run true exErr exTr (init 2 1 0) [.recvStart, .readTrailer] = none := by decide +kernel
example : run true exErr exTr (init 2 1 0) [.readTrailer] = none := by decide +kernel
example : run true exErr exTr (init 2 1 1) [.peekTrailer, .peekTrailer] = none := by decide +kernel
example :
    run true exErr exTr (init 1 1 0)
      [.cas 0, .remove 0, .lockMeta 0, .storeTrailers 0, .closeDone 0, .unlockMeta 0, .recvClose 0,
       .recvStart, .readTrailer, .readTrailer] = none := by decide +kernel
example :
    run true exErr exTr (init 1 1 0)
      [.cas 0, .remove 0, .lockMeta 0, .storeTrailers 0, .closeDone 0, .unlockMeta 0, .recvClose 0,
       .recvStart, .readTarget 1] = none := by decide +kernel

end Proofs.Publish
