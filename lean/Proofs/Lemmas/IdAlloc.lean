import TunnelModel.IdAlloc
import Proofs.Lemmas.Run
/-!
  Stream ids reach the wire in strictly increasing order, whatever the number
  of goroutines starting RPCs and whatever the interleaving of their steps —
  provided `streamCreation` is held from before the allocation until after the
  `new_stream` frame has been sent (`step true` / `run true`: the code as it
  is).  Without that (`run false`, the seeded FAULTY variant) two goroutines can
  put their frames on the wire in the wrong order: `faulty_not_increasing`.
-/
namespace Proofs.IdAlloc
open TunnelModel.IdAlloc Proofs.Run

def inCS : Pc → Bool
  | .locked | .allocated _ | .sent _ => true
  | _ => false

structure Inv (s : St) : Prop where
  le_last : ∀ x ∈ s.wire, x ≤ s.last
  incr : s.wire.Pairwise (· < ·)
  cs : ∀ (g : Nat) (pc : Pc), s.pcs[g]? = some pc → inCS pc = true → s.holder = some g
  alloc : ∀ (g id : Nat), s.pcs[g]? = some (Pc.allocated id) → id = s.last ∧ ∀ x ∈ s.wire, x < id

theorem inv_init (n : Nat) : Inv (init n) := by
  refine ⟨fun _ h => (by cases h), .nil, fun g pc h hc => ?_, fun g id h => ?_⟩
  · cases eq_of_get_replicate h
    cases hc
  · cases eq_of_get_replicate h

theorem Inv.holder_unique {s : St} (h : Inv s) {g g' : Nat} {pc : Pc} (hh : s.holder = some g)
    (hg' : s.pcs[g']? = some pc) (hc : inCS pc = true) : g' = g := by
  have := h.cs g' pc hg' hc
  rw [hh] at this
  exact (Option.some.inj this).symm

theorem inv_step {s s' : St} {a : Act} (h : Inv s) (hs : step true s a = some s') : Inv s' := by
  cases a with
  | lock g =>
    dsimp only [step] at hs
    split at hs
    next hpc =>
      split at hs
      · cases hs
      next hh =>
        cases hs
        have hn : s.holder = none := by
          cases hx : s.holder with
          | none => rfl
          | some _ => rw [hx] at hh; exact absurd rfl hh
        refine ⟨h.le_last, h.incr, fun g' pc hg hc => ?_, fun g' id hg => ?_⟩
        · rcases get_set hg with ⟨rfl, _⟩ | ⟨_, hg'⟩
          · rfl
          · have := h.cs g' pc hg' hc
            rw [hn] at this; cases this
        · rcases get_set hg with ⟨_, e⟩ | ⟨_, hg'⟩
          · cases e
          · exact h.alloc g' id hg'
    · cases hs
  | alloc g ok =>
    dsimp only [step] at hs
    split at hs
    next hpc =>
      cases hs
      have hh : s.holder = some g := h.cs g .locked hpc rfl
      refine ⟨fun x hx => Nat.le_succ_of_le (h.le_last x hx), h.incr, fun g' pc hg hc => ?_,
        fun g' id hg => ?_⟩
      · rcases get_set hg with ⟨rfl, _⟩ | ⟨_, hg'⟩
        · exact hh
        · exact h.cs g' pc hg' hc
      · rcases get_set hg with ⟨_, e⟩ | ⟨ne, hg'⟩
        · cases ok with
          | true => cases e; exact ⟨rfl, fun x hx => Nat.lt_succ_of_le (h.le_last x hx)⟩
          | false => cases e
        · exact absurd (h.holder_unique hh hg' rfl) ne
    · cases hs
  | send g =>
    dsimp only [step] at hs
    split at hs
    next id hpc =>
      cases hs
      obtain ⟨hid, hlt⟩ := h.alloc g id hpc
      have hh : s.holder = some g := h.cs g _ hpc rfl
      refine ⟨fun x hx => ?_, ?_, fun g' pc hg hc => ?_, fun g' id' hg => ?_⟩
      · rcases List.mem_append.mp hx with hx | hx
        · exact h.le_last x hx
        · cases List.mem_singleton.mp hx; exact Nat.le_of_eq hid
      · refine List.pairwise_append.mpr ⟨h.incr, List.pairwise_singleton _ _, fun a ha b hb => ?_⟩
        cases List.mem_singleton.mp hb
        exact hlt a ha
      · rcases get_set hg with ⟨rfl, _⟩ | ⟨_, hg'⟩
        · exact hh
        · exact h.cs g' pc hg' hc
      · rcases get_set hg with ⟨_, e⟩ | ⟨ne, hg'⟩
        · cases e
        · exact absurd (h.holder_unique hh hg' rfl) ne
    · cases hs
  | unlock g =>
    dsimp only [step] at hs
    split at hs
    next id hpc =>
      cases hs
      have hh : s.holder = some g := h.cs g _ hpc rfl
      refine ⟨h.le_last, h.incr, fun g' pc hg hc => ?_, fun g' id' hg => ?_⟩
      · rcases get_set hg with ⟨_, rfl⟩ | ⟨ne, hg'⟩
        · cases hc
        · exact absurd (h.holder_unique hh hg' hc) ne
      · rcases get_set hg with ⟨_, e⟩ | ⟨_, hg'⟩
        · cases e
        · exact h.alloc g' id' hg'
    · cases hs

theorem isRun (gd : Bool) : IsRun (step gd) (run gd) :=
  ⟨fun _ => rfl, fun s a as => by
    show (match step gd s a with | some s' => _ | none => _) = _
    cases step gd s a <;> rfl⟩

theorem inv_reachable (n : Nat) (as : List Act) {s : St} (hr : run true (init n) as = some s) : Inv s :=
  (isRun true).preserves inv_step (inv_init n) hr

theorem Inv.mutual_exclusion {s : St} (h : Inv s) {g g' : Nat} {p p' : Pc} (hg : s.pcs[g]? = some p)
    (hg' : s.pcs[g']? = some p') (hc : inCS p = true) (hc' : inCS p' = true) : g = g' :=
  Option.some.inj ((h.cs g p hg hc).symm.trans (h.cs g' p' hg' hc'))

theorem mutual_exclusion (n : Nat) (as : List Act) {s : St} (hr : run true (init n) as = some s)
    {g g' : Nat} {p p' : Pc} (hg : s.pcs[g]? = some p) (hg' : s.pcs[g']? = some p')
    (hc : inCS p = true) (hc' : inCS p' = true) : g = g' :=
  (inv_reachable n as hr).mutual_exclusion hg hg' hc hc'

/-- **The lock is needed.** If `streamCreation` does not span allocation and
    send, two goroutines can emit their `new_stream` frames out of order. -/
theorem faulty_not_increasing :
    (run false (init 2) [.lock 0, .alloc 0 true, .lock 1, .alloc 1 true, .send 1, .send 0]).map (·.wire) = some [2, 1] := by
  decide +kernel

-- non-vacuity: a guarded schedule with a failed start in between
example :
    (run true (init 3) [.lock 1, .alloc 1 true, .send 1, .unlock 1, .lock 0, .alloc 0 false, .unlock 0,
                        .lock 2, .alloc 2 true, .send 2, .unlock 2]).map (·.wire) = some [1, 3] := by
  decide +kernel

-- the guarded model refuses the faulty schedule
example : run true (init 2) [.lock 0, .alloc 0 true, .lock 1] = none := by decide +kernel

end Proofs.IdAlloc
