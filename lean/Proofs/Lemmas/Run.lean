/-!
  Every L-atomic model has a partial step function and a `run` that folds it over a
  schedule and fails at the first action that is not enabled.  What follows from that
  shape alone is proved once, for any `run` satisfying the two defining equations
  (`IsRun`); a model instantiates it by `⟨fun _ => rfl, fun _ _ _ => by cases … <;> rfl⟩`.
  Also the `List.set` / `List.replicate` facts shared by the models that keep a list of
  per-goroutine program counters.
-/
namespace Proofs.Run

variable {σ α : Type}

structure IsRun (step : σ → α → Option σ) (run : σ → List α → Option σ) : Prop where
  nil : ∀ s, run s [] = some s
  cons : ∀ s a as, run s (a :: as) = (step s a).bind (fun s' => run s' as)

namespace IsRun
variable {step : σ → α → Option σ} {run : σ → List α → Option σ} (R : IsRun step run)
include R

theorem cons_some {s s' : σ} {a : α} {as : List α} (h : run s (a :: as) = some s') :
    ∃ s1, step s a = some s1 ∧ run s1 as = some s' := by
  rw [R.cons] at h
  cases hs : step s a with
  | none => rw [hs] at h; cases h
  | some s1 => rw [hs] at h; exact ⟨s1, rfl, h⟩

theorem append (as bs : List α) : ∀ s, run s (as ++ bs) = (run s as).bind (fun s' => run s' bs) := by
  induction as with
  | nil => intro s; rw [List.nil_append, R.nil]; rfl
  | cons a as ih =>
    intro s
    rw [List.cons_append, R.cons, R.cons]
    cases step s a with
    | none => rfl
    | some s1 => exact ih s1

theorem append_some {as bs : List α} {s s' : σ} (h : run s (as ++ bs) = some s') :
    ∃ s1, run s as = some s1 ∧ run s1 bs = some s' := by
  rw [R.append] at h
  cases hs : run s as with
  | none => rw [hs] at h; cases h
  | some s1 => rw [hs] at h; exact ⟨s1, rfl, h⟩

theorem snoc {as : List α} {a : α} {s s1 s' : σ} (h : run s as = some s1) (hs : step s1 a = some s') :
    run s (as ++ [a]) = some s' := by
  rw [R.append, h]; show run s1 [a] = _; rw [R.cons, hs]; exact R.nil s'

/-- Invariants (`Rel s s' := P s → P s'`) and monotone quantities are instances. -/
theorem rel {Rel : σ → σ → Prop} (refl : ∀ s, Rel s s) (trans : ∀ {a b c}, Rel a b → Rel b c → Rel a c)
    (hstep : ∀ {s s' a}, step s a = some s' → Rel s s') :
    ∀ {as : List α} {s s' : σ}, run s as = some s' → Rel s s' := by
  intro as
  induction as with
  | nil => intro s s' h; rw [R.nil] at h; cases h; exact refl s
  | cons a as ih =>
    intro s s' h
    obtain ⟨s1, h1, h2⟩ := R.cons_some h
    exact trans (hstep h1) (ih h2)

theorem preserves_of_forall {P : σ → Prop} {A : α → Prop}
    (hstep : ∀ {s s' a}, A a → P s → step s a = some s' → P s') :
    ∀ {as : List α} {s s' : σ}, (∀ a ∈ as, A a) → P s → run s as = some s' → P s' := by
  intro as
  induction as with
  | nil => intro s s' _ hp h; rw [R.nil] at h; cases h; exact hp
  | cons a as ih =>
    intro s s' hA hp h
    obtain ⟨s1, h1, h2⟩ := R.cons_some h
    exact ih (fun b hb => hA b (List.mem_cons_of_mem _ hb)) (hstep (hA a List.mem_cons_self) hp h1) h2

theorem preserves {P : σ → Prop} (hstep : ∀ {s s' a}, P s → step s a = some s' → P s')
    {as : List α} {s s' : σ} : P s → run s as = some s' → P s' :=
  R.preserves_of_forall (A := fun _ => True) (fun _ => hstep) (fun _ _ => trivial)

theorem length_le {P : σ → Prop} {m : σ → Nat} (hinv : ∀ {s s' a}, P s → step s a = some s' → P s')
    (hdec : ∀ {s s' a}, P s → step s a = some s' → m s' < m s) :
    ∀ {as : List α} {s s' : σ}, P s → run s as = some s' → as.length + m s' ≤ m s := by
  intro as
  induction as with
  | nil => intro s s' _ h; rw [R.nil] at h; cases h; simp
  | cons a as ih =>
    intro s s' hp h
    obtain ⟨s1, h1, h2⟩ := R.cons_some h
    have := ih (hinv hp h1) h2
    have := hdec hp h1
    simp only [List.length_cons]; omega

theorem filter_length_le {m : σ → Nat} (p : α → Bool)
    (hdec : ∀ {s s' a}, step s a = some s' → p a = true → m s' < m s)
    (hle : ∀ {s s' a}, step s a = some s' → m s' ≤ m s) :
    ∀ {as : List α} {s s' : σ}, run s as = some s' → (as.filter p).length + m s' ≤ m s := by
  intro as
  induction as with
  | nil => intro s s' h; rw [R.nil] at h; cases h; exact Nat.le_of_eq (Nat.zero_add _)
  | cons a as ih =>
    intro s s' h
    obtain ⟨s1, h1, h2⟩ := R.cons_some h
    rw [List.filter_cons]
    split
    next hp =>
      rw [List.length_cons, Nat.add_right_comm]
      exact Nat.lt_of_le_of_lt (ih h2) (hdec h1 hp)
    next => exact Nat.le_trans (ih h2) (hle h1)

end IsRun

theorem eq_of_get_replicate {n i : Nat} {a x : α} (h : (List.replicate n a)[i]? = some x) : x = a :=
  List.eq_of_mem_replicate (List.mem_of_getElem? h)

theorem get_set {l : List α} {t t' : Nat} {x y : α} (h : (l.set t x)[t']? = some y) :
    (t' = t ∧ y = x) ∨ (t' ≠ t ∧ l[t']? = some y) := by
  rw [List.getElem?_set] at h
  by_cases e : t = t'
  · subst e
    simp only [if_true] at h
    split at h
    · left; exact ⟨rfl, by simpa using h.symm⟩
    · cases h
  · simp only [e, if_false] at h
    right; exact ⟨fun x => e x.symm, h⟩

theorem lt_of_get {l : List α} {t : Nat} {x : α} (h : l[t]? = some x) : t < l.length := by
  rcases Nat.lt_or_ge t l.length with h' | h'
  · exact h'
  · rw [List.getElem?_eq_none h'] at h; cases h

theorem get_set_self {l : List α} {t : Nat} {x x' : α} (h : l[t]? = some x) :
    (l.set t x')[t]? = some x' :=
  List.getElem?_set_self (lt_of_get h)

theorem get_set_ne {l : List α} {t t' : Nat} {x : α} (h : t' ≠ t) : (l.set t x)[t']? = l[t']? := by
  rw [List.getElem?_set, if_neg (fun e => h e.symm)]

theorem sum_map_set (f : α → Nat) : ∀ {l : List α} {i : Nat} {x : α} (x' : α), l[i]? = some x →
    ((l.set i x').map f).sum + f x = (l.map f).sum + f x' := by
  intro l
  induction l with
  | nil => intro i x x' hi; simp at hi
  | cons y ys ih =>
    intro i x x' hi
    cases i with
    | zero =>
      simp only [List.getElem?_cons_zero, Option.some.injEq] at hi
      subst hi
      simp only [List.set_cons_zero, List.map_cons, List.sum_cons]; omega
    | succ n =>
      simp only [List.getElem?_cons_succ] at hi
      have := ih x' hi
      simp only [List.set_cons_succ, List.map_cons, List.sum_cons]; omega

theorem sum_map_set_lt (f : α → Nat) {l : List α} {i : Nat} {x x' : α} (hi : l[i]? = some x)
    (hlt : f x' < f x) : ((l.set i x').map f).sum < (l.map f).sum := by
  have := sum_map_set f x' hi; omega

theorem sum_map_eq_zero (f : α → Nat) {l : List α} : (l.map f).sum = 0 ↔ ∀ x ∈ l, f x = 0 := by
  induction l with
  | nil => simp
  | cons y ys ih => rw [List.map_cons, List.sum_cons, Nat.add_eq_zero_iff, ih, List.forall_mem_cons]

end Proofs.Run
