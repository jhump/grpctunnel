import Proofs.Lemmas.ServerOps
import Proofs.Lemmas.ServerBound
import Proofs.Lemmas.ServerShape
import Proofs.Lemmas.ServerLocal
/-! Server half of the tear-down lemmas: the stream table (C14) and what is left blocked when
    `serve` returns (C04).

    Two facts about a stream object carry both: `TRel`, a relation between the object before and after
    anything the endpoint does to it, and `NB`, an invariant.  Each is checked once on the elementary
    state changes of `ServerOps.Step` and so holds of every frame, handler call and context end. -/
namespace Proofs.Teardown
open TunnelModel TunnelModel.LFrame TunnelModel.Framing
open Proofs.ServerOps (Step Fresh)
open Proofs.ServerBound (AllS allS_init)

variable {α : Type}

/-- a stream is in the table iff `finishStream` has not run for it -/
def TInv (s : SStream α) : Prop := s.inTable = !s.closed

/-- nothing is blocked once the stream context has ended -/
def NB (s : SStream α) : Prop := s.ctxDone.isSome = true → s.pread = none ∧ s.psend = none

/-- the operation left `closed` and `inTable` alone or it finished the stream; and a context that has
    ended stays as it is -/
structure TRel (s s' : SStream α) : Prop where
  tab : (s'.closed = s.closed ∧ s'.inTable = s.inTable) ∨ (s'.closed = true ∧ s'.inTable = false)
  ctx : s.ctxDone.isSome = true → s'.ctxDone = s.ctxDone

theorem TRel.refl (s : SStream α) : TRel s s := ⟨Or.inl ⟨rfl, rfl⟩, fun _ => rfl⟩

theorem TRel.trans {a b c : SStream α} (h1 : TRel a b) (h2 : TRel b c) : TRel a c := by
  refine ⟨?_, fun h => ?_⟩
  · rcases h2.tab with ⟨h2c, h2t⟩ | h2'
    · rcases h1.tab with ⟨h1c, h1t⟩ | ⟨h1c, h1t⟩
      · exact Or.inl ⟨h2c.trans h1c, h2t.trans h1t⟩
      · exact Or.inr ⟨h2c.trans h1c, h2t.trans h1t⟩
    · exact Or.inr h2'
  · have hb := h1.ctx h
    rw [h2.ctx (by rw [hb]; exact h), hb]

/-- `trans` with the step whose two ends are known first, so that the middle state is read off it -/
theorem TRel.trans' {a b c : SStream α} (h2 : TRel b c) (h1 : TRel a b) : TRel a c := h1.trans h2

theorem TRel.of_eq {s s' : SStream α} (hc : s'.closed = s.closed) (ht : s'.inTable = s.inTable)
    (hx : s'.ctxDone = s.ctxDone) : TRel s s' :=
  ⟨Or.inl ⟨hc, ht⟩, fun _ => hx⟩

theorem TRel.tinv {s s' : SStream α} (h : TRel s s') (hi : TInv s) : TInv s' := by
  unfold TInv at *
  rcases h.tab with ⟨hc, ht⟩ | ⟨hc, ht⟩
  · rw [hc, ht]; exact hi
  · rw [hc, ht]; rfl

theorem TRel.closed {s s' : SStream α} (h : TRel s s') (hc : s.closed = true) : s'.closed = true := by
  rcases h.tab with ⟨h1, _⟩ | ⟨h1, _⟩
  · rw [h1]; exact hc
  · exact h1

theorem TRel.out {s s' : SStream α} (h : TRel s s') (ht : s.inTable = false) : s'.inTable = false := by
  rcases h.tab with ⟨_, h1⟩ | ⟨_, h1⟩
  · rw [h1]; exact ht
  · exact h1

theorem TRel.ctxDone {s s' : SStream α} (h : TRel s s') (hc : s.ctxDone.isSome = true) :
    s'.ctxDone.isSome = true := by
  rw [h.ctx hc]; exact hc

theorem finishCore_tab (sid : Sid) (s : SStream α) (err : Option SErr) :
    TRel s (s.finishCore sid err).1 := by
  rw [ServerOps.finishCore_fst]
  exact ⟨Or.inr ⟨rfl, rfl⟩, fun _ => rfl⟩

theorem ccSend_tab (sid : Sid) (s : SStream α) (e : CtxErr) : TRel s (ServerOps.ccSend sid s e).1 := by
  unfold ServerOps.ccSend
  split
  · dsimp only
    split
    · exact (finishCore_tab sid _ _).trans' (TRel.of_eq rfl rfl rfl)
    · exact TRel.of_eq rfl rfl rfl
  · exact TRel.refl s

theorem ccRead_tab (sid : Sid) (s : SStream α) (e : CtxErr) : TRel s (ServerOps.ccRead sid s e).1 := by
  unfold ServerOps.ccRead
  split
  · dsimp only
    split
    · exact (finishCore_tab sid _ _).trans' (TRel.of_eq rfl rfl rfl)
    · exact TRel.of_eq rfl rfl rfl
  · exact TRel.refl s

theorem cancelCtx_tab (sid : Sid) (s : SStream α) (e : CtxErr) : TRel s (s.cancelCtx sid e).1 := by
  cases hc : s.ctxDone with
  | some c => rw [ServerOps.cancelCtx_of_done sid e (by rw [hc]; rfl)]; exact TRel.refl s
  | none =>
    rw [ServerOps.cancelCtx_of_open sid e hc]
    have h1 : TRel s (ServerOps.ctxMark s e) := ⟨Or.inl ⟨rfl, rfl⟩, fun h => by rw [hc] at h; cases h⟩
    exact (h1.trans (ccSend_tab sid _ e)).trans (ccRead_tab sid _ e)

theorem finish_tab (sid : Sid) (s : SStream α) (err : Option SErr) (b : Bool) :
    TRel s (s.finish sid err b).1 := by
  rw [ServerOps.finish_eq]
  exact (finishCore_tab sid s _).trans (cancelCtx_tab sid _ .canceled)

theorem TRel.of_step {pumps : Bool} {cfg : SCfg} {sid : Sid} {s s' : SStream α} {o : Out α}
    (h : Step pumps cfg sid s s' o) : TRel s s' := by
  induction h with
  | refl s => exact TRel.refl s
  | seq _ _ ih₁ ih₂ => exact ih₁.trans ih₂
  | halfClose s e => rw [ServerOps.halfClose_eq]; exact TRel.of_eq rfl rfl rfl
  | finish s err b => exact finish_tab sid s err b
  | retFinish s keep err => exact (finish_tab sid _ err false).trans' (TRel.of_eq rfl rfl rfl)
  | cancelCtx s e => exact cancelCtx_tab sid s e
  | dropSend _ _ _ ih => exact ih
  -- the other elementary changes write neither `closed`, `inTable` nor `ctxDone`
  | _ => exact TRel.of_eq rfl rfl rfl

theorem onFrame_tab (cfg : SCfg) (sid : Sid) (s : SStream α) (f : C2S α) :
    TRel s (s.onFrame cfg sid f).1 := .of_step (Step.onFrame s f (fun _ => rfl))

theorem onCall_tab (cfg : SCfg) (sid : Sid) (s : SStream α) (c : HCall α) :
    TRel s (s.onCall cfg sid c).1 := .of_step (Step.onCall s c (fun _ => rfl))

theorem stepEv_tab (cfg : SCfg) (sid : Sid) (s : SStream α) (ev : SEv α) :
    TRel s (s.stepEv cfg sid ev).1 := .of_step (Step.stepEv s ev (fun _ => rfl))

theorem NB.of_open {s : SStream α} (h : s.ctxDone = none) : NB s := by
  intro hc; rw [h] at hc; cases hc

theorem NB.mono {s s' : SStream α} (hx : s'.ctxDone = s.ctxDone)
    (hr : s'.pread = none ∨ s'.pread = s.pread) (hs : s'.psend = none ∨ s'.psend = s.psend)
    (h : NB s) : NB s' := by
  intro hc
  have := h (hx ▸ hc)
  refine ⟨?_, ?_⟩
  · rcases hr with hr | hr
    · exact hr
    · rw [hr]; exact this.1
  · rcases hs with hs | hs
    · exact hs
    · rw [hs]; exact this.2

theorem NB.congr {s s' : SStream α} (hx : s'.ctxDone = s.ctxDone) (hr : s'.pread = s.pread)
    (hs : s'.psend = s.psend) (h : NB s) : NB s' := NB.mono hx (Or.inr hr) (Or.inr hs) h

theorem NB.open_of_pread {s : SStream α} {p : PRead α} (h : NB s) (hp : s.pread = some p) : s.ctxDone = none := by
  cases hc : s.ctxDone with
  | none => rfl
  | some c =>
    have := (h (by rw [hc]; rfl)).1
    rw [hp] at this; cases this

theorem NB.send_open {s : SStream α} {x : Snd α} (h : NB s) (hp : s.psend = some x) : s.ctxDone = none := by
  cases hc : s.ctxDone with
  | none => rfl
  | some c =>
    have := (h (by rw [hc]; rfl)).2
    rw [hp] at this; cases this

theorem cancelCtx_nb (sid : Sid) (s : SStream α) (e : CtxErr) (h : NB s) : NB (s.cancelCtx sid e).1 := by
  cases hc : s.ctxDone with
  | some c => rw [ServerOps.cancelCtx_of_done sid e (by rw [hc]; rfl)]; exact h
  | none => exact fun _ => (Proofs.ServerShape.cancelCtx_released sid s e).2 hc

theorem finish_nb (sid : Sid) (s : SStream α) (err : Option SErr) (b : Bool) (h : NB s) :
    NB (s.finish sid err b).1 := by
  rw [ServerOps.finish_eq]
  refine cancelCtx_nb sid _ .canceled ?_
  rw [ServerOps.finishCore_fst]
  exact NB.congr rfl rfl rfl h

theorem NB.of_step {pumps : Bool} {cfg : SCfg} {sid : Sid} {s s' : SStream α} {o : Out α}
    (h : Step pumps cfg sid s s' o) : NB s → NB s' := by
  induction h with
  | seq _ _ ih₁ ih₂ => exact fun h => ih₂ (ih₁ h)
  | halfClose s e => rw [ServerOps.halfClose_eq]; exact NB.congr rfl rfl rfl
  | finish s err b => exact finish_nb sid s err b
  | retFinish s keep err => exact fun h => finish_nb sid _ err false (NB.congr rfl rfl rfl h)
  | cancelCtx s e => exact cancelCtx_nb sid s e
  | dropSend _ _ _ ih => exact ih
  -- a send or a read completes
  | sentAll | sendAborted => exact NB.mono rfl (Or.inr rfl) (Or.inl rfl)
  | delivered | deliveredEof | readFailed => exact NB.mono rfl (Or.inl rfl) (Or.inr rfl)
  -- a send or a read blocks, or stays blocked: the context is live
  | sendPending _ _ _ _ _ _ hc => exact fun _ => NB.of_open hc
  | readStarted _ _ hc => exact fun _ => NB.of_open hc
  | readPending _ _ _ hp => exact fun h => NB.of_open (h.open_of_pread hp)
  -- the other elementary changes write neither `ctxDone`, `pread` nor `psend`
  | _ => exact NB.congr rfl rfl rfl

theorem finishCore_tinv (sid : Sid) (s : SStream α) (err : Option SErr) : TInv (s.finishCore sid err).1 := by
  rw [ServerOps.finishCore_fst]; rfl

theorem cancelCtx_tinv (sid : Sid) (s : SStream α) (e : CtxErr) (h : TInv s) : TInv (s.cancelCtx sid e).1 :=
  (cancelCtx_tab sid s e).tinv h

theorem finish_tinv (sid : Sid) (s : SStream α) (err : Option SErr) (b : Bool) : TInv (s.finish sid err b).1 := by
  rw [ServerOps.finish_eq]
  exact cancelCtx_tinv sid _ .canceled (finishCore_tinv sid s _)

theorem onFrame_tinv (cfg : SCfg) (sid : Sid) (s : SStream α) (f : C2S α) (h : TInv s) :
    TInv (s.onFrame cfg sid f).1 := (onFrame_tab cfg sid s f).tinv h

theorem onCall_tinv (cfg : SCfg) (sid : Sid) (s : SStream α) (c : HCall α) (h : TInv s) :
    TInv (s.onCall cfg sid c).1 := (onCall_tab cfg sid s c).tinv h

/-- `TInv` holds of a fresh stream object before and after the decode callback's `RecvMsg` that
    `createStream` starts on unary methods -/
theorem tinv_fresh (cs ss unary fc : Bool) (W win : Nat) (dl : Option Nat) (h : HStatus) (sid : Sid) :
    let st : SStream α := { cs := cs, ss := ss, unary := unary, fc := fc, rcv := RcvQ.init W, win := win,
                            deadline := dl, hstatus := h }
    TInv st ∧ TInv (st.startRecv sid).1 :=
  -- `startRecv` is a `Step` for every `pumps` and `cfg`
  ⟨rfl, (TRel.of_step (Step.startRecv (pumps := true) (cfg := {}) _)).tinv rfl⟩

theorem step_tinv (cfg : SCfg) (s : Srv α) (x : SStim α) (h : AllS TInv s) : AllS TInv (s.step cfg x).1 :=
  ServerOps.allS_step (fun sid st ev => (stepEv_tab cfg sid st ev).tinv)
    (fun _ _ _ _ hf => by cases hf; rfl) s x h

theorem step_nb (cfg : SCfg) (s : Srv α) (x : SStim α) (h : AllS NB s) : AllS NB (s.step cfg x).1 :=
  ServerOps.allS_step (fun sid st ev => NB.of_step (Step.stepEv st ev (fun _ => rfl)))
    (fun _ _ _ _ hf => by cases hf; exact NB.of_open rfl) s x h

theorem srvTInv_run (cfg : SCfg) (xs : List (SStim α)) (s : Srv α) (h : AllS TInv s) :
    AllS TInv (Srv.run cfg s xs).1 :=
  ServerOps.run_keeps (step_tinv cfg) xs s h

theorem srvNB_run (cfg : SCfg) (xs : List (SStim α)) (s : Srv α) (h : AllS NB s) : AllS NB (Srv.run cfg s xs).1 :=
  ServerOps.run_keeps (step_nb cfg) xs s h

theorem TInv.inTable_iff {s : SStream α} (h : TInv s) : s.inTable = true ↔ s.closed = false := by
  unfold TInv at h
  rw [h, Bool.not_eq_true']

theorem table_exact_of_tinv (s : Srv α) (h : AllS TInv s) (sid : Sid) :
    sid ∈ s.table ↔ ∃ st, (sid, st) ∈ s.streams ∧ st.closed = false := by
  simp only [Srv.table, List.mem_map, List.mem_filter]
  constructor
  · rintro ⟨e, ⟨he, ht⟩, rfl⟩
    exact ⟨e.2, he, (h e he).inTable_iff.mp ht⟩
  · rintro ⟨st, he, hc⟩
    exact ⟨(sid, st), ⟨he, (h (sid, st) he).inTable_iff.mpr hc⟩, rfl⟩

/-- **C14, server.** In every reachable state the table contains exactly the RPCs in flight: an id is in
    the table iff it has a stream object for which `finishStream` has not run.  A stream leaves the table
    when `finishStream` runs for it, as it does when its handler returns; the return of `serve` cancels
    every context but takes nothing out of the table. -/
theorem C14_server_table_exact (cfg : SCfg) (xs : List (SStim α)) :
    let s := (Srv.run cfg ({} : Srv α) xs).1
    ∀ sid, sid ∈ s.table ↔ ∃ st, (sid, st) ∈ s.streams ∧ st.closed = false :=
  fun sid => table_exact_of_tinv _ (srvTInv_run cfg xs {} (allS_init _)) sid

theorem runOps_tab (cfg : SCfg) (sid : Sid) (ops : List (Proofs.ServerShape.SOp α)) (s : SStream α) :
    TRel s (Proofs.ServerShape.runOps cfg sid s ops).1 :=
  have ⟨_, h, _⟩ := Proofs.ServerShape.runOps_step cfg sid ops s
  .of_step h

/-- **C14, server: a finished RPC stays out of the table.** Once `finishStream` has run (`closed = true`),
    whatever happens to the stream object afterwards, `closed` stays true and `inTable` stays false.  This
    is about one stream object from any state, without an invariant; the endpoint applies nothing but
    `SOp`s to its stream objects (`ServerOps.step_mem`). -/
theorem server_finished_stays_out (cfg : SCfg) (sid : Sid) (s : SStream α)
    (ops : List (Proofs.ServerShape.SOp α)) :
    (s.closed = true → (Proofs.ServerShape.runOps cfg sid s ops).1.closed = true) ∧
    (s.inTable = false → (Proofs.ServerShape.runOps cfg sid s ops).1.inTable = false) :=
  ⟨(runOps_tab cfg sid ops s).closed, (runOps_tab cfg sid ops s).out⟩

theorem server_finished_stays_out_step (cfg : SCfg) (sid : Sid) (s : SStream α)
    (hc : s.closed = true) (ht : s.inTable = false) :
    (∀ f, (s.onFrame cfg sid f).1.closed = true ∧ (s.onFrame cfg sid f).1.inTable = false) ∧
    (∀ c, (s.onCall cfg sid c).1.closed = true ∧ (s.onCall cfg sid c).1.inTable = false) ∧
    (∀ e, (s.cancelCtx sid e).1.closed = true ∧ (s.cancelCtx sid e).1.inTable = false) :=
  ⟨fun f => ⟨(onFrame_tab cfg sid s f).closed hc, (onFrame_tab cfg sid s f).out ht⟩,
   fun c => ⟨(onCall_tab cfg sid s c).closed hc, (onCall_tab cfg sid s c).out ht⟩,
   fun e => ⟨(cancelCtx_tab sid s e).closed hc, (cancelCtx_tab sid s e).out ht⟩⟩

theorem server_finish_leaves_table (sid : Sid) (s : SStream α) (err : Option SErr) (b : Bool) :
    (s.finish sid err b).1.closed = true ∧ (s.finish sid err b).1.inTable = false :=
  Proofs.ServerShape.finish_closed sid s err b

theorem serveReturns_streams (s : Srv α) (err : Option String) :
    (s.serveReturns err).1.streams = s.streams.map (fun e => (e.1, (e.2.cancelCtx e.1 .canceled).1)) := by
  rw [ServerOps.serveReturns_eq]

/-- **C04, server, any state.** After `serve` returned (for any reason) every stream object is the old one
    with its context cancelled; those whose context had not ended before have no pending read and no
    pending send.  The table is not emptied: a stream object leaves it when `finishStream` runs for it
    (`TInv`), which the released handler does by returning.  What C04 gives on the server is that nothing
    stays blocked. -/
theorem C04_server_serveReturns (s : Srv α) (err : Option String) :
    (s.serveReturns err).1.returned = some err ∧
    (∀ e ∈ (s.serveReturns err).1.streams, e.2.ctxDone.isSome = true) ∧
    (∀ e ∈ s.streams, e.2.ctxDone = none →
      (e.1, (e.2.cancelCtx e.1 .canceled).1) ∈ (s.serveReturns err).1.streams ∧
      (e.2.cancelCtx e.1 .canceled).1.pread = none ∧ (e.2.cancelCtx e.1 .canceled).1.psend = none) ∧
    (∀ e ∈ s.streams, e.2.ctxDone.isSome = true → e ∈ (s.serveReturns err).1.streams) := by
  refine ⟨Proofs.ServerLocal.serveReturns_returned s err, Proofs.ServerShape.serveReturns_released s err, ?_, ?_⟩
  · intro e he hc
    refine ⟨?_, (Proofs.ServerShape.cancelCtx_released e.1 e.2 .canceled).2 hc⟩
    rw [serveReturns_streams]
    exact List.mem_map.mpr ⟨e, he, rfl⟩
  · intro e he hc
    rw [serveReturns_streams]
    refine List.mem_map.mpr ⟨e, he, ?_⟩
    rw [ServerOps.cancelCtx_of_done e.1 _ hc]

/-- **C04, server: nothing hangs.** In every state whose stream objects satisfy `NB` (every reachable
    one: `srvNB_run`), when `serve` returns (protocol error, carrier error or EOF) no handler call, read or
    send, stays blocked on any stream, including those whose context had ended earlier. -/
theorem C04_server_nothing_blocked_after_return (s : Srv α) (err : Option String) (h : AllS NB s) :
    (s.serveReturns err).1.returned = some err ∧
    ∀ e ∈ (s.serveReturns err).1.streams, e.2.ctxDone.isSome = true ∧ e.2.pread = none ∧ e.2.psend = none :=
  ⟨Proofs.ServerLocal.serveReturns_returned s err, fun e he =>
    have hc := Proofs.ServerShape.serveReturns_released s err e he
    ⟨hc, ServerOps.allS_serveReturns cancelCtx_nb s err h e he hc⟩⟩

theorem returned_ignores_frames (cfg : SCfg) (s : Srv α) (sid : Sid) (f : C2S α)
    (h : s.returned.isSome = true) : s.onFrame cfg sid f = (s, {}) := by
  unfold Srv.onFrame
  rw [if_pos h]

theorem returned_ignores_carrier (cfg : SCfg) (s : Srv α) (err : Option String)
    (h : s.returned.isSome = true) : s.step cfg (.carrierEnds err) = (s, {}) := by
  rw [ServerOps.step_carrierEnds, if_pos h]

theorem step_keeps_returned (cfg : SCfg) (s : Srv α) (x : SStim α) (h : s.returned.isSome = true) :
    (s.step cfg x).1.returned = s.returned := by
  cases x with
  | frame sid f => rw [ServerOps.step_frame, returned_ignores_frames cfg s sid f h]
  | call sid c => exact Proofs.ServerLocal.call_never_ends_tunnel cfg s sid c
  | tick d => exact Proofs.ServerLocal.tick_never_ends_tunnel s d
  | closing b => rfl
  | carrierEnds err => rw [returned_ignores_carrier cfg s err h]

theorem step_preserves_returned (cfg : SCfg) (s : Srv α) (x : SStim α) (h : s.returned.isSome = true) :
    (s.step cfg x).1.returned.isSome = true := by
  rw [step_keeps_returned cfg s x h]; exact h

theorem run_keeps_returned (cfg : SCfg) (xs : List (SStim α)) : ∀ (s : Srv α), s.returned.isSome = true →
    (Srv.run cfg s xs).1.returned = s.returned := by
  induction xs with
  | nil => intro s _; rfl
  | cons x xs ih =>
    intro s h
    rw [ServerOps.run_cons, ih _ (step_preserves_returned cfg s x h), step_keeps_returned cfg s x h]

def RetDone (s : Srv α) : Prop := s.returned.isSome = true → ∀ e ∈ s.streams, e.2.ctxDone.isSome = true

theorem retDone_step (cfg : SCfg) (s : Srv α) (x : SStim α) (h : RetDone s) : RetDone (s.step cfg x).1 := by
  intro hret
  rcases ServerOps.step_returned cfg s x with hr | ⟨err, hr⟩
  · -- `serve` had returned before: no stream object is created, and an ended context stays ended
    rw [hr] at hret
    intro e he
    rcases ServerOps.step_mem cfg s x he with h1 | ⟨st, ev, hst, heq⟩ | ⟨hn, _⟩
    · exact h hret e h1
    · rw [heq]; exact (stepEv_tab cfg e.1 st ev).ctxDone (h hret _ hst)
    · rw [hn] at hret; cases hret
  · rw [hr]; exact Proofs.ServerShape.serveReturns_released s err

theorem nothing_blocked_of_returned {s : Srv α} (hnb : AllS NB s) (hrd : RetDone s) (hret : s.returned.isSome = true) :
    ∀ e ∈ s.streams, e.2.ctxDone.isSome = true ∧ e.2.pread = none ∧ e.2.psend = none :=
  fun e he => ⟨hrd hret e he, hnb e he (hrd hret e he)⟩

/-- **C04, server: nothing hangs, ever after.** In every reachable state in which `serve` has returned,
    also after any number of later handler calls, ticks and (ignored) frames, every stream context has
    ended and no handler read or send is pending: a handler call made after the return completes at once. -/
theorem C04_server_returned_never_blocks (cfg : SCfg) (xs : List (SStim α)) :
    let s := (Srv.run cfg ({} : Srv α) xs).1
    s.returned.isSome = true →
    ∀ e ∈ s.streams, e.2.ctxDone.isSome = true ∧ e.2.pread = none ∧ e.2.psend = none :=
  nothing_blocked_of_returned (srvNB_run cfg xs {} (allS_init _))
    (ServerOps.run_keeps (retDone_step cfg) xs {} (fun h => by cases h))

end Proofs.Teardown
