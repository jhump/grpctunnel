import Proofs.Lemmas.ServerOps
import Proofs.Lemmas.ReadLoop
/-!
  Bounded buffering on the server endpoint (C09, receive side): for every stimulus list, every stream
  object that uses flow control (`fc = true`, protocol revision 1) satisfies
  `rcv.rwin + queuedBytes ≤ cfg.W` (`BInv`), hence never holds more than `W` bytes in its receive queue,
  and never reaches the `unsupported` state.

  `Pres` is reflexive and transitive and holds of every elementary state change of a stream object, hence
  of every `Step` (`Pres.of_step`); `BInv W` and `UInv` are kept along `Pres`.
-/
namespace Proofs.ServerBound
open TunnelModel TunnelModel.LFrame TunnelModel.Framing

variable {α : Type}

def queuedBytes {α} (s : SStream α) : Nat := (s.rcv.queue.map TunnelModel.Framing.DFrame.size).sum

def BInv {α} (W : Nat) (s : SStream α) : Prop := s.fc = true → s.rcv.rwin + queuedBytes s ≤ W

/-- `unsupported`: the receive loop would block -/
def UInv {α} (s : SStream α) : Prop := s.fc = true → s.unsupported = false

def Pres {α} (s s' : SStream α) : Prop :=
  s'.fc = s.fc ∧ (s.fc = true → s'.unsupported = s.unsupported) ∧
  (s.fc = true → s'.rcv.rwin + queuedBytes s' ≤ s.rcv.rwin + queuedBytes s)

theorem Pres.refl (s : SStream α) : Pres s s := ⟨rfl, fun _ => rfl, fun _ => Nat.le_refl _⟩

theorem Pres.trans {a b c : SStream α} (h1 : Pres a b) (h2 : Pres b c) : Pres a c := by
  obtain ⟨f1, u1, m1⟩ := h1
  obtain ⟨f2, u2, m2⟩ := h2
  refine ⟨f2.trans f1, fun h => ?_, fun h => ?_⟩
  · rw [u2 (f1.trans h), u1 h]
  · exact Nat.le_trans (m2 (f1.trans h)) (m1 h)

theorem Pres.of_eq {s s' : SStream α} (hf : s'.fc = s.fc) (hu : s'.unsupported = s.unsupported)
    (hr : s'.rcv.rwin = s.rcv.rwin) (hq : s'.rcv.queue = s.rcv.queue) : Pres s s' := by
  refine ⟨hf, fun _ => hu, fun _ => ?_⟩
  simp [queuedBytes, hr, hq]

theorem Pres.binv {W : Nat} {s s' : SStream α} (h : Pres s s') (hb : BInv W s) : BInv W s' := by
  intro hfc
  have hfc' : s.fc = true := h.1 ▸ hfc
  exact Nat.le_trans (h.2.2 hfc') (hb hfc')

theorem Pres.uinv {s s' : SStream α} (h : Pres s s') (hb : UInv s) : UInv s' := by
  intro hfc
  have hfc' : s.fc = true := h.1 ▸ hfc
  rw [h.2.1 hfc']; exact hb hfc'

open Proofs.ServerOps

theorem Pres.of_not_fc {s s' : SStream α} (hfc : s.fc = false) (h : s'.fc = s.fc) : Pres s s' :=
  ⟨h, fun h' => absurd (hfc ▸ h') Bool.false_ne_true, fun h' => absurd (hfc ▸ h') Bool.false_ne_true⟩

theorem finishCore_pres (sid : Sid) (s : SStream α) (err : Option SErr) :
    Pres s (s.finishCore sid err).1 := by
  rw [finishCore_fst]; exact Pres.of_eq rfl rfl rfl rfl

theorem ccSend_pres (sid : Sid) (s : SStream α) (e : CtxErr) : Pres s (ccSend sid s e).1 :=
  ccSend_elim (motive := fun r => Pres s r.1) sid s e (fun _ => Pres.refl s)
    (fun _ _ _ => Pres.trans (Pres.of_eq rfl rfl rfl rfl) (finishCore_pres _ _ _))
    (fun _ _ _ => Pres.of_eq rfl rfl rfl rfl)

theorem ccRead_pres (sid : Sid) (s : SStream α) (e : CtxErr) : Pres s (ccRead sid s e).1 :=
  ccRead_elim (motive := fun r => Pres s r.1) sid s e (fun _ => Pres.refl s)
    (fun _ _ _ => Pres.trans (Pres.of_eq rfl rfl rfl rfl) (finishCore_pres _ _ _))
    (fun _ _ _ => Pres.of_eq rfl rfl rfl rfl)

theorem cancelCtx_pres (sid : Sid) (s : SStream α) (e : CtxErr) : Pres s (s.cancelCtx sid e).1 := by
  -- cancelling the receiver empties the queue, closing it leaves the queue alone
  have h1 : Pres s (ctxMark s e) := by
    refine ⟨rfl, fun _ => rfl, fun h => ?_⟩
    simp [ctxMark, h, queuedBytes, RcvQ.cancel]
  exact cancelCtx_elim (motive := fun r => Pres s r.1) sid s e (fun _ => Pres.refl s)
    (fun _ => (h1.trans (ccSend_pres _ _ _)).trans (ccRead_pres _ _ _))

theorem finish_pres (sid : Sid) (s : SStream α) (err : Option SErr) (b : Bool) :
    Pres s (s.finish sid err b).1 := by
  rw [finish_eq]
  exact (finishCore_pres _ _ _).trans (cancelCtx_pres _ _ _)

theorem accept_ok_pres (s : SStream α) (df : DFrame α) (r : RcvQ α) (h : s.rcv.accept df = (r, .ok)) :
    Pres s ({ s with rcv := r } : SStream α) := by
  refine ⟨rfl, fun _ => rfl, fun _ => ?_⟩
  unfold RcvQ.accept at h
  split at h
  · cases h
  · split at h
    · cases h
    · cases h
      simp only [queuedBytes, List.map_append, List.sum_append, List.map_cons, List.map_nil, List.sum_cons,
        List.sum_nil]
      omega

theorem Pres.of_step {pumps : Bool} {cfg : SCfg} {sid : Sid} {a b : SStream α} {o : Out α} (h : Step pumps cfg sid a b o) :
    Pres a b := by
  induction h with
  | refl s => exact Pres.refl s
  | seq _ _ ih₁ ih₂ => exact ih₁.trans ih₂
  | halfClose s e => rw [halfClose_eq]; exact Pres.of_eq rfl rfl rfl rfl
  | finish s err b => exact finish_pres sid s err b
  | retFinish s keep err => exact Pres.trans (Pres.of_eq rfl rfl rfl rfl) (finish_pres sid _ err false)
  | cancelCtx s e => exact cancelCtx_pres sid s e
  | dropSend _ _ _ ih => exact ih
  | drained s p rwin q credits out hp hr =>
    have hsum : rwin + (q.map DFrame.size).sum = s.rcv.rwin + (s.rcv.queue.map DFrame.size).sum :=
      Proofs.ReadLoop.readLoop_sum hr
    refine ⟨rfl, fun _ => rfl, fun h => ?_⟩
    simp only [drained, queuedBytes, h, if_true]
    omega
  | accepted s df r hfc ha => exact accept_ok_pres s df r ha
  | wedged s hfc => exact Pres.of_not_fc hfc rfl
  | queued s df hfc hc hq => exact Pres.of_not_fc hfc rfl
  | _ => exact Pres.of_eq rfl rfl rfl rfl

def AllS {α} (P : SStream α → Prop) (s : Srv α) : Prop := ∀ e ∈ s.streams, P e.2

theorem allS_init (P : SStream α → Prop) : AllS P ({} : Srv α) := by
  intro e he; cases he

theorem stepEv_of_pres {P : SStream α → Prop} (hP : ∀ {s s' : SStream α}, Pres s s' → P s → P s') (cfg : SCfg)
    (sid : Sid) (s : SStream α) (ev : SEv α) (h : P s) : P (s.stepEv cfg sid ev).1 :=
  hP (Pres.of_step (Step.stepEv s ev (fun _ => rfl))) h

theorem halfClose_pres (s : SStream α) (e : SErr) : Pres s (s.halfClose e) := by
  rw [halfClose_eq]; exact Pres.of_eq rfl rfl rfl rfl
theorem pumpSend_pres (cfg : SCfg) (sid : Sid) (s : SStream α) (snd : Snd α) : Pres s (s.pumpSend cfg sid snd).1 := by
  rw [pumpSend_fst]; exact Pres.of_eq rfl rfl rfl rfl
theorem afterSend_pres (sid : Sid) (s : SStream α) (o : Out α) : Pres s (s.afterSend sid o).1 :=
  (Step.afterSend_tail (pumps := false) (cfg := {}) (sid := sid) s o).elim (fun e => e ▸ Pres.refl s)
    (fun ⟨_, _, _, h, _⟩ => Pres.of_step h)
theorem resumeRead_pres (sid : Sid) (mn : String) (fuel : Nat) (s : SStream α) :
    Pres s (SStream.resumeRead sid mn fuel s).1 := Pres.of_step (pumps := false) (cfg := {}) (Step.resumeRead mn fuel s)
theorem afterDecode_pres (sid : Sid) (s : SStream α) (o : Out α) : Pres s (s.afterDecode sid o).1 :=
  have ⟨_, h, _⟩ := Step.afterDecode_tail (pumps := false) (cfg := {}) (sid := sid) s o
  Pres.of_step h
theorem readAndSettle_pres (sid : Sid) (s : SStream α) : Pres s (s.readAndSettle sid).1 :=
  Pres.of_step (pumps := false) (cfg := {}) (Step.readAndSettle s)
theorem startRecv_pres (sid : Sid) (s : SStream α) : Pres s (s.startRecv sid).1 :=
  Pres.of_step (pumps := false) (cfg := {}) (Step.startRecv s)
theorem onFrame_pres (cfg : SCfg) (sid : Sid) (s : SStream α) (f : C2S α) : Pres s (s.onFrame cfg sid f).1 :=
  Pres.of_step (Step.onFrame s f (fun _ => rfl))
theorem onCall_pres (cfg : SCfg) (sid : Sid) (s : SStream α) (c : HCall α) : Pres s (s.onCall cfg sid c).1 :=
  Pres.of_step (Step.onCall s c (fun _ => rfl))

section PerOp
variable {W : Nat}

theorem cancelCtx_fc (sid : Sid) (s : SStream α) (e : CtxErr) : (s.cancelCtx sid e).1.fc = s.fc :=
  (cancelCtx_pres sid s e).1
theorem halfClose_fc (s : SStream α) (e : SErr) : (s.halfClose e).fc = s.fc := (halfClose_pres s e).1
theorem finishCore_fc (sid : Sid) (s : SStream α) (err : Option SErr) : (s.finishCore sid err).1.fc = s.fc :=
  (finishCore_pres sid s err).1
theorem finish_fc (sid : Sid) (s : SStream α) (err : Option SErr) (b : Bool) :
    (s.finish sid err b).1.fc = s.fc := (finish_pres sid s err b).1
theorem pumpSend_fc (cfg : SCfg) (sid : Sid) (s : SStream α) (snd : Snd α) :
    (s.pumpSend cfg sid snd).1.fc = s.fc := (pumpSend_pres cfg sid s snd).1
theorem afterSend_fc (sid : Sid) (s : SStream α) (o : Out α) : (s.afterSend sid o).1.fc = s.fc :=
  (afterSend_pres sid s o).1
theorem resumeRead_fc (sid : Sid) (mn : String) (fuel : Nat) (s : SStream α) :
    (SStream.resumeRead sid mn fuel s).1.fc = s.fc := (resumeRead_pres sid mn fuel s).1
theorem afterDecode_fc (sid : Sid) (s : SStream α) (o : Out α) : (s.afterDecode sid o).1.fc = s.fc :=
  (afterDecode_pres sid s o).1
theorem readAndSettle_fc (sid : Sid) (s : SStream α) : (s.readAndSettle sid).1.fc = s.fc :=
  (readAndSettle_pres sid s).1
theorem startRecv_fc (sid : Sid) (s : SStream α) : (s.startRecv sid).1.fc = s.fc := (startRecv_pres sid s).1
theorem onFrame_fc (cfg : SCfg) (sid : Sid) (s : SStream α) (f : C2S α) : (s.onFrame cfg sid f).1.fc = s.fc :=
  (onFrame_pres cfg sid s f).1
theorem onCall_fc (cfg : SCfg) (sid : Sid) (s : SStream α) (c : HCall α) : (s.onCall cfg sid c).1.fc = s.fc :=
  (onCall_pres cfg sid s c).1

theorem cancelCtx_binv (sid : Sid) (s : SStream α) (e : CtxErr) (h : BInv W s) :
    BInv W (s.cancelCtx sid e).1 := (cancelCtx_pres sid s e).binv h
theorem halfClose_binv (s : SStream α) (e : SErr) (h : BInv W s) : BInv W (s.halfClose e) :=
  (halfClose_pres s e).binv h
theorem finishCore_binv (sid : Sid) (s : SStream α) (err : Option SErr) (h : BInv W s) :
    BInv W (s.finishCore sid err).1 := (finishCore_pres sid s err).binv h
theorem finish_binv (sid : Sid) (s : SStream α) (err : Option SErr) (b : Bool) (h : BInv W s) :
    BInv W (s.finish sid err b).1 := (finish_pres sid s err b).binv h
theorem pumpSend_binv (cfg : SCfg) (sid : Sid) (s : SStream α) (snd : Snd α) (h : BInv W s) :
    BInv W (s.pumpSend cfg sid snd).1 := (pumpSend_pres cfg sid s snd).binv h
theorem afterSend_binv (sid : Sid) (s : SStream α) (o : Out α) (h : BInv W s) :
    BInv W (s.afterSend sid o).1 := (afterSend_pres sid s o).binv h
theorem resumeRead_binv (sid : Sid) (mn : String) (fuel : Nat) (s : SStream α) (h : BInv W s) :
    BInv W (SStream.resumeRead sid mn fuel s).1 := (resumeRead_pres sid mn fuel s).binv h
theorem afterDecode_binv (sid : Sid) (s : SStream α) (o : Out α) (h : BInv W s) :
    BInv W (s.afterDecode sid o).1 := (afterDecode_pres sid s o).binv h
theorem readAndSettle_binv (sid : Sid) (s : SStream α) (h : BInv W s) :
    BInv W (s.readAndSettle sid).1 := (readAndSettle_pres sid s).binv h
theorem startRecv_binv (sid : Sid) (s : SStream α) (h : BInv W s) :
    BInv W (s.startRecv sid).1 := (startRecv_pres sid s).binv h
theorem onFrame_binv (cfg : SCfg) (sid : Sid) (s : SStream α) (f : C2S α) (h : BInv W s) :
    BInv W (s.onFrame cfg sid f).1 := (onFrame_pres cfg sid s f).binv h
theorem onCall_binv (cfg : SCfg) (sid : Sid) (s : SStream α) (c : HCall α) (h : BInv W s) :
    BInv W (s.onCall cfg sid c).1 := (onCall_pres cfg sid s c).binv h

theorem onFrame_unsupported (cfg : SCfg) (sid : Sid) (s : SStream α) (f : C2S α) (hfc : s.fc = true) :
    (s.onFrame cfg sid f).1.unsupported = s.unsupported := (onFrame_pres cfg sid s f).2.1 hfc
theorem onCall_unsupported (cfg : SCfg) (sid : Sid) (s : SStream α) (c : HCall α) (hfc : s.fc = true) :
    (s.onCall cfg sid c).1.unsupported = s.unsupported := (onCall_pres cfg sid s c).2.1 hfc

end PerOp

def SrvBInv {α} (W : Nat) (s : Srv α) : Prop := ∀ e ∈ s.streams, BInv W e.2

def SrvUInv {α} (s : Srv α) : Prop := ∀ e ∈ s.streams, UInv e.2

theorem binv_fresh (W : Nat) (st : SStream α) (h : st.rcv = RcvQ.init W) : BInv W st := by
  intro _
  simp [queuedBytes, h, RcvQ.init]

theorem srvBInv_init (cfg : SCfg) : SrvBInv cfg.W ({} : Srv α) := allS_init _

/-- `BInv` holds of a stream object with an empty receive queue before and after the decode callback's
    `RecvMsg` that `createStream` starts on unary methods -/
theorem binv_created (cfg : SCfg) (sid : Sid) (st : SStream α) (h : st.rcv = RcvQ.init cfg.W) :
    BInv cfg.W st ∧ BInv cfg.W (st.startRecv sid).1 :=
  ⟨binv_fresh cfg.W st h, startRecv_binv sid st (binv_fresh cfg.W st h)⟩

theorem binv_of_fresh {cfg : SCfg} (rev : Int) (win : Nat) (dl : Option Nat) (st : SStream α)
    (h : Fresh cfg rev win dl st) : BInv cfg.W st := by
  cases h; exact binv_fresh cfg.W _ rfl

theorem uinv_of_fresh {cfg : SCfg} (rev : Int) (win : Nat) (dl : Option Nat) (st : SStream α)
    (h : Fresh cfg rev win dl st) : UInv st := by
  cases h; exact fun _ => rfl

theorem srvBInv_createStream (cfg : SCfg) (s : Srv α) (sid : Sid) (m : List Nat) (md : MD) (rev : Int)
    (win : Nat) (h : SrvBInv cfg.W s) : SrvBInv cfg.W (s.createStream cfg sid m md rev win).1 :=
  allS_createStream (stepEv_of_pres Pres.binv cfg) binv_of_fresh s sid m md rev win h

theorem srvBInv_step (cfg : SCfg) (s : Srv α) (x : SStim α) (h : SrvBInv cfg.W s) :
    SrvBInv cfg.W (s.step cfg x).1 :=
  allS_step (stepEv_of_pres Pres.binv cfg) binv_of_fresh s x h

theorem srvBInv_run (cfg : SCfg) (xs : List (SStim α)) :
    SrvBInv cfg.W (Srv.run cfg ({} : Srv α) xs).1 :=
  allS_run (stepEv_of_pres Pres.binv cfg) binv_of_fresh xs {} (allS_init _)

theorem srvUInv_step (cfg : SCfg) (s : Srv α) (x : SStim α) (h : SrvUInv s) : SrvUInv (s.step cfg x).1 :=
  allS_step (stepEv_of_pres Pres.uinv cfg) uinv_of_fresh s x h

theorem srvUInv_run (cfg : SCfg) (xs : List (SStim α)) : SrvUInv (Srv.run cfg ({} : Srv α) xs).1 :=
  allS_run (stepEv_of_pres Pres.uinv cfg) uinv_of_fresh xs {} (allS_init _)

/-- **C09, bounded buffering.** Whatever the peer and the handlers do, a flow-controlled stream never holds
    more than `W` bytes in its receive queue. -/
theorem C09_bounded (cfg : SCfg) (xs : List (SStim α)) :
    ∀ e ∈ (Srv.run cfg ({} : Srv α) xs).1.streams, e.2.fc = true → queuedBytes e.2 ≤ cfg.W := by
  intro e he hfc
  have := srvBInv_run cfg xs e he hfc
  omega

/-- flow-controlled streams never enter the "receive loop would block" state -/
theorem fc_never_unsupported (cfg : SCfg) (xs : List (SStim α)) :
    ∀ e ∈ (Srv.run cfg ({} : Srv α) xs).1.streams, e.2.fc = true → e.2.unsupported = false :=
  fun e he hfc => srvUInv_run cfg xs e he hfc

-- non-vacuity: a flow-controlled stream exists and holds queued bytes after a run
example :
    let r := (Srv.run (α := Nat) { services := [([1], { methods := [], streams := [([2], true, true)] })] } {}
      [.frame 0 (.newStream [47, 1, 47, 2] [] 1 10), .frame 0 (.msg 5 [1, 2])]).1
    r.streams.map (fun e => (e.2.fc, queuedBytes e.2)) = [(true, 2)] := by decide

-- the hypothesis `fc = true` is needed: a revision-zero stream does reach `unsupported`
example :
    let r := (Srv.run (α := Nat) { services := [([1], { methods := [], streams := [([2], true, true)] })] } {}
      [.frame 0 (.newStream [47, 1, 47, 2] [] 0 10), .frame 0 (.msg 5 [1, 2]), .frame 0 (.more [3])]).1
    r.streams.map (fun e => (e.2.fc, e.2.unsupported)) = [(false, true)] := by decide

#print axioms srvBInv_step
#print axioms srvBInv_run
#print axioms C09_bounded
#print axioms fc_never_unsupported

end Proofs.ServerBound
