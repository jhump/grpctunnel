import TunnelModel.Generated.Facts
import TunnelModel.Negotiate
/-!
  Side conditions on the facts regenerated from /repo's sources by
  /verif/harness/extract.  Every theorem that mentions a protocol constant is
  stated over a parameter with these hypotheses; this file discharges them for
  the values the code has *now*.  A changed constant breaks a proof here.
-/
namespace Proofs.Facts
open TunnelModel

theorem extractor_complete : Generated.missing = [] := by decide
theorem chunkMax_eq : Generated.chunkMax = 16384 := by decide
theorem window_eq : Generated.initialWindowSize = 65536 := by decide
theorem chunkMax_pos : 0 < Generated.chunkMax := by decide
theorem chunkMax_le_window : Generated.chunkMax ≤ Generated.initialWindowSize := by decide
theorem window_fits_uint32 : Generated.initialWindowSize < 4294967296 := by decide
theorem negotiate_header : Generated.negotiateKey = "grpctunnel-negotiate" ∧ Generated.negotiateVal = "on" :=
  ⟨rfl, rfl⟩
theorem server_initial_lastSeen : Generated.serverInitialLastSeen = -1 := by decide
theorem settings_stream_id : Generated.settingsStreamIdSent = -1 ∧ Generated.settingsStreamIdExpected = -1 := by decide
theorem supported_enabled : Negotiate.supportedRevisions false = Generated.supportedRevisionsEnabled := by decide
theorem supported_disabled : Negotiate.supportedRevisions true = Generated.supportedRevisionsDisabled := by decide
theorem advertised_windows :
    Generated.settingsWindowExpr = "initialWindowSize" ∧ Generated.newStreamWindowExpr = "initialWindowSize" :=
  ⟨rfl, rfl⟩

end Proofs.Facts

namespace Proofs.Facts
/-- the context constructions the C17 model describes are the ones in the source -/
theorem context_wiring : TunnelModel.Generated.ctxFacts.all (·.2) = true := by decide
end Proofs.Facts
