import TunnelModel.LFrame.Server
import Proofs.Lemmas.ServerShape
import Proofs.Lemmas.ClientShape
/-!
  C16 — unary and single-message call shapes are enforced on both ends.
  Server, non-streaming request: one delivery at most, a second request is InvalidArgument, a second reply is
  refused.  Client, non-streaming response: one delivery at most, a second response is Internal, a second send refused.
-/
namespace Proofs.C16
open TunnelModel.LFrame TunnelModel.Framing

variable {α : Type}

/-- **Second send refused (server).** A handler's second `SendMsg` on a method
    with a non-streaming response is refused with `Internal` and puts no
    message data on the wire (only the headers frame, if it had not gone out). -/
theorem C16_second_send_refused (cfg : SCfg) (sid : Sid) (s : SStream α) (m : List α)
    (hss : s.ss = false) (hn : s.numSent = 1) :
    let r := s.onCall cfg sid (.send m)
    r.2.dones = [(sid, "send", .status codeInternal)] ∧
    (∀ f ∈ r.2.frames, ∃ md, f = (sid, .headers md)) ∧ r.1.numSent = 1 := by
  by_cases hh : s.sentHeaders = true <;> simp [SStream.onCall, hh, hss, hn]

/-- a sticky read error of any kind is returned again, nothing is delivered -/
theorem C16_recv_sticky (sid : Sid) (s : SStream α) (e : SErr) (hst : s.hstatus = .running)
    (he : s.readErr = some e) :
    s.startRecv sid = (s, { dones := [(sid, "recv", e.toRes)] }) := by
  simp [SStream.startRecv, he, hst, SStream.afterDecode]

/-- the sticky end-of-requests marker: once the look-ahead of a non-client-stream
    method has seen the end of the request stream, every later `RecvMsg`
    returns end-of-stream and delivers nothing -/
theorem C16_recv_after_eof (sid : Sid) (s : SStream α) (hst : s.hstatus = .running)
    (he : s.readErr = some .eof) :
    s.startRecv sid = (s, { dones := [(sid, "recv", .eof)] }) :=
  C16_recv_sticky sid s .eof hst he

/-- **At most one request is ever delivered** to the handler of a method with
    a non-streaming request, over every sequence of stream-level operations
    (frames of any kind from any peer, handler calls, context ends), from any
    state. -/
theorem C16_server_at_most_one (cfg : SCfg) (sid : Sid) (s0 : SStream α) (h0 : s0.cs = false)
    (ops : List (Proofs.ServerShape.SOp α)) : (Proofs.ServerShape.runOps cfg sid s0 ops).2 ≤ 1 :=
  Proofs.ServerShape.C16_server_at_most_one cfg sid s0 h0 ops

/-- … and once it has been delivered, nothing is delivered any more and every
    further read returns the sticky error. -/
theorem C16_server_reads_fail_after_delivery (cfg : SCfg) (sid : Sid) (s0 : SStream α) (h0 : s0.cs = false)
    (ops1 ops2 : List (Proofs.ServerShape.SOp α)) (h1 : (Proofs.ServerShape.runOps cfg sid s0 ops1).2 = 1) :
    (Proofs.ServerShape.runOps cfg sid (Proofs.ServerShape.runOps cfg sid s0 ops1).1 ops2).2 = 0 :=
  (Proofs.ServerShape.C16_server_reads_fail_after_delivery cfg sid s0 h0 ops1 ops2 h1).1

/-- **A second request fails the RPC with InvalidArgument**: when the eager
    look-ahead finds another complete message, the call completes with
    InvalidArgument, nothing is delivered, and the stream is finished (close
    frame with InvalidArgument unless already closed). -/
theorem C16_second_request_fails (sid : Sid) (fuel : Nat) (s : SStream α) (p : PRead α) (m m2 : List α)
    (w : Nat) (q : List (DFrame α)) (cs' : List Nat)
    (hp : s.pread = some p) (hl : p.lookahead = some m)
    (hr : readLoop s.rcv.rwin s.rcv.queue p.rst = (w, q, cs', some (.msg m2))) :
    Proofs.ServerShape.delivered (s.resumeRead sid "" (fuel + 1)).2 = 0 ∧
    (s.resumeRead sid "" (fuel + 1)).1.closed = true ∧ (s.resumeRead sid "" (fuel + 1)).1.inTable = false :=
  let h := Proofs.ServerShape.C16_second_request_fails sid fuel s p m m2 w q cs' hp hl hr
  ⟨h.2.1, h.2.2.2.2.1, h.2.2.2.2.2.1⟩

/-- **At most one response is ever delivered** to the caller of a method with a
    non-streaming response, over every sequence of stream-level operations
    (frames of any kind from any peer, caller calls, context ends), from any
    state. -/
theorem C16_client_at_most_one (cfg : CCfg) (sid : Sid) (s0 : CStream α) (h0 : s0.ss = false)
    (ops : List (Proofs.ClientShape.COp α)) : (Proofs.ClientShape.runOps cfg sid s0 ops).2 ≤ 1 :=
  Proofs.ClientShape.C16_client_at_most_one cfg sid s0 h0 ops

/-- **Several responses never yield success**: when the look-ahead finds a
    second response, `RecvMsg` returns Internal, delivers nothing, and (if the
    RPC was still live) the terminal result becomes that Internal error and a
    cancel frame is sent. -/
theorem C16_second_response_fails (sid : Sid) (fuel : Nat) (s : CStream α) (p : PRead α) (m m2 : List α)
    (w : Nat) (q : List (DFrame α)) (cs' : List Nat)
    (hp : s.pread = some p) (hl : p.lookahead = some m)
    (hr : readLoop s.rcv.rwin s.rcv.queue p.rst = (w, q, cs', some (.msg m2))) :
    let a := CStream.afterRead sid (s.resumeRead sid (fuel + 1))
    Proofs.ClientShape.delivered a.2 = 0 ∧
    (∃ rest, a.2.dones = (sid, "recv", .status codeInternal) :: rest) ∧
    (s.done = none → a.1.done = some (.status (mkStatus codeInternal "Server sent multiple responses for non-server-stream method"))
      ∧ (sid, C2S.cancel) ∈ a.2.frames) := by
  have h := Proofs.ClientShape.C16_second_response_fails sid fuel s p m m2 w q cs' hp hl hr
  refine ⟨h.2.1.2.2.1, h.2.1.2.2.2, fun hd => ?_⟩
  have h3 := h.2.2.1 hd
  exact ⟨h3.1, by rw [h3.2.1]; simp⟩

/-- **A second send on a non-streaming request side is refused** with Internal
    and puts nothing on the wire. -/
theorem C16_client_second_send_refused (cfg : CCfg) (sid : Sid) (s : CStream α) (m : List α)
    (hcs : s.cs = false) (hn : s.numSent = 1) :
    s.onCall cfg sid (.send m) = (s, { dones := [(sid, "send", .status codeInternal)] }) := by
  simp [CStream.onCall, hcs, hn]

-- non-vacuity: server-stream method, second message after the first completes the look-ahead with an error
example :
    let s : SStream Nat := { cs := false, ss := true, unary := false, fc := true, rcv := RcvQ.init 10, win := 10, hstatus := .running }
    let s1 := (s.onFrame {} 1 (.msg 1 [7])).1
    let s2 := (s1.onFrame {} 1 (.msg 1 [8])).1
    ((s2.startRecv 1).2.dones.map (·.2.1)) = ["recv"] ∧ (s2.startRecv 1).1.closed = true := by
  decide

end Proofs.C16
