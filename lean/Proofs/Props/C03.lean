import Proofs.Lemmas.ServerLocal
import Proofs.Props.C15
import Proofs.Lemmas.ServerBound
import Proofs.Props.C09
import Proofs.Lemmas.ClientInv
import Proofs.Lemmas.Closed
/-!
  C03 — RPCs sharing a tunnel are independent; no head-of-line blocking.
  Locality, on the server and on the client endpoint: a stimulus addressed to
  RPC `sid` changes only that RPC's stream object and emits only frames /
  completions tagged `sid`; handler calls and ticks can never end the tunnel;
  with flow control the receive loop never blocks on a consumer.  Then two
  premises read off the sources (no blocking call under a lock of the receive
  loop, no carrier send from it), and the closed model of a whole tunnel over
  bounded carriers (`TunnelModel/Closed.lean`).
-/
namespace Proofs.C03
open TunnelModel.LFrame Proofs.ServerLocal

variable {α : Type}

/-- **Emission locality (frames).** A frame for a live stream makes the server
    emit frames and complete calls only for that stream. -/
theorem C03_frame_emits_only_own (cfg : SCfg) (s : Srv α) (sid : Sid) (f : C2S α) (st : SStream α)
    (hret : s.returned = none) (hnew : ∀ m md rev win, f ≠ .newStream m md rev win)
    (hst : s.getStream sid = some st) : Out.onlySid sid (s.onFrame cfg sid f).2 :=
  frame_local cfg s sid f st hret hnew hst

/-- **State locality (frames).** … and leaves every other stream object, the
    id high-water mark, the shutdown flag and the tunnel itself untouched. -/
theorem C03_frame_touches_only_own (cfg : SCfg) (s : Srv α) (sid : Sid) (f : C2S α) (st : SStream α)
    (hret : s.returned = none) (hnew : ∀ m md rev win, f ≠ .newStream m md rev win)
    (hst : s.getStream sid = some st) :
    (s.onFrame cfg sid f).1.returned = none ∧ (s.onFrame cfg sid f).1.lastSeen = s.lastSeen ∧
    (s.onFrame cfg sid f).1.closing = s.closing ∧
    (∀ e ∈ s.streams, e.1 ≠ sid → e ∈ (s.onFrame cfg sid f).1.streams) :=
  Proofs.C09.C09_stream_frame_local cfg s sid f st hret hnew hst

/-- **Handler calls are local and can never end the tunnel**: whatever a
    handler does (errors, second sends, late calls after the RPC finished). -/
theorem C03_call_local (cfg : SCfg) (s : Srv α) (sid : Sid) (c : HCall α) :
    Out.onlySid sid (s.onCall cfg sid c).2 ∧
    (s.onCall cfg sid c).1.returned = s.returned ∧ (s.onCall cfg sid c).1.lastSeen = s.lastSeen ∧
    (s.onCall cfg sid c).1.closing = s.closing ∧
    ∀ e ∈ s.streams, e.1 ≠ sid → e ∈ (s.onCall cfg sid c).1.streams :=
  ⟨call_local cfg s sid c, call_state_local cfg s sid c⟩

/-- **A refused or accepted `new_stream` only speaks for its own id**: unless it
    ends the tunnel (`hok`), every frame and completion it makes the server emit
    carries that id (the rejection reply — unknown or malformed method, shutdown,
    unsupported revision — is a close frame for that id). -/
theorem C03_new_stream_local (cfg : SCfg) (s : Srv α) (sid : Sid) (m : List Nat) (md : MD) (rev : Int) (win : Nat)
    (hret : s.returned = none) (hok : (s.onFrame cfg sid (.newStream m md rev win)).1.returned = none) :
    Out.onlySid sid (s.onFrame cfg sid (.newStream m md rev win)).2 :=
  newStream_local cfg s sid m md rev win hret hok

/-- **Deadline expiry never ends the tunnel** and only speaks for streams of
    this endpoint. -/
theorem C03_tick_local (s : Srv α) (d : Nat) :
    (s.tick d).1.returned = s.returned ∧
    (∀ f ∈ (s.tick d).2.frames, f.1 ∈ s.streams.map (·.1)) ∧
    (∀ x ∈ (s.tick d).2.dones, x.1 ∈ s.streams.map (·.1)) :=
  ⟨tick_never_ends_tunnel s d, tick_emits_known s d⟩

/-- **No head-of-line blocking with flow control (server receive loop).** For
    every stimulus history, processing a frame for a flow-controlled stream
    never leaves the loop waiting for that stream's consumer. -/
theorem C03_no_hol_server (cfg : SCfg) (xs : List (SStim α)) :
    ∀ e ∈ (Srv.run cfg ({} : Srv α) xs).1.streams, e.2.fc = true → e.2.unsupported = false :=
  Proofs.ServerBound.fc_never_unsupported cfg xs

/-- **Client: a frame for a live RPC touches and speaks for that RPC only**, and
    never ends the channel. -/
theorem C03_client_frame_local (cfg : CCfg) (c : Cli α) (sid : Sid) (f : S2C α) (st : CStream α)
    (hfin : c.finished = none) (hph : c.phase = .running) (hst : c.getStream sid = some st) :
    Proofs.ClientInv.COut.onlySid sid (c.onFrame cfg sid f).2 ∧ (c.onFrame cfg sid f).1.finished = none ∧
    (c.onFrame cfg sid f).1.lastStreamID = c.lastStreamID ∧
    ∀ e ∈ c.streams, e.1 ≠ sid → e ∈ (c.onFrame cfg sid f).1.streams :=
  Proofs.ClientInv.client_frame_local cfg c sid f st hfin hph hst

/-- **Client: an RPC's own calls — cancellation included — never end the
    channel or touch another RPC.** -/
theorem C03_client_call_local (cfg : CCfg) (c : Cli α) (sid : Sid) (call : CCall α) :
    Proofs.ClientInv.COut.onlySid sid (c.onCall cfg sid call).2 ∧ (c.onCall cfg sid call).1.finished = c.finished ∧
    (c.onCall cfg sid call).1.lastStreamID = c.lastStreamID ∧
    ∀ e ∈ c.streams, e.1 ≠ sid → e ∈ (c.onCall cfg sid call).1.streams :=
  Proofs.ClientInv.client_call_local cfg c sid call

/-- **No head-of-line blocking with flow control (client receive loop).** -/
theorem C03_no_hol_client (cfg : CCfg) (xs : List (CStim α)) :
    ∀ e ∈ (Cli.run cfg (Cli.start cfg) xs).1.streams, e.2.fc = true → e.2.unsupported = false :=
  Proofs.ClientInv.client_fc_never_unsupported cfg xs

/-- **Code-level premise of "the receive loop never waits on one RPC"**
    (regenerated from the sources on every run): no potentially blocking call
    (carrier `Send`, window-update / send callback, user callback) is made
    while holding a mutex the receive loop acquires when it dispatches a frame. -/
theorem C03_no_blocking_call_under_loop_lock :
    (Proofs.C15.blockingAllowed.filter Proofs.C15.loopLocks.contains) = [] ∧
    (TunnelModel.Generated.accessTable.filter (fun a => a.how == "call" &&
        (match Proofs.C15.protOf a with | some (.callUnder _) => true | _ => false) &&
        a.held.any Proofs.C15.loopLocks.contains)) = [] :=
  Proofs.C15.C15_blocking_calls_hold_no_loop_lock

/-- **Bounded transport buffering cannot stall a receive loop** (code-level
    premise, regenerated from the sources on every run): no function that can
    run on a receive-loop goroutine performs a carrier `Send` or invokes a
    callback that does — close, cancel and rejection frames are sent from
    goroutines of their own, window updates by the reading application — so the
    loops always return to `Recv` and keep draining the carrier however full
    the opposite direction is. -/
theorem C03_receive_loops_never_send :
    Proofs.C15.loopSendViolations TunnelModel.Generated.accessTable = [] ∧
    Proofs.C15.loopRootIds.length = Proofs.C15.loopRoots.length :=
  Proofs.C15.C15_receive_loops_never_send

open TunnelModel.Closed Proofs.Closed in
/-- **A stalled RPC does not hold up the others, even over carriers of one
    frame.**  Any number of half-streams in both directions share two carriers
    of capacity `K ≥ 1`; any subset of the applications never reads.  In every
    maximal execution — whatever the schedule — every half-stream whose
    application reads has delivered every byte submitted on it and has its full
    window back. -/
theorem C03_stalled_streams_do_not_block_others {K W cm : Nat} (hK : 0 < K) (hW : 0 < W) {cfg : Cfg}
    {as : List Act} {s : St} (hr : run K cm (init W cfg) as = some s) (hmax : Stuck K cm s)
    {i : Nat} {d : Dir} {msgs : List Nat} (hc : cfg[i]? = some (d, true, msgs)) :
    ∃ h, s.halves[i]? = some h ∧ h.delivered = msgs.sum ∧ h.queue = [] ∧ h.win = W := by
  obtain ⟨h, hi, _, _, _, hw, _⟩ := completes hK hW hr hmax hc
  obtain ⟨e1, _, _, _, e5, e6⟩ := hw rfl
  exact ⟨h, hi, e1, e5, e6⟩

open TunnelModel.Closed Proofs.Closed in
/-- ... and while it still has something to do, the system can move. -/
theorem C03_no_deadlock_bounded {K W cm : Nat} (hK : 0 < K) (hW : 0 < W) {cfg : Cfg} {s : St}
    (hr : Reachable K W cm cfg s) {i : Nat} {h : Half} (hi : s.halves[i]? = some h)
    (hw : h.willing = true) (hu : Unfinished s i h) : ∃ a, (step K cm s a).isSome = true :=
  no_deadlock hK hW hr hi hw hu

end Proofs.C03
