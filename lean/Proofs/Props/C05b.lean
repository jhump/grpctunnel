import Proofs.Lemmas.Closed
import Proofs.Lemmas.Refine
import Proofs.Facts
/-!
  C05, second part — "no combination of stalled streams and bounded transport
  buffering can deadlock a tunnel; streams of unbounded total volume complete
  under any reader pacing".

  Property theorems over the CLOSED frame-granularity model of a whole tunnel
  (`TunnelModel/Closed.lean`): any number of half-streams in both directions
  share two FIFO carriers of capacity `K ≥ 1` frames (a carrier `Send` blocks
  while its direction is full); any subset of the receiving applications is
  stalled forever; any message sizes; every schedule (`List Act`, any length).
  `Props/C05.lean` has the atomic-action model of ONE half-stream (no lost
  wake-up inside `send` / `updateWindow` / `dequeue`) and the code-level
  premises of this model: the receive loops never send and never wait for an
  application (`C05_receive_loops_never_send`,
  `C05_no_blocking_call_under_loop_lock`).
-/
namespace Proofs.C05b
open TunnelModel.Closed Proofs.Closed

/-- **Bounded carriers, bounded receivers, conserved credit**: in every
    reachable state neither carrier holds more than `K` frames, and for every
    half-stream window + data in flight + unread + credit owed + credit in
    flight is exactly `W`; so no receiver ever holds more than one window. -/
theorem C05_closed_invariant {K W cm : Nat} {cfg : Cfg} {s : St} (h : Reachable K W cm cfg s) :
    (s.ab.length ≤ K ∧ s.ba.length ≤ K) ∧
    (∀ (i : Nat) (h : Half), s.halves[i]? = some h →
      h.win + dataFl i (dataWire h.dir s) + h.queue.sum + h.pending + credFl i (credWire h.dir s) = W) ∧
    (∀ (i : Nat) (h : Half), s.halves[i]? = some h → h.queue.sum ≤ W) :=
  ⟨(inv_reachable h).carriers, (inv_reachable h).conservation, fun _ _ hi => (inv_reachable h).receiver_bounded hi⟩

/-- **A receive loop is never blocked**: in every state it can take the next
    frame off its carrier, however full the opposite direction is and whatever
    the applications do. -/
theorem C05_loop_never_blocked (K cm : Nat) (s : St) :
    (s.ab ≠ [] → (step K cm s .loopB).isSome = true) ∧ (s.ba ≠ [] → (step K cm s .loopA).isSome = true) :=
  loop_never_blocked K cm s

/-- **The only states in which nothing can move**: both carriers empty, no
    window update owed, every reading application has an empty queue, every
    sender with something left has an exhausted window. -/
theorem C05_stuck_iff {K cm : Nat} (hK : 0 < K) (s : St) : Stuck K cm s ↔ Quiet s := stuck_iff hK s

/-- **No deadlock**: while a half-stream whose application reads has anything
    left to do — bytes or an empty message to send, a frame in flight, a chunk
    unread, credit owed — some action of the system is enabled, whatever the
    other half-streams do, however many of them are stalled, however small the
    carriers are. -/
theorem C05_no_deadlock {K W cm : Nat} (hK : 0 < K) (hW : 0 < W) {cfg : Cfg} {s : St}
    (hr : Reachable K W cm cfg s) {i : Nat} {h : Half} (hi : s.halves[i]? = some h)
    (hw : h.willing = true) (hu : Unfinished s i h) : ∃ a, (step K cm s a).isSome = true :=
  no_deadlock hK hW hr hi hw hu

/-- **Every execution is finite** (at most five actions per byte and per message). -/
theorem C05_closed_terminates {K W cm : Nat} (hcm : 0 < cm) (cfg : Cfg) (as : List Act) {s : St}
    (hr : run K cm (init W cfg) as = some s) : as.length ≤ workBound cfg :=
  terminates hcm cfg as hr

/-- **Completion, stream by stream.**  Every maximal schedule leaves every
    half-stream in the same, explicitly known situation: one whose application
    reads has delivered every byte and has its whole window back, WHATEVER the
    others do; one whose application is stalled has its sender parked behind
    exactly `min total W` unread bytes — blocked only behind a full window. -/
theorem C05_closed_completes {K W cm : Nat} (hK : 0 < K) (hW : 0 < W) {cfg : Cfg} {as : List Act} {s : St}
    (hr : run K cm (init W cfg) as = some s) (hmax : Stuck K cm s)
    {i : Nat} {d : Dir} {willing : Bool} {msgs : List Nat} (hc : cfg[i]? = some (d, willing, msgs)) :
    ∃ h, s.halves[i]? = some h ∧ h.dir = d ∧ h.willing = willing ∧ h.pending = 0 ∧
      (willing = true →
        h.delivered = msgs.sum ∧ h.sent = msgs.sum ∧ h.remaining = 0 ∧ h.todo = [] ∧ h.queue = [] ∧
        h.win = W) ∧
      (willing = false →
        h.delivered = 0 ∧ h.sent = h.queue.sum ∧ h.sent ≤ W ∧ h.sent = min msgs.sum W ∧
        h.win + h.queue.sum = W ∧ (0 < h.remaining → h.queue.sum = W) ∧
        (h.todo ≠ [] → h.queue.sum = W ∧ h.win = 0)) :=
  completes hK hW hr hmax hc

/-- **The outcome does not depend on the schedule** and is known in closed
    form; the executable scheduler `runToEnd` (what the model driver runs for
    the bounded-carrier world) computes it. -/
theorem C05_outcome {K W cm : Nat} (hK : 0 < K) (hW : 0 < W) (hcm : 0 < cm) {cfg : Cfg} {as : List Act} {s : St}
    (hr : run K cm (init W cfg) as = some s) (hmax : Stuck K cm s) :
    summary s = expected W cfg ∧ summary s = summary (runToEnd K cm (workBound cfg) (init W cfg)) :=
  ⟨outcome_closed_form hK hW hr hmax, runToEnd_is_the_answer hK hW hcm hr hmax⟩

theorem C05_outcome_schedule_independent {K W cm : Nat} (hK : 0 < K) (hW : 0 < W) {cfg : Cfg}
    {as₁ as₂ : List Act} {s₁ s₂ : St}
    (hr₁ : run K cm (init W cfg) as₁ = some s₁) (hmax₁ : Stuck K cm s₁)
    (hr₂ : run K cm (init W cfg) as₂ = some s₂) (hmax₂ : Stuck K cm s₂) :
    summary s₁ = summary s₂ :=
  outcome_schedule_independent hK hK hW hr₁ hmax₁ hr₂ hmax₂

/-- with the constants regenerated from the code (64 KiB window, 16 KiB chunks), carriers of ONE frame -/
theorem C05_outcome_code {cfg : Cfg} {as : List Act} {s : St}
    (hr : run 1 TunnelModel.Generated.chunkMax (init TunnelModel.Generated.initialWindowSize cfg) as = some s)
    (hmax : Stuck 1 TunnelModel.Generated.chunkMax s) :
    summary s = expected TunnelModel.Generated.initialWindowSize cfg :=
  outcome_closed_form (by decide) (by decide) hr hmax

/-- **Why "receive loops never send" matters**: in the variant in which a
    receive loop must itself put the window update on the opposite carrier,
    two reading applications deadlock with carriers of one frame. -/
theorem C05_loop_that_sends_deadlocks :
    Faulty.run 1 2 (init 4 FaultyExample.cfg) FaultyExample.sched = some FaultyExample.dead ∧
    (∀ a, Faulty.step 1 2 FaultyExample.dead a = none) ∧
    FaultyExample.dead.halves.map (fun h => (h.willing, h.delivered)) = [(true, 0), (true, 0)] :=
  ⟨FaultyExample.reachable, FaultyExample.deadlock, FaultyExample.unfinished.1⟩

open TunnelModel in
/-- **Stuttering simulation.**  Every execution of the atomic-action model of
    one half-stream (`FlowStep`: loads, compare-and-swaps, parks, wake-ups,
    signals ...) maps, action by action, onto an execution of the closed
    frame-level model with one reading half-stream: each atomic action is
    either invisible at frame level or IS one frame-level action (`send`
    commits at the successful CAS, `loopB` at `deliver`, `read` at the pop,
    `credit` at `rCredit`, `loopA` at `uAdd`).  So the frame-level actions are
    a sound abstraction of what the code does atom by atom, for every window,
    chunk size, workload and schedule (carriers large enough never to fill). -/
theorem C05_atomic_refines_closed {K W cm : Nat} (hcm : 0 < cm) {msgs : List Nat}
    (hK : 5 * (msgs.sum + msgs.length) < K) {as : List FlowStep.Act} {s : FlowStep.St}
    (hr : FlowStep.run cm (FlowStep.init W msgs) as = some s) :
    Closed.run K cm (Closed.init W [(.up, true, msgs)]) (Proofs.Refine.absTrace cm (FlowStep.init W msgs) as)
      = some (Proofs.Refine.abs s) ∧
    (Proofs.Refine.absTrace cm (FlowStep.init W msgs) as).length ≤ as.length := by
  refine ⟨Proofs.Refine.refines_run_absTrace hcm hK hr, ?_⟩
  exact Proofs.Refine.absTrace_length cm as _

open TunnelModel in
/-- one atomic step from a reachable state: a stutter or exactly one frame-level action -/
theorem C05_atomic_step_refines {K W cm : Nat} (hcm : 0 < cm) {msgs : List Nat}
    (hK : 5 * (msgs.sum + msgs.length) < K) {as : List FlowStep.Act} {s s' : FlowStep.St} {a : FlowStep.Act}
    (hr : FlowStep.run cm (FlowStep.init W msgs) as = some s) (hs : FlowStep.step cm s a = some s') :
    Proofs.Refine.abs s' = Proofs.Refine.abs s ∨ ∃ b, Closed.step K cm (Proofs.Refine.abs s) b = some (Proofs.Refine.abs s') :=
  Proofs.Refine.refines_step_reachable hcm hK hr hs

open TunnelModel in
/-- a completed atomic-level execution is a maximal frame-level execution, and the two models agree on its outcome -/
theorem C05_final_agrees {W cm : Nat} (hW : 0 < W) (hcm : 0 < cm) {msgs : List Nat} {as : List FlowStep.Act} {s : FlowStep.St}
    (hr : FlowStep.run cm (FlowStep.init W msgs) as = some s) (hf : s.final = true) :
    (∀ K, Closed.Stuck K cm (Proofs.Refine.abs s)) ∧
    (Proofs.Refine.abs s).halves.map (·.delivered) = [msgs.sum] ∧ s.dequeued = msgs.sum ∧ s.sent = msgs.sum ∧ s.win = W :=
  ⟨fun _ => Proofs.Refine.final_maps_to_stuck hf, Proofs.Refine.final_outcome hW hcm hr hf⟩

-- non-vacuity: K = 1, W = 4, cm = 2; a stalled half-stream with 10 bytes, a reading one with
-- messages 5, 0, 3 and a reading one in the other direction with 6 bytes
example : summary (runToEnd 1 2 (workBound Example.cfg) (init 4 Example.cfg)) = [(4, 0, 4, 6), (8, 8, 0, 0), (6, 6, 0, 0)] := by
  rw [Example.runToEnd_eq]; decide

end Proofs.C05b
