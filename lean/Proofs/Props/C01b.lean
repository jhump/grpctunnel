import Proofs.Lemmas.Complete
/-!
  C01, completeness half: "... and is COMPLETE whenever the receiver is told the
  stream ended OK".  (`Proofs/Props/C01.lean` holds the prefix / no-fabrication
  half; this file is separate because `Proofs/Lemmas/Complete.lean` builds on that one.)

  The two endpoint models are composed through a FIFO carrier that has
  delivered everything (`fed frames = emitted frames`).  "Told OK" is the
  receiver's own observation — a `RecvMsg` that returned end-of-stream — and
  the theorems DERIVE from it that the peer ended the stream normally; nothing
  about the peer's return is assumed.  Hypotheses are the gRPC caller / handler
  contract (one send at a time and none after a failed one, one receive at a
  time, no call after the handler returned, no `SendMsg` after `CloseSend`) and
  "no send failed".  `Proofs/Lemmas/Complete.lean` has kernel-checked
  counter-examples for `sNoCallAfterRet` and `sAnyFailed = false`
  (`C01_response_complete`) and for `noWinExceed` and `hss`
  (`C01_response_ok_partial`); the other hypotheses (`legalSends`, `legalRecvsC/S`,
  `legalCloseSend`, `cAnyFailed = false`, the revision-zero alternative, `chunkMax > 0`,
  the freshness of the two streams) have none there.
-/
namespace Proofs.C01
open TunnelModel.LFrame TunnelModel.Framing Proofs.Delivery Proofs.Emission Proofs.Complete

variable {α : Type}

/-- **C01, responses are complete when the caller is told OK.**  If some
    `RecvMsg` of the caller returned end-of-stream, the caller has received
    exactly the messages the handler submitted: all of them, in order, once. -/
theorem C01_response_complete (ccfg : CCfg) (scfg : SCfg) (hcm : 0 < scfg.chunkMax) (sid : Sid)
    (c0 : CStream α) (s0 : SStream α) (hs0 : SFreshR s0) (hc0 : CFresh c0)
    (cevs : List (CEv α)) (sevs : List (SEv α))
    (hsend : SStream.legalSends scfg sid s0 false sevs = true)
    (hnc : sNoCallAfterRet sevs = true)
    (hnf : Emission.sAnyFailed (SStream.runEv scfg sid s0 sevs).2 = false)
    (hrecv : legalRecvsC ccfg sid c0 cevs = true)
    (hfu : c0.fc = true ∨ (CStream.runEv ccfg sid c0 cevs).1.unsupported = false)
    (hfifo : fedFramesC cevs = emittedFramesS (SStream.runEv scfg sid s0 sevs).2)
    (heof : sawRecvEof (CStream.runEv ccfg sid c0 cevs).2 = true) :
    COut.deliveredMsgs (CStream.runEv ccfg sid c0 cevs).2 = SEv.submitted sevs :=
  Proofs.Complete.C01_response_complete ccfg scfg hcm sid c0 s0 hs0 hc0 cevs sevs hsend hnc hnf hrecv hfu hfifo heof

/-- **C01, requests are complete when the handler is told end-of-requests.** -/
theorem C01_request_complete (ccfg : CCfg) (scfg : SCfg) (hcm : 0 < ccfg.chunkMax) (sid : Sid)
    (c0 : CStream α) (s0 : SStream α)
    (hc0 : c0.psend = none) (hc0h : c0.halfClosed = false) (hs0 : Fresh s0)
    (cevs : List (CEv α)) (sevs : List (SEv α))
    (hsend : CStream.legalSends ccfg sid c0 false cevs = true)
    (hcs : Conformance.legalCloseSend ccfg sid c0 false cevs = true)
    (hnf : Emission.cAnyFailed (CStream.runEv ccfg sid c0 cevs).2 = false)
    (hrecv : legalRecvsS scfg sid s0 sevs = true)
    (hfu : s0.fc = true ∨ (SStream.runEv scfg sid s0 sevs).1.unsupported = false)
    (hfifo : fedFramesS sevs = emittedFramesC (CStream.runEv ccfg sid c0 cevs).2)
    (heof : sawRecvEofS (SStream.runEv scfg sid s0 sevs).2 = true) :
    Out.deliveredMsgs (SStream.runEv scfg sid s0 sevs).2 = CEv.submitted cevs :=
  Proofs.Complete.C01_request_complete ccfg scfg hcm sid c0 s0 hc0 hc0h hs0 cevs sevs hsend hcs hnf hrecv hfu hfifo heof

/-- **The caller IS told OK** when the handler ended the stream OK and the
    caller did not end the RPC itself (`_partial`: two more hypotheses tie the
    independently modelled ends together — the sender respects the caller's
    window, and both ends agree on whether the response is streamed; each is
    shown necessary in `Complete.lean`). -/
theorem C01_response_ok_partial (ccfg : CCfg) (scfg : SCfg) (hcm : 0 < scfg.chunkMax) (sid : Sid)
    (c0 : CStream α) (s0 : SStream α)
    (hs0 : s0.psend = none) (hs0f : s0.finishAfterSend = false) (hc0 : CFresh c0)
    (cevs : List (CEv α)) (sevs : List (SEv α))
    (hsend : SStream.legalSends scfg sid s0 false sevs = true) (hreply : Emission.sReplyIsLast sevs = true)
    (hok : ∃ f ∈ emittedFramesS (SStream.runEv scfg sid s0 sevs).2, isCloseOK f = true)
    (hrecv : legalRecvsC ccfg sid c0 cevs = true)
    (hfu : c0.fc = true ∨ (CStream.runEv ccfg sid c0 cevs).1.unsupported = false)
    (hfifo : fedFramesC cevs = emittedFramesS (SStream.runEv scfg sid s0 sevs).2)
    (hnocancel : cNoCancel cevs = true) (hwin : noWinExceed ccfg sid c0 cevs = true)
    (hss : c0.ss = false → (SEv.submitted sevs).length ≤ 1) :
    (CStream.runEv ccfg sid c0 cevs).1.done = some .eof :=
  Proofs.Complete.C01_response_ok_partial ccfg scfg hcm sid c0 s0 hs0 hs0f hc0 cevs sevs hsend hreply hok hrecv hfu hfifo
    hnocancel hwin hss

end Proofs.C01
