import TunnelModel.Generated.Locks
import Proofs.Lemmas.LockEval
import Proofs.Lemmas.Lockset
/-!
  C15 — data-race freedom and thread safety (PARTIAL: lock discipline,
  publication discipline and lock-order acyclicity of the code as extracted
  from /repo's sources on every run; the Go memory model itself and the
  soundness of the syntactic extraction are trusted, see DESIGN.md).

  `TunnelModel.Generated.accessTable` lists every syntactic access to every
  field of the shared structs with the mutexes held there (intra- and
  inter-procedurally: a helper called only with a lock held inherits it).  The
  hand-written `protections` table (`Proofs/Lemmas/LockTable.lean`) says how each
  field is protected; `C15_discipline` is the obligation that every extracted
  access obeys it.
  A removed or narrowed lock, a new unlocked access, a new field without a
  protection, or a write outside the constructor breaks the `decide`.
-/
namespace Proofs.C15
open TunnelModel.Generated

/-- **Lock / publication discipline of the current sources.** -/
theorem C15_discipline : violations accessTable = [] := by
  rw [violations_eq_key]; decide +kernel

/-- **No potentially blocking call is made while holding a lock a receive loop
    needs**: every carrier `Send`/`Recv`, every window-update / send callback
    and every user callback in the current sources is invoked holding only
    locks from its `callUnder` list (`C15_discipline`), and none of those lists
    contains a receive-loop lock.  This is the code-level premise of
    `C09_loop_never_blocks_fc` / `C03_no_hol_server` / `C03_no_hol_client` /
    C05's "a stalled stream cannot stall the tunnel": `accept` can always take the locks it needs promptly. -/
theorem C15_blocking_calls_hold_no_loop_lock :
    (blockingAllowed.filter loopLocks.contains) = [] ∧
    (accessTable.filter (fun a => a.how == "call" &&
        (match protOf a with | some (.callUnder _) => true | _ => false) &&
        a.held.any loopLocks.contains)) = [] := by
  simp only [protOf_eq_key]; decide +kernel

/-- **The receive loops never perform a carrier `Send`** (nor invoke a callback
    that does): every such call reachable from `serve` / `recvLoop` on the
    loop's own goroutine would let a full carrier stall the loop, and with it
    every stream of the tunnel.  Close / cancel / rejection frames and window
    updates are sent from goroutines of their own or by the application's
    goroutines.  Reachability is computed in Lean over the call edges
    regenerated from the sources (interface calls resolved by name). -/
theorem C15_receive_loops_never_send :
    loopSendViolations accessTable = [] ∧ loopRootIds.length = loopRoots.length := by decide +kernel

/-- **Nobody waits for other goroutines with a mutex held**: `Stop` /
    `GracefulStop` wait for the `Serve` calls (`wg.Wait`) only after releasing
    `ReverseTunnelServer.mu`, which every tunnel of the server needs to decide
    whether to refuse a new RPC (`isClosing`). -/
theorem C15_waits_hold_no_lock : lockedWaitViolations accessTable = [] := by decide +kernel

/-- **No function splits its work on lock-protected data over two critical
    sections of the same lock** (with a write in one of them), and nothing is
    written under a read lock.  The discipline above only says that each access
    holds the lock; it cannot see a check made in one critical section and acted
    upon in a later one (double-checked locking without the second check, a lock
    narrowed around a slow call): the state may have changed in between.  In
    the current sources every function that takes a mutex reads and writes the
    data it protects inside ONE critical section, so every such function is
    atomic with respect to that lock.  Regenerated from the sources on every
    run (`lockSections`: one id per `Lock`/`RLock` statement of a function). -/
theorem C15_one_critical_section_per_function :
    splitSections lockSections = [] ∧ writesUnderRLock lockSections = [] := by
  rw [splitSections_eq_key, writesUnderRLock_eq_key]; decide +kernel

/-- **No wake-up needs a lock its sleeper holds**: wherever a function waits on a
    channel with a mutex held (the flow-controlled sender on `windowUpdates`, the
    revision-zero receiver's `accept` on `closed`, `CloseSend` on `doneSignal`),
    no function closes or sends on that channel while holding that mutex.  In
    particular the revision-zero receiver's `close()` closes `closed` before it
    takes `ingestMu` — the code-level premise of "finishing a stream releases a
    receive loop parked in the one-slot hand-off". -/
theorem C15_wakeups_need_no_sleeper_lock :
    wakeupViolations accessTable = [] ∧ (lockedChanWaits accessTable).length = 3 := by decide +kernel

/-- **The lock-order graph of the current sources has no cycle** (so no
    deadlock by lock inversion among the package's own mutexes). -/
theorem C15_lock_order_acyclic : acyclic lockOrderEdges = true := by decide +kernel

open TunnelModel.Lockset in
/-- **Lockset theorem.**  In every well-formed execution (mutual exclusion
    respected), two accesses by different goroutines made while each holds a
    common mutex are ordered by happens-before. -/
theorem C15_hb_of_common_lock (tr : Trace) (hwf : WF tr) (i j : Nat) (hij : i < j)
    (hj : j < tr.length) (t u : Tid) (l : Lck)
    (hi : (tr[i]?).map Ev.tid = some t) (hju : (tr[j]?).map Ev.tid = some u)
    (htu : t ≠ u) (hhi : holds tr i t l) (hhj : holds tr j u l) : HB tr i j :=
  Proofs.Lockset.hb_of_common_lock tr hwf i j hij t u l hi hju htu hhi hhj

open TunnelModel.Lockset in
/-- **Publication theorem** (`.published` rows): a write sequenced before
    `close(c)` happens before a read sequenced after a receive that saw the close. -/
theorem C15_hb_of_publication (tr : Trace) (i k m j : Nat) (t u : Tid) (c : Chn)
    (hik : i < k) (hkm : k < m) (hmj : m < j) (hj : j < tr.length)
    (hi : (tr[i]?).map Ev.tid = some t) (hk : tr[k]? = some (.close t c))
    (hm : tr[m]? = some (.recv u c)) (hju : (tr[j]?).map Ev.tid = some u) :
    HB tr i j :=
  Proofs.Lockset.hb_of_publication tr i k m j t u c hik hkm hmj hi hk hm hju

open TunnelModel.Lockset in
/-- **Construction theorem** (`.init` rows): what a goroutine wrote before the
    `go` statement happens before everything the started goroutine does. -/
theorem C15_hb_of_go (tr : Trace) (hwf : WF tr) (i k j : Nat) (t u : Tid) (hik : i < k)
    (hi : (tr[i]?).map Ev.tid = some t) (hk : tr[k]? = some (.go t u))
    (hju : (tr[j]?).map Ev.tid = some u) : HB tr i j :=
  Proofs.Lockset.hb_of_go_wf tr hwf i k j t u hik hi hk hju

open TunnelModel.Lockset in
/-- **Discipline ⇒ no data race**: if one mutex is held at every access to `x`
    (what `C15_discipline` establishes syntactically for every `.mutex` row),
    every two conflicting accesses to `x` in every well-formed execution are
    ordered by happens-before. -/
theorem C15_race_free_of_discipline (tr : Trace) (hwf : WF tr) (x : Var)
    (hp : Protected tr x) :
    ∀ i j, i ≠ j → conflict tr i j x → HB tr i j ∨ HB tr j i :=
  Proofs.Lockset.race_free_of_discipline tr hwf x hp

end Proofs.C15
