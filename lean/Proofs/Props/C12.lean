import Proofs.Lemmas.Registry
import Proofs.Lemmas.Waiters
import Proofs.Lemmas.RegAtomic
/-!
  C12 — the reverse-tunnel registry always matches the set of open reverse
  tunnels.  API-granular model (`TunnelModel/Lifecycle.lean`,
  `TunnelModel/RoundRobin.lean`); the specification state is the list `os` of
  open tunnels with their affinity keys in opening order.
-/
namespace Proofs.C12
open TunnelModel.RoundRobin TunnelModel.Lifecycle Proofs.Registry

/-- **Exactness.** After every history of opens (fresh tunnel ids), closes
    (of open or unknown tunnels), and routed picks, the registry represents
    exactly the open set: global list = open tunnels in order, each key's pool =
    the open tunnels with that key, every readiness latch closed iff its pool
    is non-empty. -/
theorem C12_exact (ops : List ROp) (hl : legal ops) : RInv (runReg ops) (runSpec ops) :=
  Proofs.Registry.C12_exact ops hl

/-- AllReverseTunnels is exactly the open set, in opening order -/
theorem C12_all (r : Registry) (os : OpenSet) (h : RInv r os) : r.all = os.map (·.1) := h.all_eq

/-- **Routing.** An RPC is only ever routed to an open tunnel, and through
    `KeyAsChannel k` only to one whose affinity key is `k`; it is refused
    (no tunnel) exactly when there is none. -/
theorem C12_routed_open (r : Registry) (os : OpenSet) (h : RInv r os) (t : Nat)
    (hp : r.pickAll.2 = some t) : t ∈ os.map (·.1) := h.pickAll_sound hp

theorem C12_routed_right_key (r : Registry) (os : OpenSet) (h : RInv r os) (k t : Nat)
    (hp : (r.pickKey k).2 = some t) : (t, k) ∈ os := h.pickKey_sound hp

theorem C12_unavailable_iff (r : Registry) (os : OpenSet) (h : RInv r os) (k : Nat) :
    (r.pickAll.2 = none ↔ os = []) ∧ ((r.pickKey k).2 = none ↔ os.filter (·.2 = k) = []) :=
  ⟨h.pickAll_none_iff, h.pickKey_none_iff k⟩

/-- **Ready / WaitForReady reflect whether the set is non-empty.** -/
theorem C12_ready (r : Registry) (os : OpenSet) (h : RInv r os) (k : Nat) :
    (r.readyAll = true ↔ os ≠ []) ∧ (r.readyKey k = true ↔ os.filter (·.2 = k) ≠ []) ∧
    (r.waitBlocksAll = true ↔ os = []) ∧ (r.waitBlocksKey k = true ↔ os.filter (·.2 = k) = []) :=
  ⟨h.readyAll_iff, h.readyKey_iff k, h.waitBlocksAll_iff, h.waitBlocksKey_iff k⟩

/-- **Round robin.** With a stable set of `n` tunnels, any `n` consecutive
    RPCs through one pooled channel use each tunnel exactly once — for EVERY
    value of the cursor (cursors beyond the end occur after removals). -/
theorem C12_round_robin (p : Pool) (hn : 0 < p.chans.length) :
    ((p.picks p.chans.length).2).Perm (p.chans.map (fun e => some e.1)) :=
  round_robin_perm p

/-- **No tunnel starves**: every registered tunnel is used within any `n`
    consecutive RPCs, whatever the cursor. -/
theorem C12_no_starvation (p : Pool) (hn : 0 < p.chans.length) (e : Nat × Nat) (he : e ∈ p.chans) :
    some e.1 ∈ (p.picks p.chans.length).2 :=
  (C12_round_robin p hn).mem_iff.mpr (List.mem_map.mpr ⟨e, he, rfl⟩)

/-- **No tunnel is used twice in a round**: with distinct tunnels, `n`
    consecutive picks are pairwise different. -/
theorem C12_no_repeat_in_round (p : Pool) (hn : 0 < p.chans.length)
    (hd : (p.chans.map (·.1)).Nodup) : ((p.picks p.chans.length).2).Nodup := by
  refine (C12_round_robin p hn).nodup_iff.mpr ?_
  have : p.chans.map (fun e => some e.1) = (p.chans.map (·.1)).map some := by simp
  rw [this]
  exact List.Pairwise.map some (fun _ _ h hs => h (Option.some.inj hs)) hd

/-- a pick never returns anything but a registered tunnel, and returns nothing
    only when there is none -/
theorem C12_pick_registered (p : Pool) (t : Nat) (h : p.pick.2 = some t) : t ∈ p.all := by
  obtain ⟨e, he, ht⟩ := pick_some_mem p t h
  exact List.mem_map.mpr ⟨e, he, ht⟩

theorem C12_round_robin_key (r : Registry) (os : OpenSet) (h : RInv r os) (k : Nat)
    (hn : 0 < (os.filter (·.2 = k)).length) :
    ((picksKey r k (os.filter (·.2 = k)).length).2).Perm ((os.filter (·.2 = k)).map (fun e => some e.1)) :=
  round_robin_key h k

theorem C12_round_robin_all (r : Registry) (os : OpenSet) (h : RInv r os) (hn : 0 < os.length) :
    ((picksAll r os.length).2).Perm (os.map (fun e => some e.1)) :=
  round_robin_all h

-- non-vacuity: two tunnels with key 1, one with key 2; routing by key 1 alternates between the two
example :
    let r := ((Registry.open {} 10 1).open 11 2).open 12 1
    ((r.pickKey 1).2, ((r.pickKey 1).1.pickKey 1).2, r.all) = (some 12, some 10, [10, 11, 12]) := by decide +kernel

/-! ### WaitForReady: no lost wake-up (model with the identity of the `avail` channel:
TunnelModel/Waiters.lean; it refines to the `latchClosed` abstraction of `Pool`) -/

open TunnelModel.Waiters in
/-- **WaitForReady reflects whether the set is non-empty.**  For every sequence
    of adds, removes (redundant ones included, as the code performs them) and
    arriving waiters: whenever a tunnel is registered no caller is parked in
    `WaitForReady`; a parked caller waits on the CURRENT `avail` channel of an
    empty registry, so the next `add` releases it. -/
theorem C12_no_lost_wakeup (ops : List Op) :
    ((run ops).ready → ∀ w, ¬ (run ops).parked w) ∧
    (∀ w g, (w, g) ∈ (run ops).waiters → g ∉ (run ops).closedGens →
      g = (run ops).gen ∧ (run ops).chans = []) ∧
    (∀ t w, ¬ (run (ops ++ [Op.add t])).parked w) :=
  ⟨Proofs.Waiters.no_lost_wakeup ops, Proofs.Waiters.parked_on_current ops,
   fun t w => Proofs.Waiters.after_add_none_parked ops t w⟩

open TunnelModel.Waiters in
/-- a caller entering `WaitForReady` passes at once iff a tunnel is registered,
    and parks iff none is -/
theorem C12_wait_iff_ready (ops : List Op) (w : Nat) :
    ((run ops).waitPasses ↔ (run ops).ready) ∧
    ((run (ops ++ [Op.wait w])).parked w ↔ ¬ (run ops).ready) :=
  ⟨Proofs.Waiters.wait_returns_iff ops, Proofs.Waiters.wait_parks_iff ops w⟩

open TunnelModel.Waiters in
/-- `close(c.avail)` in `add` never hits a closed channel (no panic), and the
    latch is closed exactly while tunnels are registered -/
theorem C12_latch (ops : List Op) :
    ((run ops).gen ∈ (run ops).closedGens ↔ (run ops).chans ≠ []) ∧
    ((run ops).chans = [] → (run ops).gen ∉ (run ops).closedGens) :=
  ⟨(Proofs.Waiters.latch_inv ops).1, Proofs.Waiters.add_closes_open_channel ops⟩

open TunnelModel.Waiters in
/-- the statement is not trivially true: replacing `avail` on every remove that
    leaves the list empty (the seeded change C12-waitforready-lost-wakeup)
    loses a wake-up -/
theorem C12_faulty_remove_loses_wakeup :
    (runBuggy Proofs.Waiters.lostRun).ready ∧ (runBuggy Proofs.Waiters.lostRun).parked 7 :=
  Proofs.Waiters.buggy_loses_wakeup

open TunnelModel.Waiters TunnelModel.RoundRobin in
/-- the channel-identity model refines to the registry model used everywhere else -/
theorem C12_waiters_refine_pool (ops : List Op) :
    Proofs.Waiters.abs (run ops) = ops.foldl Proofs.Waiters.poolStep Pool.empty :=
  Proofs.Waiters.abs_run ops

open TunnelModel.RegAtomic Proofs.RegAtomic in
/-- **The registry is exact at every resting state, under every interleaving.**
    `n` reverse tunnels with arbitrary (colliding) keys; for each, the
    registration goroutine of `openReverseTunnel` (add to the global pool,
    look up or create the key's pool, add to it, park, and after the close the
    two deferred removes) and the `unregister` callback run by whoever closes
    the channel, at ANY time — even before the tunnel was added.  One action =
    one critical section.  In every reachable state in which no goroutine can
    move by itself, tunnel `t` is in the global pool iff it is in the pool
    registered for ITS key iff it is open and fully registered, and it is in
    no other pool. -/
theorem C12_registry_exact_at_rest (keys : List Nat) (as : List Act) {s : St}
    (hr : run true false (init keys) as = some s) (hrest : resting false s = true)
    (t : Nat) (ht : t < keys.length) :
    ∃ x, s.tuns[t]? = some x ∧ x.key = keys[t] ∧ ExactAt s t x :=
  (inv_reachable keys as hr).registry_exact_at_rest hrest t ht

open TunnelModel.RegAtomic Proofs.RegAtomic in
/-- exactness about tunnel `t` needs only ITS registration goroutine to be at rest -/
theorem C12_registry_exact_tunnel (keys : List Nat) (as : List Act) {s : St}
    (hr : run true false (init keys) as = some s) {t : Nat} {x : Tun}
    (hx : s.tuns[t]? = some x) (hg : x.gResting false = true) : ExactAt s t x :=
  exactAt_of_gResting (inv_reachable keys as hr) hx hg

open TunnelModel.RegAtomic Proofs.RegAtomic in
/-- **One pool per key, ever**: two goroutines (registering or unregistering) that hold a pool for the same key hold the same one, the one in the map -/
theorem C12_one_pool_per_key (keys : List Nat) (as : List Act) {s : St}
    (hr : run true false (init keys) as = some s) {t t' : Nat} {x x' : Tun}
    (ht : s.tuns[t]? = some x) (ht' : s.tuns[t']? = some x') (hk : x.key = x'.key)
    {p p' : Nat} (hp : HoldsPool x p) (hp' : HoldsPool x' p') :
    p = p' ∧ assoc x.key s.byKey = some p ∧ p < s.pools.length :=
  (inv_reachable keys as hr).one_pool_per_key ht ht' hk hp hp'

open TunnelModel.RegAtomic Proofs.RegAtomic in
/-- no goroutine is stuck by itself, and every schedule is finite (at most ten actions per tunnel) -/
theorem C12_registration_progress (keys : List Nat) (as : List Act) {s : St}
    (hr : run true false (init keys) as = some s) :
    (resting true s = false → ∃ a, (step true false s a).isSome = true) ∧ as.length ≤ 10 * keys.length :=
  ⟨progress keys as hr, by have := schedule_bounded keys as hr; omega⟩

open TunnelModel.RegAtomic Proofs.RegAtomic in
/-- **Why the pool look-up and creation must be ONE critical section** (the
    seeded change C12-double-checked-pool-creation; code-level premise:
    `C15_one_critical_section_per_function`): with a read-locked look-up and an
    unconditional create, two tunnels with the same key end open, parked — and in
    different pools, one of them orphaned. -/
theorem C12_double_checked_creation_orphans_a_pool :
    ∃ s x, run false false (init [7, 7]) doubleChecked = some s ∧ resting true s = true ∧
      s.tuns[0]? = some x ∧ ¬ ExactAt s 0 x :=
  faulty_double_checked_not_exact

end Proofs.C12
