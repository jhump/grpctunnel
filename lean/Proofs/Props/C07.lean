import Proofs.Lemmas.ClientShape
import Proofs.Lemmas.ServerShape
import Proofs.Lemmas.ClientInv
import Proofs.Props.C09
/-!
  C07 — cancelling or timing out one RPC ends exactly that RPC on both ends.
  Caller side: theorems about every reachable client state (the
  well-formedness invariant `WF` holds for every stream of every reachable
  `Cli` state: `run_AllWF`).  Handler side: the cancel frame.
-/
namespace Proofs.C07
open TunnelModel.LFrame Proofs.ClientShape

variable {α : Type}

/-- **Cancellation / deadline ends the RPC at the caller in the same step,
    without waiting for the peer**: after the stream's context ends no caller
    call stays blocked (read, send, Header) and the terminal result is set. -/
theorem C07_local_release (sid : Sid) (s : CStream α) (e : CtxErr) (hwf : WF s) :
    (s.ctxCancelled sid e).1.pread = none ∧ (s.ctxCancelled sid e).1.psend = none ∧
    (s.ctxCancelled sid e).1.pheader = false ∧ (s.ctxCancelled sid e).1.done.isSome = true ∧
    (s.ctxCancelled sid e).1.ctxDone.isSome = true :=
  cancel_settled_WF sid s e hwf

/-- **The result is Canceled resp. DeadlineExceeded** when nothing had ended the
    RPC before; exactly one cancel frame tells the server; the stream leaves
    the table. -/
theorem C07_local_result (sid : Sid) (s : CStream α) (e : CtxErr) (hc : s.ctxDone = none) (hd : s.done = none) :
    (s.ctxCancelled sid e).1.done = some (.status (match e with
        | .canceled => mkStatus codeCanceled "context canceled"
        | .deadline => mkStatus codeDeadlineExceeded "context deadline exceeded")) ∧
    (s.ctxCancelled sid e).2.frames = [(sid, .cancel)] ∧ (s.ctxCancelled sid e).1.inTable = false := by
  have h := cancel_sets_result sid s e hc hd
  rw [mapFinishErr_ctx] at h
  exact ⟨h.1, h.2.1, h.2.2.2.1⟩

/-- **Exactly one of the two legal outcomes (1): completion first.** If the
    server's close frame arrives while the RPC is live, the outcome is the
    server's status with its trailers, the receive queue is NOT flushed
    (everything already received stays readable), and no cancel frame is
    sent. -/
theorem C07_close_wins (cfg : CCfg) (sid : Sid) (s : CStream α) (st : Status) (tr : MD) (hd : s.done = none) :
    let r := s.onFrame cfg sid (.close st tr)
    r.1.done = some (if st.code = 0 then .eof else .status st) ∧ r.1.trailers = tr ∧ r.1.doneSignal = true ∧
    r.1.inTable = false ∧ (∃ pre, s.rcv.queue = pre ++ r.1.rcv.queue) ∧
    (s.pread = none → r.1.rcv.queue = s.rcv.queue) ∧ r.2.frames = [] := by
  have h := close_frame_outcome cfg sid s st tr hd
  rw [mapFinishErr_statusErr] at h
  exact ⟨h.1, h.2.1, h.2.2.1, h.2.2.2.1, h.2.2.2.2.2.2.2.1, h.2.2.2.2.2.2.2.2.1, h.2.2.2.2.2.2.2.2.2⟩

/-- **Exactly one of the two legal outcomes (2): the outcome never changes.**
    Whatever happens after a terminal result was set — frames of any kind,
    calls, context ends, in any order — the result stays what it was; a later
    cancellation sends no cancel frame. -/
theorem C07_outcome_never_changes (cfg : CCfg) (sid : Sid) (s0 : CStream α) (e : SErr) (h : s0.done = some e)
    (ops : List (COp α)) : (runOps cfg sid s0 ops).1.done = some e :=
  done_written_once_run cfg sid ops s0 e h

theorem C07_late_cancel_silent (sid : Sid) (s : CStream α) (e : CtxErr) (d : SErr) (hd : s.done = some d) :
    (s.ctxCancelled sid e).1.done = some d ∧ (s.ctxCancelled sid e).2.frames = [] :=
  cancel_keeps_result sid s e d hd

/-- **Frames that arrive for a finished RPC have no effect** (stream object
    level: no output at all; any frame but a window update leaves the state
    untouched — a window update only adds to a window nobody uses any more). -/
theorem C07_finished_stream_quiet (cfg : CCfg) (sid : Sid) (s : CStream α) (hwf : WF s)
    (hd : s.done.isSome = true) :
    (∀ f, (s.onFrame cfg sid f).2 = {}) ∧
    (∀ f, (∀ n, f ≠ S2C.windowUpdate n) → s.onFrame cfg sid f = (s, {})) ∧
    (∀ e, s.ctxCancelled sid e = (s, {})) :=
  finished_stream_quiet_WF cfg sid s hwf hd

/-- … and at the endpoint they are discarded before reaching any stream. -/
theorem C07_late_frames_discarded_client (cfg : CCfg) (c : Cli α) (sid : Sid) (f : S2C α)
    (hfin : c.finished = none) (hph : c.phase = .running) (hnt : c.getStream sid = none)
    (hc : c.streamCreated = true) (hle : sid ≤ c.lastStreamID) : c.onFrame cfg sid f = (c, {}) :=
  Proofs.ClientInv.client_late_frame_ignored cfg c sid f hfin hph hnt hc hle

theorem finish_releases (sid : Sid) (s : SStream α) (hc : s.ctxDone = none) (err' : Option SErr) :
    let x := ((s.finishCore sid err').1.cancelCtx sid .canceled).1
    x.ctxDone.isSome = true ∧ x.pread = none ∧ x.psend = none ∧ x.inTable = false := by
  have hfc := Proofs.ServerShape.finishCore_fields sid s err'
  have hrel := Proofs.ServerShape.cancelCtx_released sid (s.finishCore sid err').1 CtxErr.canceled
  have h2 := hrel.2 (by rw [hfc.1]; exact hc)
  have hcl := Proofs.ServerShape.finishCore_closed sid s err'
  exact ⟨hrel.1, h2.1, h2.2, (Proofs.ServerShape.cancelCtx_closed sid _ .canceled hcl.1 hcl.2).2⟩

/-- **The cancel frame releases the handler**: its context is cancelled, no
    handler call stays blocked, the stream leaves the table. -/
theorem C07_cancel_frame_releases_handler (cfg : SCfg) (sid : Sid) (s : SStream α) (hc : s.ctxDone = none) :
    let r := s.onFrame cfg sid .cancel
    r.1.ctxDone.isSome = true ∧ r.1.pread = none ∧ r.1.psend = none ∧ r.1.inTable = false := by
  simp only [SStream.onFrame, SStream.finish]
  exact finish_releases sid s hc _

end Proofs.C07
