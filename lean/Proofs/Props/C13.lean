import Proofs.Lemmas.Conformance
import Proofs.Lemmas.Emission
import TunnelModel.Generated.Facts
/-!
  C13 — emitted frames always conform to the documented tunnel protocol.

  Every clause of the property is a theorem about the frames the endpoint
  models emit, for EVERY sequence of events (frames of any kind from any peer,
  handler / caller operations, context ends), from a fresh stream — most need
  not even freshness.  The frames the real endpoints emit are compared with
  the models' frames, byte for byte, by the S-, C- and W1-world correspondence
  families, and checked against the same grammar by the wire monitors
  (`ServerWire`, `ClientWire` in checklib/monitors.py) on every run.
-/
namespace Proofs.C13
open TunnelModel.LFrame TunnelModel.Framing TunnelModel Proofs.Conformance

variable {α : Type}

/-- **Settings first.** `serve` starts by emitting exactly the settings frame,
    on stream id -1, when the client negotiates settings — and nothing otherwise. -/
theorem C13_settings_first (cfg : SCfg) :
    (Srv.start cfg : Srv α × Out α).2.frames =
      if cfg.sendSettings then [(-1, .settings cfg.W cfg.revs)] else [] :=
  S4_start cfg

/-- … and no later step of the server, whatever the stimuli, emits a settings frame. -/
theorem C13_no_other_settings (cfg : SCfg) (xs : List (SStim α)) (s : Srv α) :
    (sframes (Srv.run cfg s xs).2).all (fun f => !S.isSettings f) = true :=
  S4_run_no_settings cfg xs s

/-- **Response headers at most once** (any state, any events). -/
theorem C13_headers_once (cfg : SCfg) (sid : Sid) (s0 : SStream α) (evs : List (SEv α)) :
    ((sframes (SStream.runEv cfg sid s0 evs).2).filter S.isHeaders).length ≤ 1 :=
  S1_at_most_one_headers cfg sid s0 evs

/-- **Headers precede every response data frame.** -/
theorem C13_headers_before_data (cfg : SCfg) (sid : Sid) (s0 : SStream α) (h0 : SFresh s0)
    (evs : List (SEv α)) :
    ∀ pre f post, sframes (SStream.runEv cfg sid s0 evs).2 = pre ++ f :: post → S.isData f = true →
      ∃ h ∈ pre, S.isHeaders h = true :=
  S3_headers_before_data cfg sid s0 h0 evs

/-- **At most one close frame per stream, exactly one once it is finished.** -/
theorem C13_one_close (cfg : SCfg) (sid : Sid) (s0 : SStream α) (h0 : s0.closed = false)
    (evs : List (SEv α)) :
    ((sframes (SStream.runEv cfg sid s0 evs).2).filter S.isClose).length ≤ 1 ∧
    ((SStream.runEv cfg sid s0 evs).1.closed = true →
      ((sframes (SStream.runEv cfg sid s0 evs).2).filter S.isClose).length = 1) :=
  ⟨S2_at_most_one_close cfg sid s0 evs, S2_exactly_one_close cfg sid s0 h0 evs⟩

/-- **A rejected `new_stream` gets exactly one frame: its close frame.** -/
theorem C13_rejected_one_close (cfg : SCfg) (s : Srv α) (sid : Sid) (method : List Nat) (md : MD) (rev : Int)
    (win : Nat) (h1 : s.table.contains sid = false) (h2 : ¬ sid ≤ s.lastSeen)
    (hrej : s.closing = true ∨ (rev ≠ 0 ∧ rev ≠ 1) ∨ Method.resolve cfg.services method = .malformed ∨
            Method.resolve cfg.services method = .unimplemented) :
    ∃ code msg, (s.createStream cfg sid method md rev win).2.frames = [(sid, .close (mkStatus code msg) [])] ∧
      (s.createStream cfg sid method md rev win).1.streams = s.streams :=
  S6_rejected cfg s sid method md rev win h1 h2 hrej

/-- **An accepted `new_stream` emits nothing yet** and creates one fresh stream
    object (whose close frame `C13_one_close` then accounts for). -/
theorem C13_accepted_no_close_yet (cfg : SCfg) (s : Srv α) (sid : Sid) (method : List Nat) (md : MD) (rev : Int)
    (win : Nat) (svc : Method.Name) (f : Method.Found)
    (h1 : s.table.contains sid = false) (h2 : ¬ sid ≤ s.lastSeen)
    (hcl : s.closing = false) (hrev : rev = 0 ∨ rev = 1)
    (hres : Method.resolve cfg.services method = .found svc f) :
    (s.createStream cfg sid method md rev win).2.frames = [] ∧
    ∃ st0 : SStream α, SFresh st0 ∧ st0.fc = (rev == 1) ∧
      ((s.createStream cfg sid method md rev win).1.streams = s.streams ++ [(sid, st0)] ∨
       (s.createStream cfg sid method md rev win).1.streams = s.streams ++ [(sid, (st0.onCall cfg sid .recv).1)]) :=
  S6_accepted cfg s sid method md rev win svc f h1 h2 hcl hrev hres

/-- **The close frame is the last frame of a stream the handler ended**
    (streaming handler returning `st`): from any stream whose context had not
    ended, after any history `pre`, if the handler returns and makes no call
    afterwards, then whatever else happens (`post`: frames, context ends) the
    frames are those of `pre`, then the headers if they had not gone out, then
    the close frame with the handler's status and trailers — and nothing after
    it.  If the stream had been closed before (cancel, protocol error), the
    return emits nothing (the one close frame is already out). -/
theorem C13_close_is_last (cfg : SCfg) (sid : Sid) (s0 : SStream α) (h0 : s0.ctxDone = none)
    (pre post : List (SEv α)) (st : Status) (hpost : ∀ ev ∈ post, SEv.isCall ev = false) :
    let s := (SStream.runEv cfg sid s0 pre).1
    let r := SStream.runEv cfg sid s0 (pre ++ .call (.ret st) :: post)
    (s.closed = true → sframes r.2 = sframes (SStream.runEv cfg sid s0 pre).2) ∧
    (s.closed = false →
      sframes r.2 = (sframes (SStream.runEv cfg sid s0 pre).2 ++ (if s.sentHeaders then [] else [S2C.headers s.headers])) ++
        [S2C.close (SErr.wireStatus (if st.code = 0 then none else some (.status st))) s.trailers] ∧
      ∀ a f b, sframes r.2 = a ++ f :: b → S.isClose f = true → b = []) := by
  intro s r
  have h := S5_close_is_last_reachable cfg sid s0 h0 pre post st hpost
  exact ⟨h.2.2.1, h.2.2.2⟩

/-- … and likewise on the unary path (the handler returns a response, which
    may block on the window, complete later, or be aborted). -/
theorem C13_reply_close_is_last (cfg : SCfg) (sid : Sid) (s0 : SStream α) (pre post : List (SEv α)) (m : List α)
    (hc : (SStream.runEv cfg sid s0 pre).1.closed = false) (hpr : (SStream.runEv cfg sid s0 pre).1.pread = none)
    (hpost : ∀ ev ∈ post, SEv.isCall ev = false) :
    ∀ a f b, sframes (SStream.runEv cfg sid s0 (pre ++ .call (.reply m) :: post)).2 = a ++ f :: b →
      S.isClose f = true → b = [] :=
  S5_reply_nothing_after_close cfg sid s0 pre post m hc hpr hpost

/-- **Half-close at most once** (any state, any events). -/
theorem C13_halfClose_once (cfg : CCfg) (sid : Sid) (s0 : CStream α) (evs : List (CEv α)) :
    ((cframes (CStream.runEv cfg sid s0 evs).2).filter C.isHalfClose).length ≤ 1 :=
  C1_at_most_one_halfClose cfg sid s0 evs

/-- **Cancel at most once**, and never for an RPC that already has its result. -/
theorem C13_cancel_once (cfg : CCfg) (sid : Sid) (s0 : CStream α) (evs : List (CEv α)) :
    ((cframes (CStream.runEv cfg sid s0 evs).2).filter C.isCancel).length ≤ 1 ∧
    (s0.done.isSome = true → ((cframes (CStream.runEv cfg sid s0 evs).2).filter C.isCancel).length = 0) :=
  C1_at_most_one_cancel cfg sid s0 evs

/-- **No request data after half-close**, under the caller's contract (no
    `SendMsg` after `CloseSend`; `CloseSend` not concurrent with a `SendMsg`). -/
theorem C13_no_data_after_halfClose (cfg : CCfg) (sid : Sid) (s0 : CStream α) (h0 : s0.halfClosed = false)
    (evs : List (CEv α)) (hl : legalCloseSend cfg sid s0 false evs = true) :
    ∀ pre f post, cframes (CStream.runEv cfg sid s0 evs).2 = pre ++ f :: post → C.isHalfClose f = true →
      ∀ g ∈ post, C.isData g = false :=
  C3_no_data_after_halfClose cfg sid s0 h0 evs hl

/-- only `NewStream` emits `new_stream`: stream-level operations never do -/
theorem C13_no_newStream_midstream (cfg : CCfg) (sid : Sid) (s0 : CStream α) (evs : List (CEv α)) :
    (cframes (CStream.runEv cfg sid s0 evs).2).all (fun f => !C.isNewStream f) = true :=
  C2_no_newStream cfg sid s0 evs

/-- revision zero has no window updates, in either direction -/
theorem C13_no_window_update_rev0 (scfg : SCfg) (ccfg : CCfg) (sid : Sid) (s0 : SStream α) (c0 : CStream α)
    (hs : s0.fc = false) (hc : c0.fc = false) (sevs : List (SEv α)) (cevs : List (CEv α)) :
    (sframes (SStream.runEv scfg sid s0 sevs).2).all (fun f => !S.isWindowUpdate f) = true ∧
    (cframes (CStream.runEv ccfg sid c0 cevs).2).all (fun f => !C.isWindowUpdate f) = true :=
  ⟨S7_no_window_update scfg sid s0 hs sevs, C4_no_window_update ccfg sid c0 hc cevs⟩

/-- **Message framing, client → server.**  The data frames a client stream
    puts on the wire (in order; they are the only data frames of that stream,
    so they are contiguous within it) always parse under the documented
    grammar — each message is one envelope frame followed by continuation
    frames that add up exactly to the stated size, never more, never a new
    envelope before the previous message is complete — the `i`-th envelope
    states exactly the length of the `i`-th submitted message, and every frame
    carries at most `chunkMax` (16 KiB) bytes. -/
theorem C13_message_framing_client (cfg : CCfg) (hcm : 0 < cfg.chunkMax) (sid : Sid) (s0 : CStream α)
    (h0 : s0.psend = none) (evs : List (CEv α))
    (hl : CStream.legalSends cfg sid s0 false evs = true) :
    (∃ ms st, parse none (COut.emittedData (CStream.runEv cfg sid s0 evs).2) = (ms, .ok st) ∧
      ms <+: CEv.submitted evs) ∧
    Proofs.Emission.envSizes (COut.emittedData (CStream.runEv cfg sid s0 evs).2) <+: (CEv.submitted evs).map List.length ∧
    ∀ f ∈ COut.emittedData (CStream.runEv cfg sid s0 evs).2, f.size ≤ cfg.chunkMax :=
  ⟨Proofs.Emission.client_emits_chunkings cfg hcm sid s0 h0 evs hl,
   Proofs.Emission.client_envelopes_exact cfg hcm sid s0 h0 evs hl,
   Proofs.Emission.client_chunk_bound cfg hcm sid evs s0⟩

/-- **Message framing, server → client** (`_partial`: for handlers that make
    one send at a time and whose unary reply is their last call — what gRPC
    requires of a handler; `Proofs.Emission.server_emits_chunkings_as_requested_is_false`
    shows the statement without it is false of the model). -/
theorem C13_message_framing_server_partial (cfg : SCfg) (hcm : 0 < cfg.chunkMax) (sid : Sid)
    (s0 : SStream α) (h0 : s0.psend = none) (h0f : s0.finishAfterSend = false) (evs : List (SEv α))
    (hl : SStream.legalSends cfg sid s0 false evs = true) (hr : Proofs.Emission.sReplyIsLast evs = true) :
    (∃ ms st, parse none (Out.emittedData (SStream.runEv cfg sid s0 evs).2) = (ms, .ok st) ∧
      ms <+: SEv.submitted evs) ∧
    Proofs.Emission.envSizes (Out.emittedData (SStream.runEv cfg sid s0 evs).2) <+: (SEv.submitted evs).map List.length ∧
    ∀ f ∈ Out.emittedData (SStream.runEv cfg sid s0 evs).2, f.size ≤ cfg.chunkMax :=
  ⟨Proofs.Emission.server_emits_chunkings_partial cfg hcm sid s0 h0 h0f evs hl hr,
   Proofs.Emission.server_envelopes_exact_partial cfg hcm sid s0 h0 h0f evs hl hr,
   Proofs.Emission.server_chunk_bound cfg hcm sid evs s0⟩

/-- the chunk bound of the code is 16 KiB (constant regenerated from the sources) -/
theorem C13_chunk_is_16KiB : TunnelModel.Generated.chunkMax = 16384 := by decide

end Proofs.C13
