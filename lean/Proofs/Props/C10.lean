import TunnelModel.LFrame.Server
import Proofs.Props.C15
import Proofs.Lemmas.Registry
import Proofs.Lemmas.LifeAtomic
import Proofs.Lemmas.ServerOps
/-!
  C10 — graceful shutdown refuses new RPCs and lets in-flight ones finish
  (tunnel-level part: the `closing` flag in `createStream`), followed by the lifecycle
  part (GracefulStop / Stop / Serve).
-/
namespace Proofs.C10
open TunnelModel.LFrame

variable {α : Type}

/-- **Refusal.** While the server is shutting down, a `new_stream` frame with a
    fresh id is answered by exactly one `close_stream` frame carrying
    Unavailable; no handler is started, the table is unchanged, the tunnel
    stays up, and the id is recorded (so later frames for it are ignored). -/
theorem C10_refused (cfg : SCfg) (s : Srv α) (sid : Sid) (m : List Nat) (md : MD) (rev : Int) (win : Nat)
    (hret : s.returned = none) (hcl : s.closing = true)
    (hfresh : ¬ sid ≤ s.lastSeen) (hnt : sid ∉ s.table) :
    s.onFrame cfg sid (.newStream m md rev win) =
      ({ s with lastSeen := sid },
       { frames := [(sid, .close (mkStatus codeUnavailable "server is shutting down") [])] }) := by
  simp [Srv.onFrame, hret, Srv.createStream, hnt, hfresh, hcl, rejectFrame]

/-- the refused id is now "seen": the table is unchanged and `lastSeen = sid` -/
theorem C10_refused_state (cfg : SCfg) (s : Srv α) (sid : Sid) (m : List Nat) (md : MD) (rev : Int) (win : Nat)
    (hret : s.returned = none) (hcl : s.closing = true)
    (hfresh : ¬ sid ≤ s.lastSeen) (hnt : sid ∉ s.table) :
    let s' := (s.onFrame cfg sid (.newStream m md rev win)).1
    s'.returned = none ∧ s'.streams = s.streams ∧ s'.lastSeen = sid := by
  simp [C10_refused cfg s sid m md rev win hret hcl hfresh hnt, hret]

/-- **Later frames of a refused RPC are ignored** (and, generally, frames for
    any id that is not in the table and not above the high-water mark): state
    unchanged, nothing emitted.  This is what keeps the tunnel alive for the
    in-flight RPCs. -/
theorem C10_later_frames_ignored (cfg : SCfg) (s : Srv α) (sid : Sid) (f : C2S α)
    (hret : s.returned = none) (hnew : ∀ m md rev win, f ≠ .newStream m md rev win)
    (hnt : s.getStream sid = none) (hseen : sid ≤ s.lastSeen) :
    s.onFrame cfg sid f = (s, {}) := by
  rw [ServerOps.Srv.onFrame_other cfg s sid hnew, hret, hnt]
  exact if_pos hseen

def SameBut (b : Bool) (r r' : Srv α × Out α) : Prop := r'.2 = r.2 ∧ r'.1 = { r.1 with closing := b }

theorem serveReturns_closing (s : Srv α) (b : Bool) (err : Option String) :
    SameBut b (s.serveReturns err) (({ s with closing := b } : Srv α).serveReturns err) := by
  rw [ServerOps.serveReturns_eq, ServerOps.serveReturns_eq]; exact ⟨rfl, rfl⟩

/-- **In-flight RPCs do not see the flag.** Every stimulus other than a
    `new_stream` frame produces the same outputs and the same state whatever
    the value of the shutdown flag. -/
theorem C10_flag_only_read_by_new_stream (cfg : SCfg) (s : Srv α) (x : SStim α) (b : Bool)
    (hnew : ∀ sid m md rev win, x ≠ .frame sid (.newStream m md rev win))
    (hcl : ∀ b', x ≠ .closing b') :
    let r := s.step cfg x
    let r' := ({ s with closing := b } : Srv α).step cfg x
    r'.2 = r.2 ∧ r'.1 = { r.1 with closing := b } := by
  -- every other operation reads the stream table, `lastSeen`, `returned` and the clock only
  show SameBut b (s.step cfg x) (({ s with closing := b } : Srv α).step cfg x)
  cases x with
  | frame sid f =>
    have hf : ∀ m md rev win, f ≠ .newStream m md rev win :=
      fun m md rev win h => hnew sid m md rev win (congrArg _ h)
    rw [ServerOps.step_frame, ServerOps.step_frame, ServerOps.Srv.onFrame_other _ _ _ hf,
      ServerOps.Srv.onFrame_other _ _ _ hf]
    show SameBut b _ (if s.returned.isSome then _ else match s.getStream sid with
      | some st => _
      | none => if sid ≤ s.lastSeen then _ else _)
    split
    · exact ⟨rfl, rfl⟩
    · cases s.getStream sid with
      | some st => exact ⟨rfl, rfl⟩
      | none =>
        show SameBut b (if _ then _ else _) (if _ then _ else _)
        split
        · exact ⟨rfl, rfl⟩
        · exact serveReturns_closing s b _
  | call sid c =>
    rw [ServerOps.step_call, ServerOps.step_call, ServerOps.Srv.onCall_eq, ServerOps.Srv.onCall_eq]
    show SameBut b _ (match s.getAny sid with
      | none => _
      | some st => _)
    cases s.getAny sid <;> exact ⟨rfl, rfl⟩
  | tick d =>
    rw [ServerOps.step_tick, ServerOps.step_tick, ServerOps.tick_eq, ServerOps.tick_eq]
    exact ⟨rfl, rfl⟩
  | closing b' => exact absurd rfl (hcl b')
  | carrierEnds err =>
    rw [ServerOps.step_carrierEnds, ServerOps.step_carrierEnds]
    show SameBut b _ (if s.returned.isSome then _ else _)
    split
    · exact ⟨rfl, rfl⟩
    · exact serveReturns_closing s b err

-- non-vacuity: a fresh server in shutdown refuses stream 0
example : ((({ closing := true } : Srv Nat).onFrame {} 0 (.newStream [] [] 1 65536)).2.frames).length = 1 := by
  decide +kernel

/-! ### the reverse-tunnel server's state machine (reverse_server.go: Serve / GracefulStop / Stop)

The lifecycle world compares `state` and the number of registered instances of
the real `ReverseTunnelServer` with this model after every API event. -/

open TunnelModel.Lifecycle Proofs.Registry in
/-- **Shutdown only moves forward** (active → closing → closed), over every
    sequence of Serve / Serve-returned / Stop / GracefulStop events. -/
theorem C10_shutdown_monotone (ops : List SOp) (s : RServer) :
    s.state.rank ≤ (ops.foldl stepSrv s).state.rank :=
  C10_rank_mono ops s

open TunnelModel.Lifecycle Proofs.Registry in
/-- **Once shutdown was initiated every later `Serve` is refused**, whatever
    happens in between, and changes nothing. -/
theorem C10_serve_refused_after_shutdown (ops : List SOp) (s : RServer) (h : s.state ≠ .active)
    (t : Nat) : ((ops.foldl stepSrv s).serve t).2 = false
      ∧ ((ops.foldl stepSrv s).serve t).1 = ops.foldl stepSrv s :=
  C10_serve_refused_forever ops s h t

open TunnelModel.Lifecycle Proofs.Registry in
/-- **`Stop` after `GracefulStop` still stops**: the server ends up closed (its
    tunnels are then torn down), exactly as a `Stop` alone; a `GracefulStop`
    after `Stop` changes nothing. -/
theorem C10_stop_after_gracefulStop (s : RServer) :
    s.gracefulStop.stop = s.stop ∧ s.gracefulStop.stop.state = .closed ∧ s.stop.gracefulStop = s.stop :=
  ⟨stop_after_gracefulStop s, by rw [stop_after_gracefulStop]; rfl, gracefulStop_after_stop s⟩

open TunnelModel.Lifecycle Proofs.Registry in
/-- both stops make `isClosing` true, and it stays true -/
theorem C10_isClosing_after_stop (ops : List SOp) (s : RServer) :
    (ops.foldl stepSrv s.gracefulStop).isClosing = true ∧ (ops.foldl stepSrv s.stop).isClosing = true :=
  ⟨C10_isClosing_sticky ops _ (isClosing_gracefulStop s), C10_isClosing_sticky ops _ (isClosing_stop s)⟩

/-- code-level premise (regenerated from the sources on every run): `Stop` and
    `GracefulStop` do not hold the server's mutex while they wait for the
    `Serve` calls to return, so the tunnels can go on asking `isClosing()` —
    refusing new RPCs and letting in-flight ones finish — during the drain -/
theorem C10_waits_hold_no_lock :
    Proofs.C15.lockedWaitViolations TunnelModel.Generated.accessTable = [] :=
  Proofs.C15.C15_waits_hold_no_lock

/-! ### Serve / Stop / GracefulStop below the API: every interleaving of their critical sections
     (L-atomic model `TunnelModel/LifeAtomic.lean`; any number of concurrent Serve, Stop and GracefulStop calls) -/

open TunnelModel.LifeAtomic Proofs.LifeAtomic in
/-- **Stop returns only after every Serve call has returned** — and none can be
    admitted afterwards: in every reachable state in which some `Stop` has
    returned, no `Serve` call is running, and none is in any continuation. -/
theorem C10_stop_returns_only_after_serves (n a b : Nat) (as : List Act) {s : St}
    (hr : run true false (init n a b) as = some s) {j : Nat} (hj : s.stops[j]? = some .returned) :
    (∀ (i : Nat) (x : Serve), s.serves[i]? = some x →
        x.pc = .start ∨ x.pc = .opened ∨ x.pc = .failedOpen ∨ x.pc = .refused ∨ x.pc = .returned) ∧
    (∀ (as' : List Act) (s' : St), run true false s as' = some s' →
        ∀ (i : Nat) (x : Serve), s'.serves[i]? = some x → x.pc ≠ .serving ∧ x.pc ≠ .ended) :=
  (inv_reachable n a b as hr).stop_returns_only_after_serves hj

open TunnelModel.LifeAtomic Proofs.LifeAtomic in
/-- **No admission after shutdown began**: once the state has left `active` a
    `Serve` call that is not yet serving never will be. -/
theorem C10_no_admission_after_shutdown (n a b : Nat) (as : List Act) {s : St}
    (hr : run true false (init n a b) as = some s) (hshut : s.state ≠ .active)
    {i : Nat} {x : Serve} (hi : s.serves[i]? = some x) (hx : x.pc ≠ .serving)
    (as' : List Act) {s' : St} (hr' : run true false s as' = some s') :
    ∀ y, s'.serves[i]? = some y → y.pc ≠ .serving :=
  no_admission_after_shutdown hshut (fun _ hx' => Option.some.inj (hi.symm.trans hx') ▸ hx) as' hr'

open TunnelModel.LifeAtomic Proofs.LifeAtomic in
/-- **Stop cannot hang by itself**: after its critical section every running
    `Serve` call has its own next step enabled without any help from the peer
    (the instance was hung up), and every schedule is finite. -/
theorem C10_stop_ends_every_tunnel (n a b : Nat) (as : List Act) {s : St}
    (hr : run true false (init n a b) as = some s) {j : Nat} (hj : Passed s.stops j)
    {i : Nat} {x : Serve} (hi : s.serves[i]? = some x) (hrun : x.pc.running = true) :
    ((x.pc = .serving ∧ (step true false s (.tunnelEnds i)).isSome) ∨
     (x.pc = .ended ∧ (step true false s (.wgDone i)).isSome)) ∧
    as.length ≤ 6 * n + 2 * a + 2 * b :=
  ⟨(inv_reachable n a b as hr).stop_ends_every_tunnel hj hi hrun, by have := schedule_bounded n a b as hr; omega⟩

open TunnelModel.LifeAtomic Proofs.LifeAtomic in
/-- **GracefulStop waits for the PEER** (the open finding D9, as a theorem about
    the model that follows the code): with a tunnel up whose peer does not hang
    up and no `Stop`, a waiting `GracefulStop` stays waiting whatever else
    happens — there is nothing in the protocol that tells the peer to go away. -/
theorem C10_gracefulStop_blocked_until_peer_or_stop_partial (n a b : Nat) (as : List Act) {s : St}
    (hr : run true false (init n a b) as = some s) {k i : Nat}
    (hst : s.state = .closing) (hk : s.gstops[k]? = some .waiting)
    (hi : s.serves[i]? = some ⟨.serving, false⟩) :
    ∀ (as' : List Act) (s' : St), run true false s as' = some s' →
      (∀ act ∈ as', act ≠ .peerHangup i ∧ ∀ j, act ≠ .stopCS j) →
      s'.state = .closing ∧ s'.gstops[k]? = some .waiting ∧ s'.serves[i]? = some ⟨.serving, false⟩ ∧
      step true false s' (.gsWait k) = none ∧ step true false s' (.tunnelEnds i) = none :=
  (inv_reachable n a b as hr).gracefulStop_blocked_until_peer_or_stop hst hk hi

open TunnelModel.LifeAtomic Proofs.LifeAtomic in
/-- **Why the state check and the registration are one critical section** (the
    seeded change C15-unlocked-state-check-in-addinstance): with the check made
    before taking the lock, a `Serve` call is admitted after `Stop` has
    returned, and nothing but the peer will ever end it. -/
theorem C10_unlocked_check_admits_after_stop :
    (run false false (init 1 1 0) [.openTunnel 0 true, .check 0, .stopCS 0, .stopWait 0, .add 0]).map
        (obs false false) =
      some { state := .closed, wg := 1, hungUp := [], serves := [⟨.serving, false⟩],
             stops := [.returned], gstops := [], enabled := [.peerHangup 0] } :=
  faulty_unlocked_check_admits_after_stop

open TunnelModel.LifeAtomic Proofs.LifeAtomic in
/-- **Why Stop's guard is `state = closed`** (the seeded changes
    C10-stop-noop-after-gracefulstop / C04-stop-guard-copied-from-gracefulstop):
    with the guard `state ≠ active`, `Stop` after `GracefulStop` hangs nothing
    up and both wait for the peer for ever. -/
theorem C10_stop_guard_not_active_hangs :
    (run true true (init 1 1 1) [.openTunnel 0 true, .enroll 0, .gsCS 0, .stopCS 0]).map (obs true true) =
      some { state := .closing, wg := 1, hungUp := [], serves := [⟨.serving, false⟩],
             stops := [.waiting], gstops := [.waiting], enabled := [.peerHangup 0] } :=
  faulty_stop_guard_hangs

end Proofs.C10
