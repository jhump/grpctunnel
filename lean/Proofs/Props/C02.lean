import Proofs.Lemmas.Teardown
import TunnelModel.Metadata
import Proofs.Lemmas.Publish
/-!
  C02 — status and metadata are exactly what the application produced or gRPC specifies.
  Headers set or sent after they went out are refused and change nothing
  (`Teardown.setHeader_refused`, `Teardown.sendHeader_refused`); the first headers frame wins, later
  ones are ignored (`Teardown.header_after_frames`).

  The codes gRPC specifies for library-generated outcomes (Canceled,
  DeadlineExceeded, Unimplemented, ResourceExhausted, Unavailable, Internal,
  InvalidArgument) are fixed by the endpoint models and compared with the real
  endpoints' results by every world family; the theorems naming them are in
  C03 / C07 / C09 / C10 / C16.
-/
namespace Proofs.C02
open TunnelModel.LFrame TunnelModel Proofs.Teardown Proofs.ClientShape

variable {α : Type}

/-- **Status round trip**: the status a handler returns is the status the caller's terminal result
    carries (OK ↦ end of stream; a non-status error ↦ Unknown with its text). -/
theorem C02_status_roundtrip (st : Status) (t : String) :
    mapFinishErr (statusErr (SErr.wireStatus (if st.code = 0 then none else some (.status st)))) =
      (if st.code = 0 then .eof else .status st) ∧
    mapFinishErr (statusErr (SErr.wireStatus (some (.plain t)))) = .status (mkStatus codeUnknown t) :=
  ⟨status_roundtrip st, plain_error_roundtrip t⟩

/-- **What a handler's return puts on the wire**: the headers if they had not gone out, then ONE
    close frame with that status and the accumulated trailers. -/
theorem C02_return_frames (cfg : SCfg) (sid : Sid) (s : SStream α) (st : Status) :
    (s.closed = false →
      (s.onCall cfg sid (.ret st)).2.frames =
        (if s.sentHeaders then [] else [(sid, .headers s.headers)]) ++
        [(sid, .close (SErr.wireStatus (if st.code = 0 then none else some (.status st))) s.trailers)]) ∧
    (s.closed = true → (s.onCall cfg sid (.ret st)).2.frames = []) :=
  ⟨ret_frames cfg sid s st, ret_frames_of_closed cfg sid s st⟩

/-- **Trailers accumulate** (`SetTrailer` joins) and are exactly those of the close frame. -/
theorem C02_trailers_accumulate (cfg : SCfg) (sid : Sid) (s : SStream α) (mds : List MD) (st : Status)
    (hcl : s.closed = false) :
    let s' := mds.foldl (fun x md => (x.onCall cfg sid (.setTrailer md)).1) s
    (s'.onCall cfg sid (.ret st)).2.frames =
      (if s.sentHeaders then [] else [(sid, .headers s.headers)]) ++
      [(sid, .close (SErr.wireStatus (if st.code = 0 then none else some (.status st)))
              (mds.foldl MD.join s.trailers))] :=
  ret_after_setTrailers cfg sid s mds st hcl

/-- **Status and trailers, end to end.**  The close frame the server emits for
    a handler returning `st`, fed to the caller's stream, sets the terminal
    result to exactly `st` (OK ↦ end of stream), records exactly the handler's
    trailers, publishes both together (`doneSignal`), and `Trailer()` returns them. -/
theorem C02_status_trailers_exact (scfg : SCfg) (ccfg : CCfg) (sid : Sid) (s : SStream α) (c : CStream α)
    (st : Status) (hcl : s.closed = false) (hd : c.done = none) :
    let w := SErr.wireStatus (if st.code = 0 then none else some (.status st))
    (s.onCall scfg sid (.ret st)).2.frames =
      (if s.sentHeaders then [] else [(sid, .headers s.headers)]) ++ [(sid, .close w s.trailers)] ∧
    (let r := c.onFrame ccfg sid (.close w s.trailers)
     r.1.done = some (if st.code = 0 then .eof else .status st) ∧ r.1.trailers = s.trailers ∧
     r.1.doneSignal = true ∧
     r.1.onCall ccfg sid .trailer = (r.1, { dones := [(sid, "trailer", .md s.trailers)] })) :=
  Proofs.Teardown.C02_status_trailers_exact scfg ccfg sid s c st hcl hd

/-- **Headers, end to end**: what `SendHeader` emits is what `Header()` returns. -/
theorem C02_headers_exact (scfg : SCfg) (ccfg : CCfg) (sid : Sid) (s : SStream α) (c : CStream α) (md : MD)
    (hs : s.sentHeaders = false) (hg : c.gotHeaders = false) :
    (s.onCall scfg sid (.sendHeader md)).2.frames = [(sid, .headers (MD.join s.headers md))] ∧
    (let c1 := (c.onFrame ccfg sid (.headers (MD.join s.headers md))).1
     c1.onCall ccfg sid .header = (c1, { dones := [(sid, "header", .md (MD.join s.headers md))] })) :=
  Proofs.Teardown.C02_headers_exact scfg ccfg sid s c md hs hg

open TunnelModel.Metadata in
/-- **Metadata that can be encoded arrives unchanged** (keys, values, order, multiplicity). -/
theorem C02_metadata_exact (md : BMD) (h : marshalable md = true) : transfer md = some md := by
  unfold transfer
  rw [if_pos h]
  rfl

open TunnelModel.Metadata in
/-- **Metadata cannot be encoded iff some key or value is not valid UTF-8**
    (the protocol types them as proto3 `string`; gRPC allows arbitrary bytes in
    `-bin` values — open finding D8: then the frame's `Send` fails and the tunnel ends). -/
theorem C02_metadata_unencodable_iff (md : BMD) :
    transfer md = none ↔ ∃ kv ∈ md, validUTF8 kv.1 = false ∨ ∃ v ∈ kv.2, validUTF8 v = false := by
  have hm : marshalable md = false ↔ ∃ kv ∈ md, validUTF8 kv.1 = false ∨ ∃ v ∈ kv.2, validUTF8 v = false := by
    simp only [marshalable, List.all_eq_false, Bool.not_eq_true, Bool.and_eq_false_iff]
  rw [← hm]
  unfold transfer
  cases marshalable md
  · exact ⟨fun _ => rfl, fun _ => rfl⟩
  · exact ⟨(fun h => by cases h), (fun h => by cases h)⟩

/-! ### result publication on a client stream, under every interleaving
     (L-atomic model `TunnelModel/Publish.lean`: any number of racing `finishStream` calls, a reader in
     `RecvMsg`, an observer calling `Trailer()`; one action per atomic operation / critical section) -/

open TunnelModel.Publish Proofs.Publish in
/-- **Whoever has seen the end of the RPC sees its trailers**: in every reachable
    state in which the reader has obtained the terminal result, `Trailer()` and
    every `grpc.Trailer` target hold exactly the trailers of THE finisher that
    won the race — now, and whenever the reader reads them in any continuation:
    never nil because "not done yet", never another finisher's. -/
theorem C02_reader_sees_trailers {err : Nat → TunnelModel.Publish.Err} {tr : Nat → TunnelModel.Publish.MD} (n k p : Nat) (as : List Act) {s : St}
    (hr : run true err tr (init n k p) as = some s) {r : Option TunnelModel.Publish.Err} (hg : s.rpc = .got r) :
    ∃ w, Winner s w ∧ (∀ w', Winner s w' → w' = w) ∧
      (s.rTrailer = none →
        ∃ s', step true err tr s .readTrailer = some s' ∧ s'.rTrailer = some (some (tr w))) ∧
      (∀ t, t < k → s.rTarget = none →
        ∃ s', step true err tr s (.readTarget t) = some s' ∧ s'.rTarget = some (tr w)) ∧
      ∀ (as' : List Act) (s' : St), run true err tr s as' = some s' →
        Winner s' w ∧ (∀ w', Winner s' w' → w' = w) ∧ s'.rpc = .got r ∧
        (∀ v, s'.rTrailer = some v → v = some (tr w)) ∧ (∀ v, s'.rTarget = some v → v = tr w) :=
  (lengths_reachable n k p hr).1 ▸ (inv_reachable n k p as hr).reader_sees_trailers hg

open TunnelModel.Publish Proofs.Publish in
/-- **The RPC completes exactly once**: the terminal result the reader gets, the
    stored trailers and every target all belong to the same, unique winner. -/
theorem C02_terminal_result_and_trailers_of_one_completion {err : Nat → TunnelModel.Publish.Err} {tr : Nat → TunnelModel.Publish.MD}
    (n k p : Nat) (as : List Act) {s : St}
    (hr : run true err tr (init n k p) as = some s) {r : Option TunnelModel.Publish.Err} (hg : s.rpc = .got r) :
    ∃ w, Winner s w ∧ (∀ w', Winner s w' → w' = w) ∧ r = some (err w) ∧ s.done = some (err w) ∧
      s.trailers = tr w ∧ s.trailerCall = some (tr w) ∧
      ∀ (t : Nat) (v : TunnelModel.Publish.MD), s.targets[t]? = some v → v = tr w :=
  (inv_reachable n k p as hr).terminal_result_is_the_winners hg

open TunnelModel.Publish Proofs.Publish in
/-- `Trailer()` is nil until `doneSignal` is closed and the winner's trailers ever after -/
theorem C02_trailer_nil_before_end {err : Nat → TunnelModel.Publish.Err} {tr : Nat → TunnelModel.Publish.MD} (n k p : Nat) (as : List Act) {s : St}
    (hr : run true err tr (init n k p) as = some s) :
    (s.doneSig = false → s.trailerCall = none ∧ ∀ v ∈ s.peeks, v = none) ∧
    (s.doneSig = true → ∃ w, Winner s w ∧ (∀ w', Winner s w' → w' = w) ∧ s.trailerCall = some (tr w) ∧
      ∀ (as' : List Act) (s' : St), run true err tr s as' = some s' →
        Winner s' w ∧ s'.trailerCall = some (tr w)) :=
  (inv_reachable n k p as hr).trailer_nil_before_end

open TunnelModel.Publish Proofs.Publish in
/-- **Why the receiver is closed last** (defect D4, fixed in 48575b5): with the
    old order — reader released before the trailers are stored — the reader gets
    `io.EOF` and then reads nil trailers although the RPC ended with `[("k","v")]`. -/
theorem C02_old_order_reader_misses_trailers :
    (run false exErr exTr (init 1 1 0) d4).map appView = some ⟨.got (some 0), some none, some none⟩ :=
  faulty_old_order_reader_misses_trailers

end Proofs.C02
