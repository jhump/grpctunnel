import Proofs.Lemmas.Framing
import Proofs.Lemmas.Delivery
import Proofs.Lemmas.Emission
import Proofs.Facts
/-!
  C01 — messages arrive exactly once, in order, intact, on the right RPC.

  First the framing laws: whatever windows the sender observes, the frames it
  emits for a message reassemble to exactly that message; payload type
  arbitrary (byte-for-byte identity).  Then (`C01_*_prefix`) the per-stream
  emission and delivery theorems composed over a FIFO carrier.
-/
namespace Proofs.C01
open TunnelModel.Framing Proofs.Framing

variable {α : Type}

/-- **Flow-controlled sender.** From the start of a message `m`, for every
    window value and every amount of fuel: if the burst completes the send, the
    frames reassemble to exactly `[m]`; otherwise they deliver nothing yet and
    leave sender and reader linked (so that the next burst, under any later
    window, continues the same message). -/
theorem C01_pump_reassembles (cm : Nat) (hcm : 0 < cm) (m : List α) (fuel win : Nat) :
    match pumpFuel cm fuel win (Snd.start m) with
    | (fs, _, none) => parse none fs = ([m], .ok none)
    | (fs, _, some s') => ∃ st', parse none fs = ([], .ok st') ∧ Linked m s' st' :=
  -- `hcm` is not needed: with `cm = 0` every chunk is empty and the send stays pending, still linked
  pumpFuel_parse cm m fuel win (Snd.start m) none (linked_start m)

/-- the same from any point of a message in progress -/
theorem C01_pump_continues (cm : Nat) (hcm : 0 < cm) (m : List α) (fuel win : Nat) (s : Snd α) (st : RState α)
    (hl : Linked m s st) :
    match pumpFuel cm fuel win s with
    | (fs, _, none) => parse st fs = ([m], .ok none)
    | (fs, _, some s') => ∃ st', parse st fs = ([], .ok st') ∧ Linked m s' st' :=
  pumpFuel_parse cm m fuel win s st hl

/-- **Revision-zero sender.** All frames of one message reassemble to it. -/
theorem C01_sendAll_reassembles (cm : Nat) (hcm : 0 < cm) (m : List α) :
    parse none (sendAll cm m) = ([m], .ok none) :=
  sendAllFuel_parse cm hcm m (m.length + 1) (Snd.start m) none (linked_start m) (Nat.lt_succ_self _)

/-- with the chunk size of the code -/
theorem C01_sendAll_reassembles_code (m : List α) :
    parse none (sendAll TunnelModel.Generated.chunkMax m) = ([m], .ok none) :=
  C01_sendAll_reassembles _ Proofs.Facts.chunkMax_pos m

/-- reassembly is compositional: reading `fs ++ gs` is reading `fs` and then
    `gs` from where that left off (no frame is looked at twice or skipped) -/
theorem C01_parse_append (st : RState α) (fs gs : List (DFrame α)) :
    parse st (fs ++ gs) =
      match parse st fs with
      | (ms, .ok st') => let (ms', r) := parse st' gs; (ms ++ ms', r)
      | (ms, .error e) => (ms, .error e) :=
  parse_append st fs gs

/-- **Any sequence of messages.** The frames of `ms`, one message after the
    other, reassemble to exactly `ms`: same number, same order, same
    boundaries, same bytes (an empty message included). -/
theorem C01_sendAll_many (cm : Nat) (hcm : 0 < cm) (ms : List (List α)) :
    parse none (ms.flatMap (sendAll cm)) = (ms, .ok none) := by
  induction ms with
  | nil => rfl
  | cons m ms ih =>
    rw [List.flatMap_cons, parse_append_ok (C01_sendAll_reassembles cm hcm m), ih]
    rfl

/-- no frame of the revision-zero sender carries more than `cm` payload bytes -/
theorem C01_sendAllFuel_chunk_le (cm : Nat) (fuel : Nat) (s : Snd α) :
    ∀ f ∈ sendAllFuel cm fuel s, f.size ≤ cm :=
  fun f hf => (Proofs.Emission.sendAllFuel_good cm fuel s f hf).2

def stLen : RState α → Nat
  | none => 0
  | some (_, b) => b.length

/-- **The reader fabricates no bytes**, whatever it is fed (well-formed or not,
    any frame kinds in any order): the messages it hands out never add up to
    more bytes than the frames carried (plus what it already held). -/
theorem C01_reader_no_fabricated_bytes (fs : List (DFrame α)) : ∀ (st : RState α),
    (((parse st fs).1.map List.length).sum) ≤ stLen st + (fs.map DFrame.size).sum := by
  induction fs with
  | nil => intro st; exact Nat.zero_le _
  | cons f fs ih =>
    intro st
    rw [parse_cons, List.map_cons, List.sum_cons, ← Nat.add_assoc]
    cases h : parseStep st f with
    | cont st' =>
      have : stLen st' = stLen st + f.size := by
        rcases parseStep_eq_cont_iff.mp h with ⟨n, d, rfl, rfl, _, rfl⟩ | ⟨n, b, d, rfl, rfl, _, rfl⟩
        · exact (Nat.zero_add _).symm
        · exact List.length_append
      rw [← this]
      exact ih st'
    | msg m =>
      have : m.length = stLen st + f.size := by
        rcases parseStep_eq_msg_iff.mp h with ⟨rfl, rfl⟩ | ⟨b, d, rfl, rfl, rfl⟩
        · exact (Nat.zero_add _).symm
        · exact List.length_append
      rw [← this]
      show ((m :: _).map List.length).sum ≤ _
      rw [List.map_cons, List.sum_cons]
      exact Nat.add_le_add_left (Nat.le_trans (ih none) (Nat.le_of_eq (Nat.zero_add _))) _
    | err e => exact Nat.zero_le _

/-- from a fresh stream: delivered bytes ≤ bytes received in data frames -/
theorem C01_reader_delivers_at_most_received (fs : List (DFrame α)) :
    (((parse none fs).1.map List.length).sum) ≤ (fs.map DFrame.size).sum :=
  Nat.le_trans (C01_reader_no_fabricated_bytes fs none) (Nat.le_of_eq (Nat.zero_add _))

/-- **A framing error is final**: once the reader has failed on a prefix,
    nothing that follows is delivered (no resynchronisation on later frames) -/
theorem C01_reader_error_final (st : RState α) (fs gs : List (DFrame α)) (e : PErr)
    (h : (parse st fs).2 = .error e) : parse st (fs ++ gs) = parse st fs := by
  rw [parse_append]
  rcases hp : parse st fs with ⟨ms, r⟩
  rw [hp] at h
  cases h
  rfl

/-- **Every delivered message has exactly the length its envelope declared**
    — for ANY frame list, malformed ones included: the reader never hands out
    a short or over-long message (or the length pending from the message in
    progress when reading started). -/
theorem C01_reader_msg_matches_envelope (fs : List (DFrame α)) : ∀ (st : RState α) (m : List α),
    m ∈ (parse st fs).1 →
    (∃ size d, DFrame.env size d ∈ fs ∧ m.length = size) ∨ (∃ n b, st = some (n, b) ∧ m.length = n) := by
  induction fs with
  | nil => intro st m h; cases h
  | cons f fs ih =>
    intro st m hm
    have later : ∀ {size d}, DFrame.env size d ∈ fs → DFrame.env size d ∈ f :: fs :=
      fun h => List.mem_cons_of_mem _ h
    rw [parse_cons] at hm
    cases h : parseStep st f with
    | cont st' =>
      rw [h] at hm
      rcases ih st' m hm with ⟨size, d, hd, hl⟩ | ⟨n, b, hst, hl⟩
      · exact .inl ⟨size, d, later hd, hl⟩
      · rcases parseStep_eq_cont_iff.mp h with ⟨n', d, rfl, rfl, _, rfl⟩ | ⟨n', b', d, rfl, rfl, _, rfl⟩
        · cases hst; exact .inl ⟨_, _, List.mem_cons_self, hl⟩
        · cases hst; exact .inr ⟨_, _, rfl, hl⟩
    | msg m' =>
      rw [h] at hm
      rcases List.mem_cons.mp hm with rfl | hm
      · rcases parseStep_eq_msg_iff.mp h with ⟨rfl, rfl⟩ | ⟨b, d, rfl, rfl, rfl⟩
        · exact .inl ⟨_, _, List.mem_cons_self, rfl⟩
        · exact .inr ⟨_, b, rfl, rfl⟩
      · rcases ih none m hm with ⟨size, d, hd, hl⟩ | ⟨n, b, hst, _⟩
        · exact .inl ⟨size, d, later hd, hl⟩
        · cases hst
    | err e => rw [h] at hm; cases hm

/-- from a fresh stream: each delivered message is announced by an envelope
    frame of exactly its length -/
theorem C01_reader_msg_has_envelope (fs : List (DFrame α)) (m : List α) (h : m ∈ (parse none fs).1) :
    ∃ size d, DFrame.env size d ∈ fs ∧ m.length = size := by
  rcases C01_reader_msg_matches_envelope fs none m h with h | ⟨n, b, hst, _⟩
  · exact h
  · cases hst

-- non-vacuity: a 5-byte message under windows 2 then 3 (chunkMax 2)
example : (pump 2 2 (Snd.start [1,2,3,4,5])).1 = [.env 5 [1,2]] := by decide +kernel
example : (parse none [DFrame.env 5 [1,2], .more [3,4], .more [5]]).1 = [[1,2,3,4,5]] := by decide +kernel
-- an error is reachable: continuation without an envelope
example : (parse (α := Nat) none [.more [1], .env 1 [2]]) = ([], .error .noEnvelope) := rfl
-- three messages, the middle one empty, chunkMax 2: five frames, three messages back
example : [[1,2,3],[],[4]].flatMap (sendAll 2) =
    [DFrame.env 3 [1,2], .more [3], .env 0 [], .env 1 [4]] := by decide +kernel

end Proofs.C01

/-! End to end over a FIFO carrier.  Each endpoint's stream object is an open
  system: what it delivers and what it puts on the wire are functions of the
  events IT sees (frames fed to it, its application's calls, context ends).  A
  FIFO, reliable-until-it-ends carrier means exactly: the frames fed to the
  receiving stream are a PREFIX of the frames the sending stream emitted.
  Under that one hypothesis and the grpc-go stream contract for the
  applications (one sender and one receiver goroutine per RPC side, no send
  after a failed send), the messages delivered are a prefix of the messages
  submitted for EVERY pair of event histories: every interleaving, message
  size, window schedule and cancellation / deadline / tear-down point.
-/

namespace Proofs.C01
open TunnelModel.LFrame TunnelModel.Framing Proofs.Delivery Proofs.Emission

variable {α : Type}

def fedFramesS (evs : List (SEv α)) : List (C2S α) :=
  evs.filterMap (fun e => match e with | .frame f => some f | _ => none)

def emittedFramesC (outs : List (COut α)) : List (C2S α) := outs.flatMap (fun o => o.frames.map (·.2))

def fedFramesC (evs : List (CEv α)) : List (S2C α) :=
  evs.filterMap (fun e => match e with | .frame f => some f | _ => none)

def emittedFramesS (outs : List (Out α)) : List (S2C α) := outs.flatMap (fun o => o.frames.map (·.2))

theorem fedData_eq_S (evs : List (SEv α)) : SEv.fedData evs = (fedFramesS evs).filterMap dataOfC2S := by
  unfold SEv.fedData fedFramesS
  rw [List.filterMap_filterMap]
  congr 1; funext e; cases e <;> rfl

theorem fedData_eq_C (evs : List (CEv α)) : CEv.fedData evs = (fedFramesC evs).filterMap dataOfS2C := by
  unfold CEv.fedData fedFramesC
  rw [List.filterMap_filterMap]
  congr 1; funext e; cases e <;> rfl

theorem emittedData_eq_C (outs : List (COut α)) :
    COut.emittedData outs = (emittedFramesC outs).filterMap dataOfC2S := by
  unfold COut.emittedData emittedFramesC
  rw [List.filterMap_flatMap]
  congr 1; funext o; rw [List.filterMap_map]; rfl

theorem emittedData_eq_S (outs : List (Out α)) :
    Out.emittedData outs = (emittedFramesS outs).filterMap dataOfS2C := by
  unfold Out.emittedData emittedFramesS
  rw [List.filterMap_flatMap]
  congr 1; funext o; rw [List.filterMap_map]; rfl

theorem prefix_filterMap {β γ} (f : β → Option γ) {l₁ l₂ : List β} (h : l₁ <+: l₂) :
    l₁.filterMap f <+: l₂.filterMap f := by
  obtain ⟨t, rfl⟩ := h
  rw [List.filterMap_append]
  exact List.prefix_append _ _

/-- the composition over the carrier: what is delivered is a prefix of what the fed data frames parse to;
    these are a prefix of the emitted ones, which parse to a prefix of what was submitted -/
theorem delivered_prefix_submitted {D S ms : List (List α)} {fed emitted : List (DFrame α)} {st : RState α}
    (hdel : D <+: (parse none fed).1) (hfed : fed <+: emitted) (hparse : parse none emitted = (ms, .ok st))
    (hms : ms <+: S) : D <+: S := by
  obtain ⟨rest, rfl⟩ := hfed
  have hmono := parse_msgs_prefix (none : RState α) fed rest
  rw [hparse] at hmono
  exact hdel.trans (hmono.trans hms)

/-- **C01, request direction (caller → handler).** -/
theorem C01_request_prefix (ccfg : CCfg) (scfg : SCfg) (hcm : 0 < ccfg.chunkMax) (sid : Sid)
    (c0 : CStream α) (s0 : SStream α)
    (hc0 : c0.psend = none) (hs0 : Fresh s0) (hfc : s0.fc = true)
    (cevs : List (CEv α)) (sevs : List (SEv α))
    (hsend : CStream.legalSends ccfg sid c0 false cevs = true)      -- one sender, no send after a failed send
    (hrecv : legalRecvsS scfg sid s0 sevs = true)                   -- one receiver
    (hfifo : fedFramesS sevs <+: emittedFramesC (CStream.runEv ccfg sid c0 cevs).2) :   -- FIFO carrier
    Out.deliveredMsgs (SStream.runEv scfg sid s0 sevs).2 <+: CEv.submitted cevs := by
  obtain ⟨ms, st, hparse, hms⟩ := client_emits_chunkings ccfg hcm sid c0 hc0 cevs hsend
  refine delivered_prefix_submitted (server_delivers_parsed_prefix scfg sid s0 hs0 hfc sevs hrecv) ?_ hparse hms
  rw [fedData_eq_S, emittedData_eq_C]
  exact prefix_filterMap _ hfifo

/-- **C01, response direction (handler → caller).**  `hreply`: a unary handler
    replies once and returns (no send after its reply). -/
theorem C01_response_prefix (ccfg : CCfg) (scfg : SCfg) (hcm : 0 < scfg.chunkMax) (sid : Sid)
    (c0 : CStream α) (s0 : SStream α)
    (hs0 : s0.psend = none) (hs0f : s0.finishAfterSend = false) (hc0 : CFresh c0) (hfc : c0.fc = true)
    (cevs : List (CEv α)) (sevs : List (SEv α))
    (hsend : SStream.legalSends scfg sid s0 false sevs = true) (hreply : sReplyIsLast sevs = true)
    (hrecv : legalRecvsC ccfg sid c0 cevs = true)
    (hfifo : fedFramesC cevs <+: emittedFramesS (SStream.runEv scfg sid s0 sevs).2) :
    COut.deliveredMsgs (CStream.runEv ccfg sid c0 cevs).2 <+: SEv.submitted sevs := by
  obtain ⟨ms, st, hparse, hms⟩ := server_emits_chunkings_partial scfg hcm sid s0 hs0 hs0f sevs hsend hreply
  refine delivered_prefix_submitted (client_delivers_parsed_prefix ccfg sid c0 hc0 hfc cevs hrecv) ?_ hparse hms
  rw [fedData_eq_C, emittedData_eq_S]
  exact prefix_filterMap _ hfifo

/-- **No fabrication, duplication or reordering**: every message the handler
    obtains is one of the submitted messages, and it obtains no more than were
    submitted (corollary of the prefix theorem). -/
theorem C01_request_no_fabrication (ccfg : CCfg) (scfg : SCfg) (hcm : 0 < ccfg.chunkMax) (sid : Sid)
    (c0 : CStream α) (s0 : SStream α) (hc0 : c0.psend = none) (hs0 : Fresh s0) (hfc : s0.fc = true)
    (cevs : List (CEv α)) (sevs : List (SEv α))
    (hsend : CStream.legalSends ccfg sid c0 false cevs = true) (hrecv : legalRecvsS scfg sid s0 sevs = true)
    (hfifo : fedFramesS sevs <+: emittedFramesC (CStream.runEv ccfg sid c0 cevs).2) :
    (∀ m ∈ Out.deliveredMsgs (SStream.runEv scfg sid s0 sevs).2, m ∈ CEv.submitted cevs) ∧
    (Out.deliveredMsgs (SStream.runEv scfg sid s0 sevs).2).length ≤ (CEv.submitted cevs).length := by
  have h := C01_request_prefix ccfg scfg hcm sid c0 s0 hc0 hs0 hfc cevs sevs hsend hrecv hfifo
  exact ⟨fun m hm => h.subset hm, h.length_le⟩

end Proofs.C01
