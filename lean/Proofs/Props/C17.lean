import TunnelModel.Context
import TunnelModel.Generated.Facts
/-!
  C17 — handlers and callers can identify the tunnel, peer and opening
  metadata; what the accessors return is a private copy.
-/
namespace Proofs.C17
open TunnelModel.Context

theorem lookup_withValue (c : Ctx) (k k' : Key) (v : Val) :
    lookup (withValue c k v) k' = if k = k' then some v else lookup c k' := by
  by_cases h : k = k' <;> simp [lookup, withValue, h]

/-- **Values of the opening call are inherited.** Every key the tunnel does not
    set itself (peer, interceptor values, …) has in a tunnelled handler's
    context exactly the value it has in the tunnel-opening call's context. -/
theorem C17_inherited (carrier : Ctx) (tmd rmd : Ref) (ts : Nat) (k : Key)
    (h1 : k ≠ kTunnelMDIncoming) (h2 : k ≠ kIncomingMD) (h3 : k ≠ kTransportStream) :
    lookup (handlerCtx carrier tmd rmd ts) k = lookup carrier k := by
  rw [handlerCtx, lookup_withValue, if_neg h3.symm, lookup_withValue, if_neg h2.symm,
    lookup_withValue, if_neg h1.symm]

/-- the handler's context carries the tunnel's opening metadata and this RPC's request metadata -/
theorem C17_handler_values (carrier : Ctx) (tmd rmd : Ref) (ts : Nat) :
    lookup (handlerCtx carrier tmd rmd ts) kTunnelMDIncoming = some (.ref tmd) ∧
    lookup (handlerCtx carrier tmd rmd ts) kIncomingMD = some (.ref rmd) := by
  constructor
  · rw [handlerCtx, lookup_withValue, if_neg (by decide), lookup_withValue, if_neg (by decide),
      lookup_withValue, if_pos rfl]
  · rw [handlerCtx, lookup_withValue, if_neg (by decide), lookup_withValue, if_pos rfl]

/-- **The reported channel is the channel that created the stream**, whatever
    the caller's context contained before (also a stale channel value). -/
theorem C17_channel (caller : Ctx) (tmd : Ref) (ch : Nat) :
    tunnelChannelFromContext (clientStreamCtx caller tmd ch) = some ch ∧
    lookup (clientStreamCtx caller tmd ch) kTunnelMDOutgoing = some (.ref tmd) := by
  constructor
  · rw [tunnelChannelFromContext, clientStreamCtx, lookup_withValue, if_pos rfl]
  · rw [clientStreamCtx, lookup_withValue, if_neg (by decide), lookup_withValue, if_pos rfl]

theorem get_copy_old (h : Heap) (r q : Ref) (hq : q < h.length) : (h.copy r).1.get q = h.get q :=
  List.getElem?_append_left hq

theorem get_copy_new (h : Heap) (r : Ref) (hr : r < h.length) :
    (h.copy r).1.get (h.copy r).2 = h.get r := by
  show (h ++ [(h[r]?).getD []])[h.length]? = h[r]?
  rw [List.getElem?_append_right (Nat.le_refl _), List.getElem?_eq_getElem hr, Nat.sub_self]; rfl

theorem get_mutate_ne (h : Heap) (r q : Ref) (f : MDObj → MDObj) (hne : q ≠ r) :
    (h.mutate r f).get q = h.get q := by
  show (h.mapIdx _)[q]? = h[q]?
  rw [List.getElem?_mapIdx]
  cases h[q]? with
  | none => rfl
  | some o => exact congrArg some (if_neg hne)

/-- **Private copy.** The accessor returns a reference that did not exist before
    (so nothing else — no context, no earlier result — can hold it), with the
    content of the tunnel metadata; mutating it in any way leaves every other
    object, in particular the tunnel's own metadata, unchanged; a later call of
    the accessor sees the original content. -/
theorem C17_private (k : Key) (h : Heap) (c : Ctx) (r : Ref) (hl : lookup c k = some (.ref r))
    (hr : r < h.length) (f : MDObj → MDObj) :
    let res := tunnelMDAccessor k h c
    ∃ r', res.2 = some r' ∧ r' = h.length ∧ res.1.get r' = h.get r ∧
      (∀ q, q < h.length → (res.1.mutate r' f).get q = h.get q) ∧
      ∃ r'', (tunnelMDAccessor k (res.1.mutate r' f) c).2 = some r'' ∧
        (tunnelMDAccessor k (res.1.mutate r' f) c).1.get r'' = h.get r := by
  have hacc : ∀ h', tunnelMDAccessor k h' c = ((h'.copy r).1, some (h'.copy r).2) := fun h' => by
    simp only [tunnelMDAccessor, hl]
  have hold : ∀ q, q < h.length → ((h.copy r).1.mutate h.length f).get q = h.get q := fun q hq =>
    (get_mutate_ne _ _ q f (Nat.ne_of_lt hq)).trans (get_copy_old h r q hq)
  rw [hacc]
  refine ⟨h.length, rfl, rfl, get_copy_new h r hr, hold, ?_⟩
  rw [hacc]
  refine ⟨_, rfl, (get_copy_new _ r ?_).trans (hold r hr)⟩
  show r < (List.mapIdx _ (h ++ _)).length
  rw [List.length_mapIdx, List.length_append]; exact Nat.lt_add_right _ hr

-- non-vacuity: a handler context over a carrier context holding a peer value under key 9
example : lookup (handlerCtx [(9, .other 77)] 0 1 5) 9 = some (.other 77) := by decide +kernel

end Proofs.C17
