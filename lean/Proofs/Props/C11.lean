import TunnelModel.Negotiate
/-! C11 — protocol revision negotiation (pure part). -/
namespace Proofs.C11
open TunnelModel.Negotiate

/-- loop invariant: after scanning `srv` the state is (max of start and the
    common elements, or-ed flag) -/
theorem selectLoop_eq (client : List Int) (srv : List Int) (u : Int) (b : Bool) :
    selectLoop client srv (u, b) =
      ((srv.filter (fun r => client.contains r)).foldl max u,
       b || (srv.filter (fun r => client.contains r)) != []) := by
  induction srv generalizing u b with
  | nil => cases b <;> rfl
  | cons r rs ih =>
    rw [selectLoop, List.filter_cons]
    cases client.contains r
    · exact ih u b
    · have : (if r > u then r else u) = max u r := by split <;> omega
      show selectLoop client rs (if r > u then r else u, true) = _
      rw [this, ih]; cases b <;> rfl

theorem foldl_max_spec (l : List Int) (a : Int) :
    (l.foldl max a = a ∨ l.foldl max a ∈ l) ∧ a ≤ l.foldl max a ∧ ∀ x ∈ l, x ≤ l.foldl max a := by
  induction l generalizing a with
  | nil => exact ⟨Or.inl rfl, Int.le_refl a, nofun⟩
  | cons x xs ih =>
    obtain ⟨h1, h2, h3⟩ := ih (max a x)
    rw [List.foldl_cons]
    refine ⟨?_, by omega, fun y hy => ?_⟩
    · rcases h1 with h1 | h1
      · rw [h1, List.mem_cons]; omega
      · exact Or.inr (List.mem_cons_of_mem _ h1)
    · rcases List.mem_cons.mp hy with rfl | hy
      · omega
      · exact h3 y hy

theorem mem_common {client server : List Int} {r : Int} :
    r ∈ common client server ↔ r ∈ (if server.isEmpty then [0] else server) ∧ r ∈ client := by
  rw [common, List.mem_filter, List.contains_iff_mem]

theorem spec_eq_some {client server : List Int} {rev : Int} (h : spec client server = some rev) :
    rev ∈ common client server ∧ ∀ x ∈ common client server, x ≤ rev := by
  unfold spec at h
  cases hc : common client server with
  | nil => rw [hc] at h; cases h
  | cons r rs =>
    rw [hc] at h
    obtain rfl := Option.some.inj h
    obtain ⟨h1, h2, h3⟩ := foldl_max_spec rs r
    refine ⟨?_, fun x hx => ?_⟩
    · rcases h1 with h1 | h1
      · rw [h1]; exact List.mem_cons_self
      · exact List.mem_cons_of_mem _ h1
    · rcases List.mem_cons.mp hx with rfl | hx
      · exact h2
      · exact h3 x hx

theorem spec_eq_none_iff {client server : List Int} :
    spec client server = none ↔ common client server = [] := by
  unfold spec; cases common client server <;> simp

/-- The loop for ANY client list: it fails iff there is no common revision, and otherwise returns the
    maximum of 0 and the common revisions (`select [-1] [-1] = some 0`, while `spec [-1] [-1] = some (-1)`:
    the hypothesis of `C11_select_eq_spec` is needed for the value, not for the failure). -/
theorem select_eq (client server : List Int) :
    select client server =
      match common client server with
      | [] => none
      | l => some (l.foldl max 0) := by
  unfold select common
  generalize (if server.isEmpty then [0] else server) = srv
  simp only [selectLoop_eq, Bool.false_or]
  cases srv.filter (fun r => client.contains r) <;> rfl

theorem select_eq_none_iff (client server : List Int) :
    select client server = none ↔ common client server = [] := by
  rw [select_eq]; cases common client server <;> simp

/-- **C11 (selection).** The revision the client chooses is the highest one
    both ends support; an empty list is revision zero; no common revision is an
    error.  Hypothesis: the client's own revisions are non-negative, as
    `supportedRevisions` always returns. -/
theorem C11_select_eq_spec (client server : List Int) (hc : ∀ r ∈ client, 0 ≤ r) :
    select client server = spec client server := by
  rw [select_eq, spec]
  cases hf : common client server with
  | nil => rfl
  | cons r rs =>
    -- the loop starts from 0, the specification from the first common revision `r ≥ 0`
    have : 0 ≤ r := hc r (mem_common.mp (hf ▸ List.mem_cons_self)).2
    have : max 0 r = r := by omega
    show some (rs.foldl max (max 0 r)) = some (rs.foldl max r)
    rw [this]

/-- the chosen revision is supported by both ends and no common one is higher -/
theorem C11_select_sound (client server : List Int) (hc : ∀ r ∈ client, 0 ≤ r) (rev : Int)
    (h : select client server = some rev) :
    rev ∈ client ∧ rev ∈ (if server.isEmpty then [0] else server) ∧
    ∀ r ∈ client, r ∈ (if server.isEmpty then [0] else server) → r ≤ rev := by
  rw [C11_select_eq_spec client server hc] at h
  obtain ⟨hm, hmax⟩ := spec_eq_some h
  obtain ⟨hs, hcl⟩ := mem_common.mp hm
  exact ⟨hcl, hs, fun r hrc hrs => hmax r (mem_common.mpr ⟨hrs, hrc⟩)⟩

/-- **No common revision ⇔ error.** The selection fails exactly when no
    revision is in both lists (an empty server list standing for `[0]`): it never
    fails while a common revision exists and never proceeds without one. -/
theorem C11_select_none_iff (client server : List Int) (hc : ∀ r ∈ client, 0 ≤ r) :
    select client server = none ↔
      ∀ r ∈ client, r ∉ (if server.isEmpty then [0] else server) := by
  rw [select_eq_none_iff, List.eq_nil_iff_forall_not_mem]
  exact ⟨fun h r hr hs => h r (mem_common.mpr ⟨hs, hr⟩),
    fun h r hr => h r (mem_common.mp hr).2 (mem_common.mp hr).1⟩

theorem supportedRevisions_nonneg (d : Bool) : ∀ r ∈ supportedRevisions d, 0 ≤ r := by
  cases d <;> decide

/-- **C11 (iff).** Over all 3×3 configurations: flow control (revision 1) is
    used exactly when both ends advertise and neither disabled it; otherwise
    revision 0 is used; negotiation never fails between these peers. -/
theorem C11_iff (c s : Peer) :
    revisionUsed c s = some (if c = .enabled ∧ s = .enabled then 1 else 0) := by
  cases c <;> cases s <;> decide

/-- settings are exchanged exactly when both ends advertise negotiation -/
theorem C11_settings_iff (c s : Peer) :
    settingsSent c s = (c.advertises && s.advertises) ∧
    settingsAwaited c s = (c.advertises && s.advertises) := by
  cases c <;> cases s <;> exact ⟨rfl, rfl⟩

/-- a settings frame listing no revisions is treated as revision zero -/
theorem C11_empty_is_zero (d : Bool) : select (supportedRevisions d) [] = some 0 := by
  cases d <;> decide

/-- unknown and duplicate revisions are harmless -/
example : select (supportedRevisions false) [7, 1, 1, 0, 7] = some 1 := by decide +kernel
example : select (supportedRevisions true) [7, 1, 1, 0, 7] = some 0 := by decide +kernel
/-- no common revision ⇒ error -/
example : select (supportedRevisions false) [2, 7] = none := by decide +kernel

end Proofs.C11
