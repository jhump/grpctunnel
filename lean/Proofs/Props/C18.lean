import TunnelModel.Timeout
/-!
  C18 — a grpc-timeout request header becomes exactly that handler deadline.
-/
namespace Proofs.C18
open TunnelModel.Timeout

theorem digitsVal_eq (ds : List Nat) (acc : Nat) :
    digitsVal acc ds = if ds.all isDigit then some (ds.foldl (fun a c => a * 10 + (c - 48)) acc) else none := by
  induction ds generalizing acc with
  | nil => rfl
  | cons c cs ih =>
    rw [digitsVal, List.all_cons, List.foldl_cons, ih]
    cases isDigit c <;> rfl

/-- one link of a chain `if … then some a else …` whose values are all positive -/
theorem ite_some_pos {c : Prop} [Decidable c] {a n : Nat} {x : Option Nat}
    (h : (if c then some a else x) = some n) (ha : 0 < a) (hx : x = some n → 0 < n) : 0 < n := by
  split at h
  · exact Option.some.inj h ▸ ha
  · exact hx h

theorem unitNs_pos {u ns : Nat} (h : unitNs u = some ns) : 0 < ns :=
  ite_some_pos h (by decide) fun h => ite_some_pos h (by decide) fun h =>
  ite_some_pos h (by decide) fun h => ite_some_pos h (by decide) fun h =>
  ite_some_pos h (by decide) fun h => ite_some_pos h (by decide) nofun

/-- the overflow test of the code is saturation at `maxDur` -/
theorem satMul_eq (t : Nat) {ns : Nat} (hpos : 0 < ns) :
    (if t > maxDur / ns then some maxDur else some (t * ns)) = some (min (t * ns) maxDur) := by
  simp only [gt_iff_lt, Nat.div_lt_iff_lt_mul hpos]
  split
  · rw [Nat.min_eq_right (Nat.le_of_lt ‹_›)]
  · rw [Nat.min_eq_left (Nat.le_of_not_lt ‹_›)]

/-- **C18 (main).** For every list of header values the code's result is the
    specification's: exact duration for a well-formed last value (saturating),
    no deadline for anything malformed. -/
theorem C18_parse_eq_spec (vals : List (List Nat)) : parse vals = spec vals := by
  unfold parse spec
  cases vals.getLast? with
  | none => rfl
  | some s =>
    show (if s.length < 2 ∨ s.length > 9 then none else _) =
      if wellFormed s then some (specValue s) else none
    unfold wellFormed specValue natOfDigits
    cases hu : s.getLast? with
    | none => rw [List.getLast?_eq_none_iff.mp hu]; rfl
    | some u =>
      rw [digitsVal_eq, List.length_dropLast]
      cases hd : s.dropLast.all isDigit
      · simp
      · cases hn : unitNs u with
        | none => simp [hn]
        | some ns =>
          by_cases hl : s.length < 2 ∨ s.length > 9
          · simp [hl]; omega
          · have h1 : 1 ≤ s.length - 1 := by omega
            have h2 : s.length ≤ 9 := by omega
            simp [hl, hn, satMul_eq _ (unitNs_pos hn), h1, h2]

theorem spec_snoc (hs : List (List Nat)) (v : List Nat) :
    spec (hs ++ [v]) = if wellFormed v then some (specValue v) else none := by
  unfold spec; rw [List.getLast?_concat]

theorem specValue_snoc (ds : List Nat) (u : Nat) :
    specValue (ds ++ [u]) = min (natOfDigits ds * (unitNs u).getD 0) maxDur := by
  unfold specValue; rw [List.getLast?_concat, List.dropLast_concat]

/-- malformed values never produce (hence never shorten) a deadline -/
theorem C18_malformed (hs : List (List Nat)) (v : List Nat) (h : wellFormed v = false) :
    parse (hs ++ [v]) = none := by
  rw [C18_parse_eq_spec, spec_snoc, h]; rfl

/-- well-formed values produce exactly the encoded duration, saturated -/
theorem C18_wellformed (hs : List (List Nat)) (v : List Nat) (h : wellFormed v = true) :
    parse (hs ++ [v]) = some (specValue v) := by
  rw [C18_parse_eq_spec, spec_snoc, h]; rfl

/-- the result never exceeds the representable range (no wrap-around) -/
theorem C18_saturates (vals : List (List Nat)) (d : Nat) (h : parse vals = some d) : d ≤ maxDur := by
  rw [C18_parse_eq_spec] at h
  unfold spec at h
  split at h
  · cases h
  · split at h
    · cases h; unfold specValue; split
      · exact Nat.zero_le _
      · exact Nat.min_le_right _ _
    · cases h

/-- no `grpc-timeout` header at all ⇒ no deadline is set -/
theorem C18_no_header : parse [] = none := rfl

/-- only the last `grpc-timeout` value counts: earlier values neither add nor
    remove a deadline (the code reads `vals[len(vals)-1]`) -/
theorem C18_last_wins (hs : List (List Nat)) (v : List Nat) :
    parse (hs ++ [v]) = parse [v] := by
  unfold parse; rw [List.getLast?_concat]; rfl

/-- exactness below the range limit, stated without `min`: digits `ds`, unit
    `u` worth `ns` nanoseconds, product representable ⇒ exactly the product -/
theorem C18_exact (hs : List (List Nat)) (ds : List Nat) (u ns : Nat)
    (hw : wellFormed (ds ++ [u]) = true) (hu : unitNs u = some ns)
    (hfit : natOfDigits ds * ns ≤ maxDur) :
    parse (hs ++ [ds ++ [u]]) = some (natOfDigits ds * ns) := by
  rw [C18_wellformed hs _ hw, specValue_snoc, hu]
  exact congrArg some (Nat.min_eq_left hfit)

/-- saturation, stated without `min`: product beyond the range ⇒ exactly the
    largest representable duration (never a wrapped, shorter one) -/
theorem C18_clamped (hs : List (List Nat)) (ds : List Nat) (u ns : Nat)
    (hw : wellFormed (ds ++ [u]) = true) (hu : unitNs u = some ns)
    (hbig : maxDur ≤ natOfDigits ds * ns) :
    parse (hs ++ [ds ++ [u]]) = some maxDur := by
  rw [C18_wellformed hs _ hw, specValue_snoc, hu]
  exact congrArg some (Nat.min_eq_right hbig)

/-- the deadline is monotone in the encoded number: with the same unit, a
    numerically larger value never yields a shorter deadline (a wrap-around
    in the multiplication would break exactly this) -/
theorem C18_monotone (ds ds' : List Nat) (u : Nat)
    (h : natOfDigits ds ≤ natOfDigits ds') :
    specValue (ds ++ [u]) ≤ specValue (ds' ++ [u]) := by
  rw [specValue_snoc, specValue_snoc]
  have := Nat.mul_le_mul_right ((unitNs u).getD 0) h
  omega

-- non-vacuity: "20S" is well-formed and means 20 s; "99999999H" saturates; "-5S" is malformed
example : parse [[50, 48, 83]] = some 20000000000 := by decide +kernel
example : wellFormed [57,57,57,57,57,57,57,57,72] = true ∧
    parse [[57,57,57,57,57,57,57,57,72]] = some maxDur := by decide +kernel
example : wellFormed [45, 53, 83] = false ∧ parse [[45, 53, 83]] = none := by decide +kernel
-- C18_exact / C18_clamped premises are satisfiable: "20S" fits, "99999999H" does not
example : wellFormed ([50, 48] ++ [83]) = true ∧ unitNs 83 = some 1000000000 ∧
    natOfDigits [50, 48] * 1000000000 ≤ maxDur := by decide +kernel
example : wellFormed ([57,57,57,57,57,57,57,57] ++ [72]) = true ∧ unitNs 72 = some 3600000000000 ∧
    maxDur ≤ natOfDigits [57,57,57,57,57,57,57,57] * 3600000000000 := by decide +kernel

end Proofs.C18
