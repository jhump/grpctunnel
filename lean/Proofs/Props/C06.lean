import Proofs.Props.C05
/-!
  C06 — flow-control windows are respected by senders and enforced by
  receivers.  Sender-side statements are over every schedule of the L-atomic
  model; receiver-side statements are over every sequence of operations on the
  receiver alone, i.e. against an arbitrary (hostile) sender.
-/
namespace Proofs.C06
open TunnelModel.FlowStep Proofs.FlowStep Proofs.C05

/-- **Sender respects the window.** At every point of every execution the
    bytes handed to the carrier never exceed the advertised window plus the
    credit that has been delivered to the sender. -/
theorem C06_sender {W cm : Nat} (hcm : 0 < cm) {msgs : List Nat} {s : St}
    (h : Reachable W cm msgs s) : s.sent ≤ W + s.credited := by
  have := (reachable_inv hcm h).ledger.sent
  omega

/-- **Chunk bound.** Every data frame on the wire or in the queue carries at
    most `chunkMax` bytes. -/
theorem C06_chunk {W cm : Nat} (hcm : 0 < cm) {msgs : List Nat} {s : St}
    (h : Reachable W cm msgs s) : ∀ k ∈ s.dataWire ++ s.queue, k ≤ cm := by
  have hc := (inv_iff.mp (reachable_inv hcm h)).2.2.2.1
  intro k hk
  exact (List.mem_append.mp hk).elim (hc.wire k) (hc.queue k)

/-- with the constants of the code: at most 16384 bytes per frame -/
theorem C06_chunk_code {msgs : List Nat} {s : St}
    (h : Reachable TunnelModel.Generated.initialWindowSize TunnelModel.Generated.chunkMax msgs s) :
    ∀ k ∈ s.dataWire ++ s.queue, k ≤ 16384 := by
  have := C06_chunk Proofs.Facts.chunkMax_pos h
  rw [Proofs.Facts.chunkMax_eq] at this
  exact this

/-- **Credit never exceeds consumption.** The credit a receiver has put on the
    wire is at most what its application actually dequeued; credit applied at
    the sender is at most credit granted. -/
theorem C06_credit {W cm : Nat} (hcm : 0 < cm) {msgs : List Nat} {s : St}
    (h : Reachable W cm msgs s) : s.granted ≤ s.dequeued ∧ s.credited ≤ s.granted := by
  have hl := (reachable_inv hcm h).ledger
  exact ⟨hl.granted ▸ Nat.le_add_right _ _, hl.credited ▸ Nat.le_add_right _ _⟩

/-- **A conforming sender never trips the receiver's check**, under any
    interleaving. -/
theorem C06_no_overrun {W cm : Nat} (hcm : 0 < cm) {msgs : List Nat} {s : St}
    (h : Reachable W cm msgs s) : s.overrun = false :=
  (reachable_inv hcm h).2.2.1

def RInv (W : Nat) (r : Rcv) : Prop := r.rwin + r.queue.sum ≤ W

theorem rinv_step {W : Nat} (r : Rcv) (a : RAct) (h : RInv W r) : RInv W (r.step a) := by
  unfold RInv at *
  cases a with
  | accept k =>
    simp only [Rcv.step, Rcv.accept]
    split
    · exact h
    · split
      · exact h
      · simp only [List.sum_append, List.sum_cons, List.sum_nil]; omega
  | close => exact h
  | cancel => exact Nat.le_trans (Nat.le_add_right _ _) h
  | dequeue =>
    simp only [Rcv.step, Rcv.dequeue]
    split
    · exact h
    · split
      · rename_i k q hq; rw [hq, List.sum_cons] at h; simp only; omega
      · split <;> exact h

theorem rinv_run {W : Nat} (acts : List RAct) : ∀ r : Rcv, RInv W r → RInv W (acts.foldl Rcv.step r) := by
  induction acts with
  | nil => intro r h; exact h
  | cons a as ih => intro r h; exact ih _ (rinv_step r a h)

/-- **Receiver never buffers more than its window**, for every sequence of
    frames any peer can send interleaved in any way with reads, closes and
    cancels. -/
theorem C06_receiver_bounded (W : Nat) (acts : List RAct) :
    ((acts.foldl Rcv.step (Rcv.init W)).queue.sum) ≤ W := by
  have h := rinv_run (W := W) acts (Rcv.init W) (by simp [RInv, Rcv.init])
  unfold RInv at h; omega

/-- **Overrun is refused.** A frame larger than the remaining window is never
    queued: `accept` answers `windowExceeded` (the stream is then failed with
    ResourceExhausted) and the receiver's state is unchanged. -/
theorem C06_overrun_refused (r : Rcv) (k : Nat) (hc : r.closed = false) (hk : k > r.rwin) :
    r.accept k = (r, .windowExceeded) := by
  simp [Rcv.accept, hc, hk]

/-- a frame that fits is queued and charged exactly its size -/
theorem C06_accept_ok (r : Rcv) (k : Nat) (hc : r.closed = false) (hk : k ≤ r.rwin) :
    r.accept k = ({ r with rwin := r.rwin - k, queue := r.queue ++ [k] }, .ok) := by
  have : ¬ k > r.rwin := by omega
  simp [Rcv.accept, hc, this]

-- non-vacuity: window 4, frames 3 then 2: the second is refused
example : ((Rcv.init 4).accept 3).1.accept 2 = (((Rcv.init 4).accept 3).1, .windowExceeded) := by decide

end Proofs.C06
