import Proofs.Lemmas.FlowStep
import Proofs.Props.C15
import Proofs.Facts
/-!
  C05 — flow control never strands a sender (no lost wake-up, leak or
  deadlock).  Property theorems only; all are over *every* schedule of atomic
  actions (`List Act`, arbitrary length), every window `W > 0`, every
  `chunkMax > 0` and every workload of message sizes.
-/
namespace Proofs.C05
open TunnelModel.FlowStep Proofs.FlowStep

def Reachable (W cm : Nat) (msgs : List Nat) (s : St) : Prop :=
  ∃ as, run cm (init W msgs) as = some s

theorem reachable_inv {W cm : Nat} (hcm : 0 < cm) {msgs : List Nat} {s : St}
    (h : Reachable W cm msgs s) : Inv W cm s := by
  obtain ⟨as, hr⟩ := h
  exact inv_run hcm as (inv_init W cm msgs) hr

/-- **Conservation of credit.** Window + reserved + data in flight + queued +
    credit owed + credit in flight is always exactly the agreed window. -/
theorem C05_conservation {W cm : Nat} (hcm : 0 < cm) {msgs : List Nat} {s : St}
    (h : Reachable W cm msgs s) :
    s.win + s.spc.reserve + s.dataWire.sum + s.queue.sum + s.rpc.pendingCredit + s.creditWire.sum = W :=
  (reachable_inv hcm h).1

/-- **No lost wake-up (sender).** A sender that is parked (or has just loaded a
    zero window) while the window is positive always has a wake-up token
    waiting or a signal about to be offered. -/
theorem C05_no_lost_wakeup {W cm : Nat} (hcm : 0 < cm) {msgs : List Nat} {s : St}
    (h : Reachable W cm msgs s) (hp : s.spc = .parked ∨ s.spc = .loaded 0) (hw : 0 < s.win) :
    s.token = true ∨ s.upc = .added 0 :=
  (reachable_inv hcm h).2.2.2.1 hp hw

/-- **No lost wake-up (reader).** A reader is in `cond.Wait` only while the
    queue is empty. -/
theorem C05_reader_no_lost_wakeup {W cm : Nat} (hcm : 0 < cm) {msgs : List Nat} {s : St}
    (h : Reachable W cm msgs s) (hw : s.rpc = .waiting) : s.queue = [] :=
  (reachable_inv hcm h).2.2.2.2.1 hw

/-- nothing can move except the application starting a read (or a cancel):
    the quiescent states a scheduler-independent observer sees -/
def Settled (cm : Nat) (s : St) : Prop :=
  ∀ a, a ≠ Act.rStart → a ≠ Act.cancel → enabled cm s a = false

/-- **Blocked only behind a full unread window.** In a settled state a parked
    sender means the receiving application has left exactly `W` bytes unread. -/
theorem C05_blocked_only_if_full {W cm : Nat} (hcm : 0 < cm) {msgs : List Nat} {s : St}
    (h : Reachable W cm msgs s) (hq : Settled cm s) (hp : s.spc = .parked) : s.queue.sum = W := by
  obtain ⟨hl, hwake, _⟩ := inv_iff.mp (reachable_inv hcm h)
  obtain ⟨hd, hc, hu, hr, ht, _⟩ := quiescent_spec hq
  have hcons := hl.conservation
  rw [hp, hwake.win_zero hp (ht hp) hu, hd, hc, hr] at hcons
  simpa using hcons

/-- **Whole window restored.** In a settled state in which the application has
    read everything, the sender's window is the full `W` again. -/
theorem C05_restored {W cm : Nat} (hcm : 0 < cm) {msgs : List Nat} {s : St}
    (h : Reachable W cm msgs s) (hq : Settled cm s) (he : s.queue = []) : s.win = W := by
  have hinv := reachable_inv hcm h
  obtain ⟨hd, hc, _, hr, _, hcur⟩ := quiescent_spec hq
  have hres : s.spc.reserve = 0 := by
    cases hs : s.spc with
    | reserved k =>
      obtain ⟨rem, hrem, _⟩ := hinv.sender.reserved k hs
      rw [hcur k hs] at hrem; cases hrem
    | _ => rfl
  have hcons := hinv.ledger.conservation
  rw [hres, hd, hc, hr, he] at hcons
  simpa using hcons

/-- **No deadlock.** Unless the stream was cancelled, every reachable state in
    which something is still unsent, undelivered, unread or uncredited has an
    enabled action (the application is assumed willing to read). -/
theorem C05_no_stuck {W cm : Nat} (hW : 0 < W) (hcm : 0 < cm) {msgs : List Nat} {s : St}
    (h : Reachable W cm msgs s) (hc : s.cancelled = false) (hf : s.final = false) :
    ∃ a, a ≠ Act.cancel ∧ enabled cm s a = true :=
  no_stuck hW (reachable_inv hcm h) hc hf

/-- **Every execution is finite**: a schedule from the initial state has at
    most `14·(total bytes + number of messages) + 5` actions, whatever the
    interleaving and the reader's pacing. -/
theorem C05_terminates {W cm : Nat} (hcm : 0 < cm) (msgs : List Nat) (as : List Act) {s : St}
    (hr : run cm (init W msgs) as = some s) : as.length ≤ 14 * (msgs.sum + msgs.length) + 5 := by
  have := run_length_le hcm as (inv_init W cm msgs) hr
  rw [measure_init] at this
  omega

theorem cancelled_run {cm : Nat} (as : List Act) {s s' : St} (hr : run cm s as = some s')
    (hn : Act.cancel ∉ as) : s'.cancelled = s.cancelled :=
  (isRun cm).preserves_of_forall (P := fun t => t.cancelled = s.cancelled) (A := (· ≠ Act.cancel))
    (fun ha hp hs => (cancelled_step hs ha).trans hp) (fun _ ha e => hn (e ▸ ha)) rfl hr

theorem sent_remaining_run {W cm : Nat} (hcm : 0 < cm) (T : Nat) (as : List Act) {s s' : St}
    (h : Inv W cm s) (ht : s.sent + s.remaining = T) (hr : run cm s as = some s') :
    s'.sent + s'.remaining = T :=
  ((isRun cm).preserves (P := fun s => Inv W cm s ∧ s.sent + s.remaining = T)
    (fun h hs => ⟨inv_step hcm h.1 hs, ((step_spec hs).sent_remaining h.1.sender).trans h.2⟩) ⟨h, ht⟩ hr).2

/-- **Streams of any volume complete.** A schedule without `cancel` that
    cannot be extended (no action other than `cancel` is enabled) ends in the
    final state, and the application has received exactly the bytes that were
    submitted.  With `C05_no_stuck` and `C05_terminates`: every maximal
    execution is finite and ends like this. -/
theorem C05_completes {W cm : Nat} (hW : 0 < W) (hcm : 0 < cm) (msgs : List Nat) (as : List Act) {s : St}
    (hr : run cm (init W msgs) as = some s) (hn : Act.cancel ∉ as)
    (hmax : ∀ a, a ≠ Act.cancel → enabled cm s a = false) :
    s.final = true ∧ s.dequeued = msgs.sum := by
  have hinv := inv_run hcm as (inv_init W cm msgs) hr
  have hc : s.cancelled = false := by rw [cancelled_run as hr hn]; rfl
  have hf : s.final = true := by
    cases hf : s.final with
    | true => rfl
    | false =>
      obtain ⟨a, ha, he⟩ := no_stuck hW hinv hc hf
      rw [hmax a ha] at he; cases he
  refine ⟨hf, ?_⟩
  have ht := sent_remaining_run hcm msgs.sum as (inv_init W cm msgs)
    (by simp only [init, St.remaining, Option.getD_none, Nat.zero_add]) hr
  obtain ⟨h1, h2, _, h4, h5, _⟩ := final_iff.mp hf
  have hflow := hinv.ledger.wire
  rw [St.remaining, h1, h2] at ht
  rw [h4, h5] at hflow
  simp only [Option.getD_none, List.sum_nil] at ht hflow
  omega

/-- instantiated with the constants regenerated from the code -/
theorem C05_completes_code (msgs : List Nat) (as : List Act) {s : St}
    (hr : run TunnelModel.Generated.chunkMax (init TunnelModel.Generated.initialWindowSize msgs) as = some s)
    (hn : Act.cancel ∉ as)
    (hmax : ∀ a, a ≠ Act.cancel → enabled TunnelModel.Generated.chunkMax s a = false) :
    s.final = true ∧ s.dequeued = msgs.sum :=
  C05_completes (by decide) Proofs.Facts.chunkMax_pos msgs as hr hn hmax

-- non-vacuity: a concrete schedule in which the sender parks behind a full
-- window (W = 4, chunkMax = 2, one 6-byte message, reader reads nothing)
example :
    let as := [Act.sLoad, .sCas, .sEmit, .sLoad, .sCas, .sEmit, .sLoad, .sPark, .deliver, .deliver]
    (run 2 (init 4 [6]) as).map (fun s => (s.spc, s.queue, s.win)) = some (SPc.parked, [2, 2], 0) := by
  decide

/-- **Code-level premise of the atomic-action model** (regenerated from the
    sources on every run): no carrier `Send`, window-update callback, send
    callback or user callback is invoked while holding a mutex that a receive
    loop needs — in particular the receiver's window update goes out with the
    receiver's mutex released, so `deliver` (`accept`) is always enabled, as
    the model assumes, even when the carrier is full. -/
theorem C05_no_blocking_call_under_loop_lock :
    (Proofs.C15.blockingAllowed.filter Proofs.C15.loopLocks.contains) = [] ∧
    (TunnelModel.Generated.accessTable.filter (fun a => a.how == "call" &&
        (match Proofs.C15.protOf a with | some (.callUnder _) => true | _ => false) &&
        a.held.any Proofs.C15.loopLocks.contains)) = [] :=
  Proofs.C15.C15_blocking_calls_hold_no_loop_lock

/-- **One model action = one atomic operation of the code** (regenerated from
    the sources on every run).  `updateWindow` touches the window with exactly
    one atomic `Add` — whose result also gives the previous value, action
    `uAdd` — and `send` with a `Load` (action `sLoad`) followed by a
    `CompareAndSwap` (action `sCas`).  A "read, then add" in `updateWindow`
    would make `uAdd` two steps with the sender's CAS in between: a lost
    wake-up the model cannot exhibit. -/
theorem C05_actions_are_single_atomic_ops :
    Proofs.C15.atomicOps TunnelModel.Generated.accessTable "defaultSender.updateWindow" "defaultSender" "currentWindow" = ["Add"] ∧
    Proofs.C15.atomicOps TunnelModel.Generated.accessTable "defaultSender.send" "defaultSender" "currentWindow" = ["Load", "CompareAndSwap"] := by
  rw [Proofs.C15.atomicOps_eq_key, Proofs.C15.atomicOps_eq_key]; decide +kernel

/-- **Bounded transport buffering cannot stall a receive loop** (code-level
    premise, regenerated from the sources on every run): no function that can
    run on a receive-loop goroutine performs a carrier `Send` or invokes a
    callback that does — close, cancel and rejection frames are sent from
    goroutines of their own, window updates by the reading application — so the
    loops always return to `Recv` and keep draining the carrier however full
    the opposite direction is. -/
theorem C05_receive_loops_never_send :
    Proofs.C15.loopSendViolations TunnelModel.Generated.accessTable = [] ∧
    Proofs.C15.loopRootIds.length = Proofs.C15.loopRoots.length :=
  Proofs.C15.C15_receive_loops_never_send

end Proofs.C05
