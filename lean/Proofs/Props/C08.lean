import Proofs.Lemmas.Server
import Proofs.Lemmas.ClientInv
import Proofs.Props.C10
import Proofs.Lemmas.IdAlloc
import Proofs.Lemmas.LockTable
/-!
  C08 — stream ids unique and increasing; one RPC, one handler invocation
  (server side first: id validation and dispatch; then the client's allocation).
  Four parts: id validation on `new_stream`; dispatch by method name, sound and complete; the limits of the
  client's id counter; concurrent `NewStream` callers under `streamCreation`, with the code premise from C15.
-/
namespace Proofs.C08
open TunnelModel TunnelModel.LFrame Proofs.Server Proofs.ServerOps

variable {α : Type}

/-- **Refusal of reused ids.** A `new_stream` whose id is not greater than all
    ids seen so far (or is active) ends the tunnel with an error and creates
    nothing. -/
theorem C08_refuse_reused (cfg : SCfg) (s : Srv α) (sid : Sid) (m : List Nat) (md : MD) (rev : Int) (win : Nat)
    (hret : s.returned = none) (hold : sid ≤ s.lastSeen ∨ sid ∈ s.table) :
    (s.onFrame cfg sid (.newStream m md rev win)).1.returned.isSome = true ∧
    ids (s.onFrame cfg sid (.newStream m md rev win)).1 = ids s := by
  rw [Srv.onFrame_newStream, hret]
  have hviol : ∀ tag, (s.serveReturns (some tag)).1.returned.isSome = true ∧ ids (s.serveReturns (some tag)).1 = ids s :=
    fun tag => ⟨by rw [serveReturns_eq]; rfl, (serveReturns_ids s _).1⟩
  have hnot : s.table.contains sid = false → s.lastSeen < sid → False := by
    intro h1 h2
    rcases hold with h | h
    · exact absurd h (Int.not_le.mpr h2)
    · rw [List.contains_iff_mem.mpr h] at h1; cases h1
  exact createStream_elim
    (motive := fun r => r.1.returned.isSome = true ∧ ids r.1 = ids s) cfg s sid m md rev win
    (fun tag _ => hviol tag) (fun _ _ h1 h2 _ => (hnot h1 h2).elim) (fun _ _ _ h1 h2 _ _ _ _ => (hnot h1 h2).elim)

/-- **Frames for ids never created end the tunnel.** -/
theorem C08_never_created (cfg : SCfg) (s : Srv α) (sid : Sid) (f : C2S α)
    (hret : s.returned = none) (hnew : ∀ m md rev win, f ≠ .newStream m md rev win)
    (hnt : s.getStream sid = none) (hfresh : ¬ sid ≤ s.lastSeen) :
    (s.onFrame cfg sid f).1.returned = some (some "never_created") := by
  rw [Srv.onFrame_other cfg s sid hnew, hret, hnt]
  show (if sid ≤ s.lastSeen then (s, {}) else s.serveReturns (some "never_created")).1.returned = _
  rw [if_neg hfresh, serveReturns_eq]

/-- **Frames for ids already finished with are ignored** (no state change, no
    output). -/
theorem C08_ignore_finished (cfg : SCfg) (s : Srv α) (sid : Sid) (f : C2S α)
    (hret : s.returned = none) (hnew : ∀ m md rev win, f ≠ .newStream m md rev win)
    (hnt : s.getStream sid = none) (hseen : sid ≤ s.lastSeen) :
    s.onFrame cfg sid f = (s, {}) :=
  Proofs.C10.C10_later_frames_ignored cfg s sid f hret hnew hnt hseen

/-- **Ids are accepted at most once and in strictly increasing order**, for
    every history of frames (any peer), handler calls, ticks and flag changes:
    the ids of all stream objects ever created are pairwise increasing in
    creation order, and none exceeds the high-water mark. -/
theorem C08_ids_increasing (cfg : SCfg) (xs : List (SStim α)) :
    (ids (Srv.run cfg ({} : Srv α) xs).1).Pairwise (· < ·) ∧
    ∀ i ∈ ids (Srv.run cfg ({} : Srv α) xs).1, i ≤ (Srv.run cfg ({} : Srv α) xs).1.lastSeen := by
  have := sinv_run cfg xs ({} : Srv α) sinv_init
  exact ⟨this.2, this.1⟩

/-- a stream object is created only for an id above the previous high-water mark -/
theorem C08_accept_fresh (cfg : SCfg) (s : Srv α) (sid : Sid) (m : List Nat) (md : MD) (rev : Int) (win : Nat)
    (h : ids (s.createStream cfg sid m md rev win).1 ≠ ids s) :
    s.lastSeen < sid ∧ ids (s.createStream cfg sid m md rev win).1 = ids s ++ [sid] := by
  rcases createStream_ids cfg s sid m md rev win with ⟨hi, _⟩ | ⟨hi, hlt, _⟩
  · exact absurd hi h
  · exact ⟨hlt, hi⟩

theorem splitAtSlash_spec : ∀ (n a b : Method.Name), Method.splitAtSlash n = some (a, b) →
    n = a ++ 47 :: b ∧ 47 ∉ a := by
  intro n
  induction n with
  | nil => intro a b h; simp [Method.splitAtSlash] at h
  | cons c cs ih =>
    intro a b h
    simp only [Method.splitAtSlash] at h
    by_cases hc : c = 47
    · simp [hc] at h; obtain ⟨h1, h2⟩ := h; subst h1 h2; simp [hc]
    · simp only [hc, if_false] at h
      cases hr : Method.splitAtSlash cs with
      | none => simp [hr] at h
      | some p =>
        obtain ⟨a', b'⟩ := p
        simp [hr] at h
        obtain ⟨h1, h2⟩ := h
        subst h1 h2
        obtain ⟨e, hn⟩ := ih a' b' hr
        refine ⟨by simp [e], ?_⟩
        intro hm
        rcases List.mem_cons.mp hm with h47 | h47
        · exact hc h47.symm
        · exact hn h47

theorem findIdx_spec {β} (p : β → Bool) : ∀ (l : List β) (i j : Nat) (x : β),
    Method.findIdx p l i = some (j, x) → p x = true ∧ i ≤ j ∧ l[j - i]? = some x := by
  intro l
  induction l with
  | nil => intro i j x h; simp [Method.findIdx] at h
  | cons y ys ih =>
    intro i j x h
    simp only [Method.findIdx] at h
    by_cases hp : p y = true
    · simp [hp] at h; obtain ⟨h1, h2⟩ := h; subst h1 h2; simp [hp]
    · simp only [hp, Bool.false_eq_true, if_false] at h
      obtain ⟨h1, h2, h3⟩ := ih (i + 1) j x h
      refine ⟨h1, by omega, ?_⟩
      have : j - i = (j - (i + 1)) + 1 := by omega
      rw [this]; simpa using h3

theorem findIdx_none_iff {β} (p : β → Bool) : ∀ (l : List β) (i : Nat),
    Method.findIdx p l i = none ↔ ∀ x ∈ l, p x = false := by
  intro l
  induction l with
  | nil => intro i; exact ⟨fun _ x hx => (nomatch hx), fun _ => rfl⟩
  | cons y ys ih =>
    intro i
    rw [Method.findIdx, List.forall_mem_cons]
    by_cases hp : p y = true
    · rw [if_pos hp, hp]
      exact ⟨fun h => (nomatch h), fun h => (nomatch h.1)⟩
    · rw [if_neg hp, ih (i + 1)]
      rw [Bool.not_eq_true] at hp
      exact ⟨fun h => ⟨hp, h⟩, fun h => h.2⟩

theorem findIdx_beq_none_iff {β γ} [BEq γ] [LawfulBEq γ] (g : β → γ) (m : γ) (l : List β) :
    Method.findIdx (fun x => g x == m) l 0 = none ↔ m ∉ l.map g := by
  rw [findIdx_none_iff, List.mem_map]
  constructor
  · rintro h ⟨x, hx, rfl⟩
    have := h x hx
    rw [beq_self_eq_true] at this; cases this
  · intro h x hx
    cases hb : g x == m with
    | false => rfl
    | true => exact absurd ⟨x, hx, beq_iff_eq.mp hb⟩ h

theorem findMethod_unary {sd : Method.ServiceDesc} {m : Method.Name} {i : Nat}
    (h : Method.findMethod sd m = some (.unary i)) : sd.methods[i]? = some m := by
  unfold Method.findMethod at h
  split at h
  · rename_i j x hu
    cases h
    obtain ⟨hp, _, hg⟩ := findIdx_spec _ _ _ _ _ hu
    rw [beq_iff_eq] at hp
    rw [← hp]; exact hg
  · split at h <;> cases h

theorem findMethod_stream {sd : Method.ServiceDesc} {m : Method.Name} {i : Nat} {cs ss : Bool}
    (h : Method.findMethod sd m = some (.stream i cs ss)) :
    sd.streams[i]? = some (m, cs, ss) ∧ m ∉ sd.methods := by
  unfold Method.findMethod at h
  split at h
  · cases h
  · rename_i hu
    split at h
    · rename_i j nm cs' ss' hst
      cases h
      obtain ⟨hp, _, hg⟩ := findIdx_spec _ _ _ _ _ hst
      rw [beq_iff_eq] at hp
      subst hp
      -- a unary descriptor with this name would have been found first
      have hn := (findIdx_beq_none_iff id nm sd.methods).mp hu
      rw [List.map_id] at hn
      exact ⟨hg, hn⟩
    · cases h

theorem findMethod_none_iff (sd : Method.ServiceDesc) (m : Method.Name) :
    Method.findMethod sd m = none ↔ m ∉ sd.methods ∧ m ∉ sd.streams.map (·.1) := by
  have hm : Method.findIdx (fun n => n == m) sd.methods 0 = none ↔ m ∉ sd.methods := by
    have := findIdx_beq_none_iff id m sd.methods
    rwa [List.map_id] at this
  have hs := findIdx_beq_none_iff (fun e : Method.Name × Bool × Bool => e.1) m sd.streams
  unfold Method.findMethod
  split
  · rename_i hu
    refine ⟨fun h => (nomatch h), fun h => ?_⟩
    rw [hm.mpr h.1] at hu; cases hu
  · rename_i hu
    split
    · rename_i hst
      refine ⟨fun h => (nomatch h), fun h => ?_⟩
      rw [hs.mpr h.2] at hst; cases hst
    · rename_i hst
      exact ⟨fun _ => ⟨hm.mp hu, hs.mp hst⟩, fun _ => rfl⟩

/-- **Dispatch.** If a method name resolves, the service was looked up under
    exactly the part before the first slash (after one optional leading
    slash), and the descriptor chosen is the one whose name is exactly the
    rest — a unary descriptor if one has that name, otherwise a stream
    descriptor with its own streaming flags.  Never another RPC's handler. -/
theorem C08_dispatch (services : List (Method.Name × Method.ServiceDesc)) (n svc : Method.Name) (f : Method.Found)
    (h : Method.resolve services n = .found svc f) :
    ∃ m sd, Method.stripSlash n = svc ++ 47 :: m ∧ 47 ∉ svc ∧ services.lookup svc = some sd ∧
      match f with
      | .unary i => sd.methods[i]? = some m
      | .stream i cs ss => sd.streams[i]? = some (m, cs, ss) ∧ m ∉ sd.methods := by
  unfold Method.resolve Method.splitMethod at h
  split at h
  · cases h
  · rename_i svc' m hs
    split at h
    · cases h
    · rename_i sd hl
      split at h
      · cases h
      · rename_i f' hf
        cases h
        obtain ⟨e, hn⟩ := splitAtSlash_spec _ _ _ hs
        refine ⟨m, sd, e, hn, hl, ?_⟩
        cases f with
        | unary i => exact findMethod_unary hf
        | stream i cs ss => exact findMethod_stream hf

theorem splitAtSlash_append (a b : Method.Name) (ha : 47 ∉ a) :
    Method.splitAtSlash (a ++ 47 :: b) = some (a, b) := by
  induction a with
  | nil => simp [Method.splitAtSlash]
  | cons c cs ih =>
    have hc : c ≠ 47 := fun h => ha (by simp [h])
    have hcs : 47 ∉ cs := fun h => ha (by simp [h])
    simp [Method.splitAtSlash, hc, ih hcs]

theorem splitAtSlash_none_iff (n : Method.Name) : Method.splitAtSlash n = none ↔ 47 ∉ n := by
  induction n with
  | nil => simp [Method.splitAtSlash]
  | cons c cs ih =>
    simp only [Method.splitAtSlash]
    by_cases hc : c = 47
    · simp [hc]
    · simp only [hc, if_false]
      cases hr : Method.splitAtSlash cs with
      | none =>
        have := ih.mp hr
        simp [this]; exact fun h => hc h.symm
      | some p =>
        have : 47 ∈ cs := by
          apply Classical.byContradiction; intro h; rw [ih.mpr h] at hr; cases hr
        simp [this]

theorem resolve_canonical (services : List (Method.Name × Method.ServiceDesc)) (svc m : Method.Name)
    (hsvc : 47 ∉ svc) :
    Method.resolve services (47 :: (svc ++ 47 :: m)) =
      match services.lookup svc with
      | none => .unimplemented
      | some sd =>
        match Method.findMethod sd m with
        | none => .unimplemented
        | some f => .found svc f := by
  unfold Method.resolve Method.splitMethod
  rw [show Method.stripSlash (47 :: (svc ++ 47 :: m)) = svc ++ 47 :: m from rfl, splitAtSlash_append svc m hsvc]
  rfl

theorem resolve_registered {services : List (Method.Name × Method.ServiceDesc)} {svc : Method.Name}
    {sd : Method.ServiceDesc} (m : Method.Name) (hsvc : 47 ∉ svc) (hl : services.lookup svc = some sd) :
    Method.resolve services (47 :: (svc ++ 47 :: m)) =
      match Method.findMethod sd m with
      | none => .unimplemented
      | some f => .found svc f := by
  rw [resolve_canonical services svc m hsvc, hl]

/-- **A name is refused as malformed exactly when, after one optional leading
    slash, it contains no slash** (nothing else is ever `InvalidArgument`, and
    no such name reaches a handler). -/
theorem C08_malformed_iff (services : List (Method.Name × Method.ServiceDesc)) (n : Method.Name) :
    Method.resolve services n = .malformed ↔ 47 ∉ Method.stripSlash n := by
  unfold Method.resolve Method.splitMethod
  rw [← splitAtSlash_none_iff]
  cases hs : Method.splitAtSlash (Method.stripSlash n) with
  | none => simp
  | some p =>
    obtain ⟨svc, m⟩ := p
    simp only [reduceCtorEq, iff_false]
    cases services.lookup svc with
    | none => simp
    | some sd => cases hf : Method.findMethod sd m <;> simp [hf]

/-- **Dispatch is complete**: a method that a registered service declares
    (unary or streaming) is always found under its canonical name
    `/service/method` — never `Unimplemented`, never malformed — and by
    `C08_dispatch` what is found is that very descriptor. -/
theorem C08_registered_found (services : List (Method.Name × Method.ServiceDesc)) (svc m : Method.Name)
    (sd : Method.ServiceDesc) (hsvc : 47 ∉ svc) (hl : services.lookup svc = some sd)
    (hm : m ∈ sd.methods ∨ m ∈ sd.streams.map (·.1)) :
    ∃ f, Method.resolve services (47 :: (svc ++ 47 :: m)) = .found svc f := by
  rw [resolve_registered m hsvc hl]
  cases hf : Method.findMethod sd m with
  | some f => exact ⟨f, rfl⟩
  | none =>
    have := (findMethod_none_iff sd m).mp hf
    rcases hm with hm | hm
    · exact absurd hm this.1
    · exact absurd hm this.2

/-- an unknown service, or a method the service does not declare, is
    `Unimplemented` (for a well-formed name) -/
theorem C08_unknown_unimplemented (services : List (Method.Name × Method.ServiceDesc)) (svc m : Method.Name)
    (hsvc : 47 ∉ svc)
    (h : services.lookup svc = none ∨
         ∃ sd, services.lookup svc = some sd ∧ m ∉ sd.methods ∧ m ∉ sd.streams.map (·.1)) :
    Method.resolve services (47 :: (svc ++ 47 :: m)) = .unimplemented := by
  rcases h with h | ⟨sd, hl, hn1, hn2⟩
  · rw [resolve_canonical services svc m hsvc, h]
  · rw [resolve_registered m hsvc hl, (findMethod_none_iff sd m).mpr ⟨hn1, hn2⟩]

-- non-vacuity: service "s" (115) with unary "a" (97) and stream "b" (98)
example : Method.resolve [([115], ⟨[[97]], [([98], true, false)]⟩)] [47, 115, 47, 98] =
    .found [115] (.stream 0 true false) := by decide
example : Method.resolve [([115], ⟨[[97]], [([98], true, false)]⟩)] [47, 115, 47, 99] = .unimplemented := by decide
example : Method.resolve [([115], ⟨[[97]], []⟩)] [47, 115] = .malformed := by decide

/-- **Client ids are unique and strictly increasing** over every history of
    client stimuli (calls of any RPC, frames from any peer, ticks, closes), as
    long as the 63-bit counter has not been exhausted (`xs.length < 2^63 - 1`;
    after that the code refuses new streams: `IdRules.allocate`). -/
theorem C08_client_ids_increasing (cfg : CCfg) (xs : List (CStim α))
    (hlen : (xs.length : Int) < IdRules.maxInt64) :
    (Proofs.ClientInv.ids (Cli.run cfg (Cli.start cfg) xs).1).Pairwise (· < ·) ∧
    ∀ i ∈ Proofs.ClientInv.ids (Cli.run cfg (Cli.start cfg) xs).1,
      i ≤ (Cli.run cfg (Cli.start cfg) xs).1.lastStreamID :=
  Proofs.ClientInv.C08_client_ids_increasing cfg xs hlen

/-- **Each RPC begins with its new-stream frame**: a successful `newStream`
    takes the next id, its first emitted frame is the `new_stream` frame for
    that id (method, metadata, negotiated revision, advertised window), and
    everything it emits is tagged with that id. -/
theorem C08_client_new_stream_first (cfg : CCfg) (c : Cli α) (cs ss : Bool) (method : List Nat) (md : MD)
    (timeout : Option Nat) (cancelled : Bool) (sid : Sid)
    (h : (c.newStream cfg cs ss method md timeout cancelled).2.2 = some sid)
    (hlt : c.lastStreamID < IdRules.maxInt64) (h0 : 0 ≤ c.lastStreamID) :
    sid = c.lastStreamID + 1 ∧
    (c.newStream cfg cs ss method md timeout cancelled).2.1.frames.head? = some (sid, .newStream method md c.rev cfg.W) ∧
    (∀ f ∈ (c.newStream cfg cs ss method md timeout cancelled).2.1.frames, f.1 = sid) :=
  let r := Proofs.ClientInv.client_newStream_ok cfg c cs ss method md timeout cancelled sid h hlt h0
  ⟨r.1, r.2.1, r.2.2.1⟩

/-- below the limit the next id is the successor: positive and larger than the last -/
theorem C08_allocate_succ (l : Int) (h0 : 0 ≤ l) (hlt : l < IdRules.maxInt64) :
    IdRules.allocate l = some (l + 1) := by
  unfold IdRules.allocate IdRules.wrap64
  unfold IdRules.maxInt64 at *
  have h1 : ¬ l < 0 := by omega
  have h2 : ¬ l + 1 > 9223372036854775807 := by omega
  simp [h1, h2]

/-- once the counter is negative every further RPC is refused
    ("all stream IDs exhausted"): no id is ever handed out twice by wrapping on -/
theorem C08_allocate_exhausted (l : Int) (h : l < 0) : IdRules.allocate l = none := by
  simp [IdRules.allocate, h]

/-- the boundary as the code has it, stated and not hidden: the `2^63`-th RPC of
    one channel takes the wrapped id `-2^63` before the refusal sets in (the
    hypothesis `xs.length < 2^63 - 1` of `C08_client_ids_increasing` excludes
    exactly this point; it is distinct from every id used before, so ids are
    still never reused) -/
theorem C08_allocate_at_limit :
    IdRules.allocate IdRules.maxInt64 = some (-9223372036854775808) ∧
    IdRules.allocate (-9223372036854775808) = none := by decide

open TunnelModel.IdAlloc in
/-- **However many goroutines start RPCs concurrently, and however their steps
    interleave, the ids reach the wire in strictly increasing order** (hence
    distinct): `streamCreation` is held from before the id is taken until the
    `new_stream` frame has been handed to the carrier.  `n` goroutines, any
    schedule of lock / allocate (possibly failing after the increment) / send /
    unlock actions of any length. -/
theorem C08_concurrent_ids_increasing (n : Nat) (as : List Act) {s : St}
    (hr : run true (init n) as = some s) : s.wire.Pairwise (· < ·) ∧ s.wire.Nodup :=
  have I := Proofs.IdAlloc.inv_reachable n as hr
  ⟨I.incr, I.incr.imp Nat.ne_of_lt⟩

open TunnelModel.IdAlloc in
/-- an id that has been allocated but not yet sent is larger than everything on the wire -/
theorem C08_allocated_is_fresh (n : Nat) (as : List Act) {s : St} (hr : run true (init n) as = some s)
    {g id : Nat} (hg : s.pcs[g]? = some (Pc.allocated id)) : ∀ x ∈ s.wire, x < id :=
  ((Proofs.IdAlloc.inv_reachable n as hr).alloc g id hg).2

open TunnelModel.IdAlloc in
/-- **The lock is what makes it so**: with `streamCreation` not spanning
    allocation and send, two goroutines emit their frames out of order. -/
theorem C08_unguarded_out_of_order :
    (run false (init 2) [.lock 0, .alloc 0 true, .lock 1, .alloc 1 true, .send 1, .send 0]).map (·.wire) = some [2, 1] :=
  Proofs.IdAlloc.faulty_not_increasing

/-- **Code-level premise of the model** (regenerated from the sources on every
    run): in `newStream` the carrier `Send` of the `new_stream` frame is made
    holding `streamCreation`, and the only write of `lastStreamID` is made
    holding both `streamCreation` and `mu`; both rows exist. -/
theorem C08_allocation_and_send_under_streamCreation :
    Proofs.C15.idOrderViolations TunnelModel.Generated.accessTable = [] ∧
    (Proofs.C15.newStreamSends TunnelModel.Generated.accessTable).length = 1 ∧
    (Proofs.C15.idWrites TunnelModel.Generated.accessTable).length = 1 := by
  unfold Proofs.C15.idOrderViolations
  rw [Proofs.C15.newStreamSends_eq_key, Proofs.C15.idWrites_eq_key]; decide +kernel

-- non-vacuity: "/v.S/BD" dispatches to the stream descriptor named "BD", "v.S/U" to the unary one
example :
    Method.resolve [([118,46,83], { methods := [[85]], streams := [([66,68], true, true)] })] [47,118,46,83,47,66,68]
      = .found [118,46,83] (.stream 0 true true) := by decide

end Proofs.C08
