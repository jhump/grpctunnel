import Proofs.Lemmas.ProjectionS
import Proofs.Lemmas.ProjectionC
/-!
  C03, projection (lifting) theorems: **every RPC on a tunnel evolves exactly
  as if it were alone.**  The state of an RPC's stream object in any reachable
  endpoint state, with any number of other RPCs interleaved, is the result of
  running, on the fresh stream object its creation installed, the stream-level
  events the run addressed to THAT RPC (its frames while it is in the table,
  its handler / caller calls, and the end of its context where a tick or the
  end of the tunnel cancels it); and the frames and call completions the
  endpoint emits for it are those of that stream-level run: exactly on the
  server, and on the client as long as the channel is up (a finished channel
  drops the frames and fails the sends that would have emitted them:
  `Proofs.ProjectionC.proj_outputs_partial`).

  This makes the stream-level theorems of the other properties (C01, C07, C13,
  C16: all stated for `SStream.runEv` / `CStream.runEv` over ALL event lists)
  theorems about tunnels; `C03_lifted_*` are two worked instances.
-/
namespace Proofs.C03
open TunnelModel.LFrame TunnelModel

variable {α : Type}

/-- **Server projection.**  A stream object in a reachable server state is the stream-level run, from the object
    its `new_stream` frame installed, on the events addressed to it; its frames and completions are that run's. -/
theorem C03_projection_server (cfg : SCfg) (xs : List (SStim α)) (sid : Sid) (st : SStream α)
    (h : (sid, st) ∈ (Srv.run cfg ({} : Srv α) xs).1.streams) :
    ∃ pre m md rev win post st0,
      xs = pre ++ .frame sid (.newStream m md rev win) :: post ∧
      sid ∉ Proofs.Server.ids (Srv.run cfg ({} : Srv α) pre).1 ∧
      (sid, st0) ∈ (Srv.run cfg ({} : Srv α) (pre ++ [.frame sid (.newStream m md rev win)])).1.streams ∧
      (let s1 := (Srv.run cfg ({} : Srv α) (pre ++ [.frame sid (.newStream m md rev win)])).1
       let r := SStream.runEv cfg sid st0 (Proofs.ProjectionS.evsOf cfg sid s1 post)
       st = r.1 ∧
       Proofs.ProjectionS.framesFor sid (Srv.run cfg s1 post).2 = Proofs.ProjectionS.outFrames r.2 ∧
       Proofs.ProjectionS.donesFor sid (Srv.run cfg s1 post).2 = Proofs.ProjectionS.outDones r.2) := by
  obtain ⟨pre, m, md, rev, win, post, st0, e, p1, p2, p3, p4, p5, _⟩ := Proofs.ProjectionS.projection cfg xs sid st h
  exact ⟨pre, m, md, rev, win, post, st0, e, p1, p2, p3, p4, p5⟩

/-- the extracted event list contains exactly the handler calls the run
    addressed to the RPC, in order, and exactly the frames addressed to it while
    it was alive (that it holds at most one context end is
    `Proofs.ProjectionS.proj_ctx_at_most_once`) -/
theorem C03_projection_server_events (cfg : SCfg) (sid : Sid) (xs : List (SStim α)) (s : Srv α) :
    (Proofs.ProjectionS.evsOf cfg sid s xs).filterMap Proofs.ProjectionS.callOf =
      xs.filterMap (Proofs.ProjectionS.callTo sid) ∧
    (Proofs.ProjectionS.evsOf cfg sid s xs).filterMap Proofs.ProjectionS.frameOf =
      Proofs.ProjectionS.liveFrames cfg sid s xs :=
  ⟨Proofs.ProjectionS.proj_calls cfg sid xs s, Proofs.ProjectionS.proj_frames cfg sid xs s⟩

/-- **Client projection.**  A stream object in a reachable client state is the stream-level run, from the object
    its creating stimulus installed (`Creates`), on the events the rest of the run addressed to it. -/
theorem C03_projection_client (cfg : CCfg) (xs : List (CStim α)) (sid : Sid) (st : CStream α)
    (h : (sid, st) ∈ (Cli.run cfg (Cli.start cfg) xs).1.streams) :
    ∃ pre x post st0, xs = pre ++ x :: post ∧
      Proofs.ProjectionC.Creates cfg (Cli.run cfg (Cli.start cfg) pre).1 x sid st0 ∧
      st = (CStream.runEv cfg sid st0
              (Proofs.ProjectionC.evsOf cfg sid ((Cli.run cfg (Cli.start cfg) pre).1.step cfg x).1 post)).1 :=
  Proofs.ProjectionC.proj_state cfg xs sid st h

/-- … with exactly the stream-level outputs while the channel is up (once the
    channel has finished the endpoint emits no frame at all:
    `Proofs.ProjectionC.finished_no_frames`) -/
theorem C03_projection_client_outputs (cfg : CCfg) (pre : List (CStim α)) (x : CStim α) (post : List (CStim α))
    (sid : Sid) (st0 : CStream α) (hc : Proofs.ProjectionC.Creates cfg (Cli.run cfg (Cli.start cfg) pre).1 x sid st0)
    (hlive : (Cli.run cfg (Cli.start cfg) (pre ++ x :: post)).1.finished = none) :
    let c1 := ((Cli.run cfg (Cli.start cfg) pre).1.step cfg x).1
    let outs := (Cli.run cfg (Cli.start cfg) (pre ++ x :: post)).2.drop (pre.length + 1)
    let souts := (CStream.runEv cfg sid st0 (Proofs.ProjectionC.evsOf cfg sid c1 post)).2
    Proofs.ProjectionC.framesFor sid outs = Proofs.ProjectionC.framesFor sid souts ∧
    Proofs.ProjectionC.donesFor sid outs = Proofs.ProjectionC.donesFor sid souts :=
  Proofs.ProjectionC.proj_outputs_live cfg pre x post sid st0 hc hlive

/-- the extracted events are exactly the caller's calls on the RPC and the frames the endpoint routed to it -/
theorem C03_projection_client_events (cfg : CCfg) (sid : Sid) (xs : List (CStim α)) (c : Cli α) :
    (Proofs.ProjectionC.evsOf cfg sid c xs).filterMap Proofs.ProjectionC.callOf = Proofs.ProjectionC.callsTo sid xs ∧
    (Proofs.ProjectionC.evsOf cfg sid c xs).filterMap Proofs.ProjectionC.frameOf = Proofs.ProjectionC.routedTo cfg sid c xs :=
  Proofs.ProjectionC.proj_calls_frames cfg sid xs c

open Proofs.Conformance in
/-- stream-level wire conformance (C13) holds for every RPC of every tunnel
    run, whatever the other RPCs do: at most one close frame, and every
    response data frame is preceded by the headers frame -/
theorem C03_lifted_server_conformance (cfg : SCfg) (xs : List (SStim α)) (sid : Sid) (st : SStream α)
    (h : (sid, st) ∈ (Srv.run cfg ({} : Srv α) xs).1.streams) :
    ∃ pre m md rev win post, xs = pre ++ .frame sid (.newStream m md rev win) :: post ∧
      sid ∉ Proofs.Server.ids (Srv.run cfg ({} : Srv α) pre).1 ∧
      (let fs := (Proofs.ProjectionS.framesFor sid ((Srv.run cfg ({} : Srv α) xs).2.drop pre.length)).map (·.2)
       (fs.filter S.isClose).length ≤ 1 ∧
       ∀ a f b, fs = a ++ f :: b → S.isData f = true → ∃ hd ∈ a, S.isHeaders hd = true) :=
  Proofs.ProjectionS.endpoint_conformance cfg xs sid st h

open Proofs.Conformance in
/-- … and on the client: at most one half-close and at most one cancel frame per RPC, in every channel run -/
theorem C03_lifted_client_conformance (cfg : CCfg) (xs : List (CStim α)) (sid : Sid) :
    (((Proofs.ProjectionC.framesFor sid (Cli.run cfg (Cli.start cfg) xs).2).map (·.2)).filter C.isHalfClose).length ≤ 1 ∧
    (((Proofs.ProjectionC.framesFor sid (Cli.run cfg (Cli.start cfg) xs).2).map (·.2)).filter C.isCancel).length ≤ 1 :=
  ⟨Proofs.ProjectionC.C1_endpoint_at_most_one_halfClose cfg xs sid,
   Proofs.ProjectionC.C1_endpoint_at_most_one_cancel cfg xs sid⟩

end Proofs.C03
