import Proofs.Lemmas.Teardown
/-!
  C04 — when a tunnel ends, every RPC on it ends and nothing hangs.

  Client: `Cli.close` stands for every way the channel ends (explicit `Close`,
  carrier error, carrier EOF, cancellation of the channel context); the
  theorems hold from ANY reachable state.  Server: `serveReturns` stands for
  the return of `serve` (protocol error, carrier error, EOF).

  Outside the model (runtime): that the goroutines so released are actually
  scheduled and exit — witnessed per run by the harness' goroutine census and
  the lifecycle world (`TestW2Lifecycle`), where the open finding D10 (revision
  zero: `Stop` hangs behind a handler that does not read) lives.
-/
namespace Proofs.C04
open TunnelModel.LFrame TunnelModel Proofs.Teardown

variable {α : Type}

/-- **Client: closing the channel ends every RPC and releases every blocked
    call, none with success.** -/
theorem C04_client_close (cfg : CCfg) (xs : List (CStim α)) (err : Option String) (b : Bool) :
    let c := (Cli.run cfg (Cli.start cfg : Cli α) xs).1
    c.finished = none →
    (c.close err b).1.finished = some err ∧
    (∀ e ∈ (c.close err b).1.streams,
      e.2.done.isSome = true ∧ e.2.ctxDone.isSome = true ∧ e.2.pread = none ∧ e.2.psend = none ∧
      e.2.pheader = false ∧ e.2.inTable = false) ∧
    (c.close err b).1.table = [] ∧
    (∀ d ∈ (c.close err b).2.dones,
      d.2 = ("send", Res.ctx .canceled) ∨ d.2 = ("recv", Res.status codeCanceled) ∨ d.2.1 = "header") ∧
    (∀ d ∈ (c.close err b).2.dones, d.2.1 = "recv" ∨ d.2.1 = "send" → NonOK d.2.2) :=
  C04_client_close_run cfg xs err b

/-- **… and nothing ever blocks on it again**: in every reachable state of an
    ended channel every stream is settled. -/
theorem C04_client_finished_never_blocks (cfg : CCfg) (xs : List (CStim α)) :
    let c := (Cli.run cfg (Cli.start cfg : Cli α) xs).1
    c.finished.isSome = true →
    ∀ e ∈ c.streams,
      e.2.done.isSome = true ∧ e.2.ctxDone.isSome = true ∧ e.2.pread = none ∧ e.2.psend = none ∧
      e.2.pheader = false ∧ e.2.inTable = false :=
  Proofs.Teardown.C04_client_finished_never_blocks cfg xs

/-- from a state with `finished = some e`, every run of stimuli leaves `finished = some e`: nothing
    un-finishes a channel or changes the error it ended with -/
theorem C04_client_end_is_permanent (cfg : CCfg) (xs : List (CStim α)) (c : Cli α)
    (h : c.finished.isSome = true) : (Cli.run cfg c xs).1.finished = c.finished :=
  run_keeps_finished cfg xs c h

/-- **Server: when `serve` returns nothing stays blocked.** -/
theorem C04_server_nothing_blocked (cfg : SCfg) (xs : List (SStim α)) (err : Option String) :
    let s := (Srv.run cfg ({} : Srv α) xs).1
    (s.serveReturns err).1.returned = some err ∧
    ∀ e ∈ (s.serveReturns err).1.streams, e.2.ctxDone.isSome = true ∧ e.2.pread = none ∧ e.2.psend = none :=
  C04_server_nothing_blocked_after_return _ err (srvNB_run cfg xs {} (Proofs.ServerBound.allS_init _))

/-- **… in every later state too** (handlers may go on calling into their streams). -/
theorem C04_server_returned_never_blocks (cfg : SCfg) (xs : List (SStim α)) :
    let s := (Srv.run cfg ({} : Srv α) xs).1
    s.returned.isSome = true →
    ∀ e ∈ s.streams, e.2.ctxDone.isSome = true ∧ e.2.pread = none ∧ e.2.psend = none :=
  Proofs.Teardown.C04_server_returned_never_blocks cfg xs

/-- from a state with `returned = some e`, every run of stimuli leaves `returned = some e`: `serve` does not
    resume and its result does not change -/
theorem C04_server_end_is_permanent (cfg : SCfg) (xs : List (SStim α)) (s : Srv α)
    (h : s.returned.isSome = true) : (Srv.run cfg s xs).1.returned = s.returned :=
  run_keeps_returned cfg xs s h

/-- **New RPCs on an ended channel fail at once** (nothing is sent, nothing is created). -/
theorem C04_client_new_rpc_fails (cfg : CCfg) (c : Cli α) (cs ss : Bool) (m : List Nat) (md : MD)
    (t : Option Nat) (cn : Bool) (h : c.finished.isSome = true) :
    c.newStream cfg cs ss m md t cn = (c, { dones := [(0, "new", .other "channel is closed")] }, none) :=
  newStream_after_close cfg c cs ss m md t cn h

/-- **An ended endpoint ignores whatever still arrives.** -/
theorem C04_ended_ignores_frames (ccfg : CCfg) (scfg : SCfg) (c : Cli α) (s : Srv α) (sid : Sid)
    (f : S2C α) (g : C2S α) :
    (c.finished.isSome = true → c.onFrame ccfg sid f = (c, {})) ∧
    (s.returned.isSome = true → s.onFrame scfg sid g = (s, {})) :=
  ⟨finished_ignores_frames ccfg c sid f, returned_ignores_frames scfg s sid g⟩

end Proofs.C04
