import Proofs.Props.C08
import Proofs.Props.C06
import Proofs.Lemmas.ServerBound
import Proofs.Lemmas.ServerShape
import Proofs.Lemmas.ClientInv
/-!
  C09 — no peer input can crash, wedge or bloat an endpoint (server endpoint
  first; the client endpoint's theorems are the `C09_client_*` at the end).

  The endpoint model is a total function of *every* frame a peer can send
  (all fields arbitrary: unset oneof, empty method, any id, any size, any
  window update) in *every* state, so each theorem below quantifies over all
  states and frames.  Go panics are not expressible in the model; that the code
  has none on these paths is what the correspondence harness (which recovers
  panics in the receive loop and reports them) checks on hostile conversations.
-/
namespace Proofs.C09
open TunnelModel TunnelModel.LFrame TunnelModel.Framing Proofs.Server Proofs.ServerOps

variable {α : Type}

/-- every tunnel-level outcome of a frame is one of the three documented ones -/
theorem C09_tunnel_errors_are_id_violations (cfg : SCfg) (s : Srv α) (sid : Sid) (f : C2S α)
    (hret : s.returned = none) (e : Option String) (h : (s.onFrame cfg sid f).1.returned = some e) :
    e = some "already_exists" ∨ e = some "already_used" ∨ e = some "never_created" := by
  -- the state after the frame has `returned = s.returned`, except where an id violation ends the tunnel
  have keep : ∀ {s' : Srv α}, s'.returned = s.returned → s'.returned = some e →
      e = some "already_exists" ∨ e = some "already_used" ∨ e = some "never_created" :=
    fun h1 h2 => by rw [h1, hret] at h2; cases h2
  revert h
  refine Srv.onFrame_elim (motive := fun r => r.1.returned = some e → _) cfg s sid f (keep rfl)
    (fun tag htag h => ?_) (fun _ _ _ => keep rfl) (fun st _ _ _ _ _ _ _ => ?_) (fun _ _ => keep rfl)
  · rw [serveReturns_eq] at h
    cases h
    rcases htag with rfl | rfl | rfl
    · exact Or.inl rfl
    · exact Or.inr (Or.inl rfl)
    · exact Or.inr (Or.inr rfl)
  · split <;> exact keep rfl

/-- a stream-level step never touches another stream's object or the
    tunnel-level state -/
theorem C09_stream_frame_local (cfg : SCfg) (s : Srv α) (sid : Sid) (f : C2S α) (st : SStream α)
    (hret : s.returned = none) (hnew : ∀ m md rev win, f ≠ .newStream m md rev win)
    (hst : s.getStream sid = some st) :
    (s.onFrame cfg sid f).1.returned = none ∧ (s.onFrame cfg sid f).1.lastSeen = s.lastSeen ∧
    (s.onFrame cfg sid f).1.closing = s.closing ∧
    (∀ e ∈ s.streams, e.1 ≠ sid → e ∈ (s.onFrame cfg sid f).1.streams) := by
  rw [Srv.onFrame_other cfg s sid hnew, hret, hst]
  exact ⟨hret, rfl, rfl, fun e he hne => mem_setAny.mpr (Or.inl ⟨he, hne⟩)⟩

theorem dataFrame_overrun (sid : Sid) (s : SStream α) (df : DFrame α)
    (hfc : s.fc = true) (hc : s.rcv.closed = false) (hbig : df.size > s.rcv.rwin) :
    dataFrame sid s df = s.finish sid (some errFlowControl) true := by
  unfold dataFrame RcvQ.accept
  rw [if_pos hfc, if_neg (by rw [hc]; exact Bool.false_ne_true), if_pos hbig]

/-- **Window overrun.** A data frame larger than the stream's remaining window
    is never queued; the stream is finished with ResourceExhausted. -/
theorem C09_overrun_fails_stream (cfg : SCfg) (sid : Sid) (s : SStream α) (size : Nat) (d : List α)
    (hfc : s.fc = true) (hc : s.rcv.closed = false) (hbig : d.length > s.rcv.rwin) :
    s.onFrame cfg sid (.msg size d) = s.finish sid (some errFlowControl) true :=
  dataFrame_overrun sid s (.env size d) hfc hc hbig

theorem C09_overrun_fails_stream_more (cfg : SCfg) (sid : Sid) (s : SStream α) (d : List α)
    (hfc : s.fc = true) (hc : s.rcv.closed = false) (hbig : d.length > s.rcv.rwin) :
    s.onFrame cfg sid (.more d) = s.finish sid (some errFlowControl) true :=
  dataFrame_overrun sid s (.more d) hfc hc hbig

/-- what `finishStream` puts on the wire: for a stream that has not been closed
    yet, exactly one close frame with the status of the error (preceded by the
    headers frame if none was sent), and the stream leaves the table -/
theorem C09_finish_emits_close (sid : Sid) (s : SStream α) (err : Option SErr) (hcl : s.closed = false) :
    let r := s.finishCore sid err
    r.1.inTable = false ∧ r.1.closed = true ∧
    r.2.frames = (if s.sentHeaders then [] else [(sid, .headers s.headers)]) ++
                 [(sid, .close (SErr.wireStatus err) s.trailers)] := by
  intro r
  refine ⟨?_, ?_, ?_⟩
  · show (s.finishCore sid err).1.inTable = false
    rw [finishCore_fst]
  · show (s.finishCore sid err).1.closed = true
    rw [finishCore_fst]
  · show (s.finishCore sid err).2.frames = _
    rw [finishCore_snd, hcl]; rfl

/-- an unset frame (unknown oneof) fails the stream with a protocol error -/
theorem C09_unset_fails_stream (cfg : SCfg) (sid : Sid) (s : SStream α) :
    s.onFrame cfg sid .unset = s.finish sid (some (.plain "protocol error: unrecognized frame type")) true :=
  rfl

/-- absurd window updates cannot overflow the sender's window beyond uint32 -/
theorem C09_window_update_wraps (n w : Nat) : wrap32 (w + n) < 4294967296 := by
  unfold wrap32; omega

/-- a zero window update is ignored -/
theorem C09_zero_window_update (cfg : SCfg) (sid : Sid) (s : SStream α) :
    s.onFrame cfg sid (.windowUpdate 0) = (s, {}) := by
  rw [onFrame_windowUpdate, if_pos (show (!s.fc || decide (0 = 0)) = true from Bool.or_true _)]

/-- **Release.** When `serve` returns (tunnel-level error, carrier error or
    EOF) every stream context is cancelled. -/
theorem C09_released (s : Srv α) (err : Option String) :
    ∀ e ∈ (s.serveReturns err).1.streams, e.2.ctxDone.isSome = true :=
  Proofs.ServerShape.serveReturns_released s err

/-- **Bounded buffering.** For every history of stimuli of the server endpoint
    (arbitrary frames from any peer, handler calls, ticks, flag changes, carrier
    ends) every flow-controlled stream buffers at most its advertised window. -/
theorem C09_bounded (cfg : SCfg) (xs : List (SStim α)) :
    ∀ e ∈ (Srv.run cfg ({} : Srv α) xs).1.streams, e.2.fc = true →
      Proofs.ServerBound.queuedBytes e.2 ≤ cfg.W :=
  Proofs.ServerBound.C09_bounded cfg xs

/-- **The receive loop never wedges under flow control.** For every history, no
    flow-controlled stream ever puts the receive loop into the blocking hand-off
    that revision zero has (`unsupported` marks exactly that state). -/
theorem C09_loop_never_blocks_fc (cfg : SCfg) (xs : List (SStim α)) :
    ∀ e ∈ (Srv.run cfg ({} : Srv α) xs).1.streams, e.2.fc = true → e.2.unsupported = false :=
  Proofs.ServerBound.fc_never_unsupported cfg xs

/-- **Bounded buffering, client endpoint**, for every stimulus history
    (arbitrary frames from any raw server included). -/
theorem C09_client_bounded (cfg : CCfg) (xs : List (CStim α)) :
    ∀ e ∈ (Cli.run cfg (Cli.start cfg) xs).1.streams, e.2.fc = true →
      Proofs.ClientInv.queuedBytes e.2 ≤ cfg.W :=
  Proofs.ClientInv.C09_client_bounded cfg xs

/-- **The client receive loop never wedges under flow control.** -/
theorem C09_client_loop_never_blocks_fc (cfg : CCfg) (xs : List (CStim α)) :
    ∀ e ∈ (Cli.run cfg (Cli.start cfg) xs).1.streams, e.2.fc = true → e.2.unsupported = false :=
  Proofs.ClientInv.client_fc_never_unsupported cfg xs

/-- **Frames for finished RPCs are discarded by the client without effect.** -/
theorem C09_client_late_frame_ignored (cfg : CCfg) (c : Cli α) (sid : Sid) (f : S2C α)
    (hfin : c.finished = none) (hph : c.phase = .running) (hnt : c.getStream sid = none)
    (hc : c.streamCreated = true) (hle : sid ≤ c.lastStreamID) : c.onFrame cfg sid f = (c, {}) :=
  Proofs.ClientInv.client_late_frame_ignored cfg c sid f hfin hph hnt hc hle

-- non-vacuity: an empty method name is answered by a stream-level refusal, not a crash
example :
    ((({} : Srv Nat).onFrame {} 0 (.newStream [] [] 1 65536)).2.frames.map (·.1)) = [0] ∧
    (({} : Srv Nat).onFrame {} 0 (.newStream [] [] 1 65536)).1.returned = none := by decide

end Proofs.C09
