import Proofs.Lemmas.Teardown
import Proofs.Lemmas.Census
import Proofs.Lemmas.Registry
import Proofs.Props.C12
import Proofs.Lemmas.RegAtomic
/-!
  C14 — finished RPCs and finished tunnels leave nothing behind.

  The table theorems are for every reachable state of the endpoint models, i.e.
  after every history of frames from any peer, handler / caller operations,
  context ends, ticks and carrier failures.

  Goroutines: the library starts, per RPC, one handler goroutine and one
  context watcher on the server, one context watcher on the client (plus
  short-lived goroutines that only perform one carrier `Send`).  In the model
  a watcher lives while `ctxDone = none` and the handler goroutine while
  `hstatus ≠ returned`.  The correspondence ties it to the code: the harness
  counts, at every quiescent moment of every scenario, the goroutines *created
  by* functions of the library (`runtime.Stack`) and the stream tables
  (`Verif*State`), and the differ compares both with the model's census and
  tables (`G=` and `T=` fields of every observation line).
-/
namespace Proofs.C14
open TunnelModel.LFrame TunnelModel Proofs.Teardown

variable {α : Type}

/-- **Server table = RPCs in flight.** -/
theorem C14_server_table_exact (cfg : SCfg) (xs : List (SStim α)) :
    let s := (Srv.run cfg ({} : Srv α) xs).1
    ∀ sid, sid ∈ s.table ↔ ∃ st, (sid, st) ∈ s.streams ∧ st.closed = false :=
  Proofs.Teardown.C14_server_table_exact cfg xs

/-- **A finished server stream stays out of the table**, whatever happens to it afterwards. -/
theorem C14_server_finished_stays_out (cfg : SCfg) (sid : Sid) (s : SStream α)
    (ops : List (Proofs.ServerShape.SOp α)) :
    (s.closed = true → (Proofs.ServerShape.runOps cfg sid s ops).1.closed = true) ∧
    (s.inTable = false → (Proofs.ServerShape.runOps cfg sid s ops).1.inTable = false) :=
  server_finished_stays_out cfg sid s ops

/-- every way of finishing a server stream removes it from the table -/
theorem C14_server_finish_leaves_table (sid : Sid) (s : SStream α) (err : Option SErr) (b : Bool) :
    (s.finish sid err b).1.closed = true ∧ (s.finish sid err b).1.inTable = false :=
  server_finish_leaves_table sid s err b

/-- **Client table = RPCs without terminal result.** -/
theorem C14_client_table_exact (cfg : CCfg) (xs : List (CStim α)) :
    let c := (Cli.run cfg (Cli.start cfg : Cli α) xs).1
    ∀ sid, sid ∈ c.table ↔ ∃ st, (sid, st) ∈ c.streams ∧ st.done = none :=
  Proofs.Teardown.C14_client_table_exact cfg xs

/-- **After the channel ends the client table is empty**, and stays empty. -/
theorem C14_client_close_empties_table (cfg : CCfg) (xs : List (CStim α)) (err : Option String) (b : Bool) :
    let c := (Cli.run cfg (Cli.start cfg : Cli α) xs).1
    (c.close err b).1.table = [] ∧ (c.finished.isSome = true → c.table = []) :=
  client_close_empties_table_run cfg xs err b

/-- **The reverse-tunnel registry holds exactly the open tunnels**: after every
    legal sequence of opens, closes and picks the registry's global pool and
    per-key pools list the tunnels opened and not yet closed (`RInv`), and
    `AllReverseTunnels` returns exactly those. -/
theorem C14_registry_exact (ops : List Proofs.Registry.ROp) (hl : Proofs.Registry.legal ops) :
    Proofs.Registry.RInv (Proofs.Registry.runReg ops) (Proofs.Registry.runSpec ops) ∧
    (Proofs.Registry.runReg ops).all = (Proofs.Registry.runSpec ops).map (·.1) :=
  ⟨Proofs.C12.C12_exact ops hl, (Proofs.C12.C12_exact ops hl).all_eq⟩

/-- the two invariants behind the server census, in the reachable states -/
theorem srvCD (cfg : SCfg) (xs : List (SStim α)) : Proofs.ServerBound.AllS Proofs.Census.CD (Srv.run cfg ({} : Srv α) xs).1 :=
  Proofs.Census.closed_ctxDone_run cfg xs {} (Proofs.ServerBound.allS_init _)

theorem srvRC (cfg : SCfg) (xs : List (SStim α)) : Proofs.ServerBound.AllS Proofs.Census.RC (Srv.run cfg ({} : Srv α) xs).1 :=
  Proofs.Census.returned_closed_run cfg xs {} (Proofs.ServerBound.allS_init _)

/-- **Server: a finished RPC holds no goroutine.** In every reachable state a
    stream that is finished has had its context ended (its watcher has exited),
    and a stream whose handler returned is finished: once the handler has
    returned nothing runs on the RPC's behalf. -/
theorem C14_server_no_goroutine_left (cfg : SCfg) (xs : List (SStim α)) :
    let s := (Srv.run cfg ({} : Srv α) xs).1
    (∀ e ∈ s.streams, e.2.closed = true → e.2.ctxDone.isSome = true) ∧
    (∀ e ∈ s.streams, e.2.hstatus = .returned →
      e.2.closed = true ∧ e.2.ctxDone.isSome = true ∧ sGoroutines e.2 = 0) :=
  ⟨srvCD cfg xs, (Proofs.Census.server_quiescent_census (srvCD cfg xs) (srvRC cfg xs)).2.2⟩

/-- **Server census**: at every quiescent moment the goroutines held for RPCs
    are exactly one per handler that has not returned plus one per stream
    context that has not ended — and an open context belongs to an unfinished RPC. -/
theorem C14_server_census (cfg : SCfg) (xs : List (SStim α)) :
    let s := (Srv.run cfg ({} : Srv α) xs).1
    srvCensus s = (s.streams.filter (fun e => e.2.hstatus != .returned)).length +
                  (s.streams.filter (fun e => e.2.ctxDone.isNone)).length ∧
    (∀ e ∈ s.streams, e.2.ctxDone = none → e.2.closed = false) :=
  ⟨(Proofs.Census.server_quiescent_census (srvCD cfg xs) (srvRC cfg xs)).1,
   (Proofs.Census.server_quiescent_census (srvCD cfg xs) (srvRC cfg xs)).2.1⟩

/-- **Server: after the tunnel ended only running handlers remain** (none of
    them blocked in the library, `C04_server_returned_never_blocks`), and when
    they have returned nothing remains. -/
theorem C14_server_after_tunnel_end (cfg : SCfg) (xs : List (SStim α)) :
    let s := (Srv.run cfg ({} : Srv α) xs).1
    (s.returned.isSome = true →
      srvCensus s = (s.streams.filter (fun e => e.2.hstatus != .returned)).length) ∧
    (srvCensus s = 0 ↔ ∀ e ∈ s.streams, e.2.hstatus = .returned) :=
  ⟨Proofs.Census.server_census_after_return (ServerOps.run_keeps (retDone_step cfg) xs {} (fun h => by cases h)),
   Proofs.Census.server_census_zero_iff (srvCD cfg xs) (srvRC cfg xs)⟩

/-- **Client: an RPC with its terminal result holds no goroutine.** -/
theorem C14_client_no_goroutine_left (cfg : CCfg) (xs : List (CStim α)) :
    ∀ e ∈ (Cli.run cfg (Cli.start cfg : Cli α) xs).1.streams,
      e.2.done.isSome = true → cGoroutines e.2 = 0 :=
  Proofs.Census.client_no_goroutine_left (reachable cfg xs).wf

/-- **Client: after the channel ended no goroutine is left** (receive loop and
    every watcher have exited). -/
theorem C14_client_after_tunnel_end (cfg : CCfg) (xs : List (CStim α)) :
    let c := (Cli.run cfg (Cli.start cfg : Cli α) xs).1
    c.finished.isSome = true → cliCensus c = 0 :=
  Proofs.Census.client_census_after_close (reachable cfg xs)

open TunnelModel.RegAtomic Proofs.RegAtomic in
/-- **Nothing is left in the registry**: whatever the interleaving of the
    registration steps, the closes (at any moment, even before registration) and
    the `unregister` callbacks, once every tunnel is closed and every goroutine
    has finished, the global pool and every per-key pool are empty. -/
theorem C14_registry_nothing_left_behind (keys : List Nat) (as : List Act) {s : St}
    (hr : run true false (init keys) as = some s) (hover : allOver s = true) :
    s.global = [] ∧ (∀ l ∈ s.pools, l = []) ∧ ∀ k, keyPool s k = [] :=
  (inv_reachable keys as hr).nothing_left_behind hover

open TunnelModel.RegAtomic Proofs.RegAtomic in
/-- **Why there are two independent deferred removes** (the seeded change
    C14-unregister-instead-of-two-removes): with one deferred `unregister`
    instead, a tunnel closed between the two registration steps stays in its
    key's pool for good. -/
theorem C14_single_unregister_leaves_entry :
    ∃ s, run true true (init [7]) (closedInBetween [.sRemGlobal 0]) = some s ∧ allOver s = true ∧
      ¬ (∀ l ∈ s.pools, l = []) :=
  faulty_single_unregister_not_empty

end Proofs.C14
